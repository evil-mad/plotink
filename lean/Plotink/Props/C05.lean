import Plotink.Proofs.C05Frame
import Plotink.Proofs.C05Script
import Plotink.Proofs.C05Conf
import Plotink.Proofs.C05FailRep
import Plotink.Model.Ebb3Params
import Plotink.Proofs.Ebb3GenLift

/-! # C05 — EBB3 command/query framing and fault handling

Same model as C04 (`Plotink/Model/Ebb3.lean`).  The port is a `Script`: `w.dev.reads` are the
outcomes of the successive `readline` calls (raw ASCII line, `[]` = timeout, or `raise`),
`w.dev.writes` those of the successive `write` calls; exhausted lists mean silence / ok.
`Spec.firstReply`, `Spec.readsUsed`, `Spec.accepted`, `Spec.commandError`, `Spec.queryError`,
`Spec.queryValue` are the specification (list combinators over the outcome lists); the theorems
say that the statement-by-statement model of `command` / `query` computes them.
`name` is always the name the code extracts: `cmdName (strip req) = .ok name`. -/

namespace Plotink
open Ebb3 Ebb3.Spec

/-- **Name extraction**, all strings: one letter; one letter followed by a comma; otherwise the
first two characters; the empty string raises `IndexError`. -/
theorem C05_name (c d : Char) (rest : Str) :
    cmdName [c] = .ok [c] ∧
    cmdName (c :: ',' :: rest) = .ok [c] ∧
    (d ≠ ',' → cmdName (c :: d :: rest) = .ok [c, d]) ∧
    cmdName [] = .error .indexError ∧
    (∀ t : Str, t ≠ [] → ∃ name, cmdName t = .ok name ∧ name ≠ []) := by
  refine ⟨rfl, by simp [cmdName], fun h => by simp [cmdName, h], rfl, fun t ht => cmdName_ok_of_ne ht⟩

/-- **The window.** Meaning of `readsUsed` / `firstReply` for `n = 1 + retry` reads: either there
is a first non-blank outcome at position `j < n`, everything before it is blank, exactly `j + 1`
reads are used and it is the reply; or the first `n` outcomes (an exhausted script counting as
silence) are blank, `n` reads are used and the result is a timeout.  In all cases at most `n`. -/
theorem C05_window (n : Nat) (reads : List ReadEv) :
    readsUsed n reads ≤ n ∧
    ((∃ j ev, j < n ∧ reads[j]? = some ev ∧ isBlank ev = false ∧ (∀ e ∈ reads.take j, isBlank e = true) ∧
        readsUsed n reads = j + 1 ∧ firstReply n reads = replyOfEv ev)
     ∨ ((∀ e ∈ reads.take n, isBlank e = true) ∧ readsUsed n reads = n ∧ firstReply n reads = .timeout)) :=
  ⟨readsUsed_le n reads, window_cases n reads⟩

/-- **Framing.** On a connected, error-free object `command(req)` and `query(req)` hand exactly one
text to `write`: the trimmed request followed by one carriage return.  If that write succeeds they
call `readline` exactly `readsUsed (1 + retry)` times (at most `1 + retry`; see `C05_window`) and
leave the rest of the script untouched; if it raises they read nothing. -/
theorem C05_frame (P : Params) (req name : Str) (hn : cmdName (strip req) = .ok name) (hne : name ≠ [])
    (w : World Script) (hw : Ready w) :
    let oc := runCall P scriptDev (.command (some req)) w
    let oq := runCall P scriptDev (.query (some req)) w
    let wo := firstWrite w.dev
    (oc.written = [strip req ++ ['\r']] ∧
     oc.reads = usedReads (P.retryCmd + 1) wo w.dev.reads ∧ oc.reads ≤ P.retryCmd + 1 ∧
     oc.world.dev = ⟨w.dev.reads.drop oc.reads, w.dev.writes.tail⟩) ∧
    (oq.written = [strip req ++ ['\r']] ∧
     oq.reads = usedReads (P.retryQry + 1) wo w.dev.reads ∧ oq.reads ≤ P.retryQry + 1 ∧
     oq.world.dev = ⟨w.dev.reads.drop oq.reads, w.dev.writes.tail⟩) := by
  obtain ⟨st, ⟨reads, ws⟩, out, nr⟩ := w
  have he : st.err = Option.none := hw.2
  refine ⟨?_, ?_⟩
  · simp only [runCall, run_command_ready P scriptDev req _ hw,
      commandCore_script P (strip req) name hn st he reads ws out nr]
    simp [usedReads_le]
  · simp only [runCall, run_query_ready P scriptDev req _ hw,
      queryCore_script P (strip req) name hn st he reads ws out nr]
    simp [usedReads_le]

example : ∃ (req name : Str) (w : World Script), cmdName (strip req) = .ok name ∧ name ≠ [] ∧ Ready w :=
  ⟨" QS\n".toList, "QS".toList, ⟨{ St.init with port := true }, ⟨[], []⟩, [], 0⟩, by rfl, by decide,
    ⟨rfl, rfl⟩⟩

/-- **Success iff.** `command` returns `True` exactly when no error is recorded, and that happens
exactly when the write succeeded and the reply (first non-blank line among the first
`1 + retry` reads) begins with the name and contains no `Err:` — or, for the names in `ignoreCmd`
(`rb`, `r`, `bl`), when the write or a read raised (the I/O error is deliberately ignored: known
finding F10).  Otherwise the recorded error is the message `Spec.commandError` builds and `False`
is returned.  `query` returns a string exactly when the write succeeded and the reply is accepted
(no name is exempt); otherwise it returns `None` with `Spec.queryError` recorded.
Nothing else of the object changes. -/
theorem C05_success_iff (P : Params) (req name : Str) (hn : cmdName (strip req) = .ok name) (hne : name ≠ [])
    (w : World Script) (hw : Ready w) :
    let oc := runCall P scriptDev (.command (some req)) w
    let oq := runCall P scriptDev (.query (some req)) w
    let wo := firstWrite w.dev
    let ce := commandError P (strip req) name wo w.dev.reads
    let qe := queryError P (strip req) name wo w.dev.reads
    let ioFault := wo = .raise ∨ firstReply (P.retryCmd + 1) w.dev.reads = .ioError
    (oc.res = .ok (.bool ce.isNone) ∧ oc.world.st = { w.st with err := ce } ∧
     (ce = Option.none ↔ (wo = .ok ∧ accepted name (firstReply (P.retryCmd + 1) w.dev.reads) = true) ∨
                  (ioFault ∧ lower name ∈ P.ignoreCmd))) ∧
    (oq.res = .ok (queryValue P (strip req) name wo w.dev.reads) ∧ oq.world.st = { w.st with err := qe } ∧
     (qe = Option.none ↔ wo = .ok ∧ accepted name (firstReply (P.retryQry + 1) w.dev.reads) = true) ∧
     (qe = Option.none ↔ ∃ s, queryValue P (strip req) name wo w.dev.reads = .str s)) := by
  obtain ⟨st, ⟨reads, ws⟩, out, nr⟩ := w
  have hc := commandCore_script P (strip req) name hn st hw.2 reads ws out nr
  have hq := queryCore_script P (strip req) name hn st hw.2 reads ws out nr
  rw [← run_command_ready P scriptDev req _ hw] at hc
  rw [← run_query_ready P scriptDev req _ hw] at hq
  refine ⟨⟨congrArg Prod.fst hc, congrArg (·.2.st) hc, ?_⟩, ⟨congrArg Prod.fst hq, congrArg (·.2.st) hq, ?_, ?_⟩⟩
  · simp only [commandError]
    cases firstWrite ⟨reads, ws⟩ with
    | raise => by_cases hi : lower name ∈ P.ignoreCmd <;> simp [hi]
    | ok =>
      cases firstReply (P.retryCmd + 1) reads with
      | ioError => by_cases hi : lower name ∈ P.ignoreCmd <;> simp [hi, accepted]
      | timeout => simp [accepted]
      | text t =>
        by_cases hp : startsWith name t = true <;> by_cases hx : hasErr t = true <;> simp [hp, hx, accepted]
  · exact queryError_none_iff P (strip req) name _ reads
  · simp only [queryValue, queryError]
    cases firstWrite ⟨reads, ws⟩ with
    | raise => by_cases hi : lower name ∈ P.ignoreQry <;> simp [hi]
    | ok =>
      cases firstReply (P.retryQry + 1) reads with
      | ioError => by_cases hi : lower name ∈ P.ignoreQry <;> simp [hi]
      | timeout => simp
      | text t =>
        by_cases hp : startsWith name t = true <;> by_cases hx : hasErr t = true <;> simp [hp, hx]

/-- **Query value.** A successful query returns the reply with the name and one separating comma
(if present) removed. -/
theorem C05_query_value (P : Params) (req name : Str) (hn : cmdName (strip req) = .ok name) (hne : name ≠ [])
    (w : World Script) (hw : Ready w)
    (hok : queryError P (strip req) name (firstWrite w.dev) w.dev.reads = Option.none) :
    ∃ rest, firstReply (P.retryQry + 1) w.dev.reads = .text (name ++ rest) ∧
      (runCall P scriptDev (.query (some req)) w).res =
        .ok (.str (dropComma rest)) := by
  have h := (C05_success_iff P req name hn hne w hw).2
  obtain ⟨hres, -, hiff, -⟩ := h
  have hacc := hiff.mp hok
  rw [hres]
  cases hr : firstReply (P.retryQry + 1) w.dev.reads with
  | ioError => simp [hr, accepted] at hacc
  | timeout => simp [hr, accepted] at hacc
  | text t =>
    simp only [hr, accepted, Bool.and_eq_true] at hacc
    obtain ⟨rest, ht⟩ := startsWith_split hacc.2.1
    refine ⟨rest, by rw [ht], ?_⟩
    simp only [queryValue, hok, hr]
    rw [ht, stripHeader_append]

example : queryError srcParams "QS".toList "QS".toList .ok [.empty, .line "QS,1,2\r\n".toList] = Option.none := by
  decide

/-- **No request method raises.** For every request method, every argument inside the domain
(`Call.InDomain`: non-blank request strings, int32 values for the 4-byte writer), every object
state, and every script whose read outcomes are drawn from the fault alphabet of the statement
(`AdmScript`: raised exceptions, empty/blank lines, lines with `Err:`, lines that begin with none of
the decoded query names — wrong-name lines and replies to other requests —, and correct replies
`name,payload` to the decoded queries QS/QC/QE/PI/QL; any write outcomes): the call returns a value
(`.ok v`: the model represents `None.split`, `int('x')`, index and key errors as `.error`), and
the rest of the script is still in the alphabet — so the same holds for every further call. -/
theorem C05_no_raise (P : Params) (c : Call) (hr : c.method.isRequest = true) (hd : c.InDomain)
    (w : World Script) (h : AdmScript w) :
    ∃ v w', run P scriptDev c w = (.ok v, w') ∧ AdmScript w' :=
  total_of_sound (scriptSound P) c hr hd w h

/-- the same along any history of in-domain request calls: no call raises -/
theorem C05_no_raise_history (P : Params) (cs : List Call)
    (hcs : ∀ c ∈ cs, c.method.isRequest = true ∧ c.InDomain) (w : World Script) (h : AdmScript w) :
    ∀ o ∈ runCalls P scriptDev cs w, ∃ v, o.res = .ok v := fun o ho =>
  ((Total.hist P scriptDev cs (fun c hc => total_of_sound (scriptSound P) c (hcs c hc).1 (hcs c hc).2) w h).2 o ho).1

example : AdmScript ⟨St.init, ⟨[.raise, .empty, .line "ZZ,1\r\n".toList], []⟩, [], 0⟩ := by
  intro ev hev
  simp only [List.mem_cons, List.not_mem_nil, or_false] at hev
  rcases hev with rfl | rfl | rfl
  · trivial
  all_goals
    intro name hn hp
    simp only [parsedNames, List.mem_cons, List.not_mem_nil, or_false] at hn
    rcases hn with rfl | rfl | rfl | rfl | rfl <;> exact absurd hp (by decide)

/-- **A recorded error is reported by the failure value.** For every request method, any device,
any arguments and any start state: if the call returns a value and an error is recorded
afterwards, the value is `False`, `None` or `(None, None)`.  (Together with `C04_blocked` this is
"the failure is recorded as the object's error and reported by the failure return value".) -/
theorem C05_fail_reported {σ : Type} (P : Params) (D : Device σ) (c : Call) (hr : c.method.isRequest = true)
    (w : World σ) (v : Val) (w' : World σ) (h : run P D c w = (.ok v, w'))
    (he : w'.st.err.isSome = true) :
    v = .bool false ∨ v = .none ∨ v = .pair .none .none :=
  run_failRep P D c hr w v w' h he

example : ∃ v w', run srcParams scriptDev (.query_voltage Option.none)
    ⟨{ St.init with port := true }, ⟨[.line "ZZ\n".toList], []⟩, [], 0⟩ = (.ok v, w') ∧ w'.st.err.isSome = true :=
  ⟨_, _, rfl, by decide⟩

/-- **Attribution.** Against any conforming device (`Conforming P reply`: every trimmed request is
answered, after at most `retry` empty reads — none for `QG`, which is read once —, by exactly one
line that begins with the request's name, has no `Err:` and, for the decoded queries, a well-formed
payload), starting with no error and nothing unread: after *every* call of *every* history of
in-domain request calls, the call has returned a value, no error is recorded, and (while the port
is open) the device has no unread line — each reply was consumed by the request that caused it. -/
theorem C05_attribution (P : Params) (reply : Nat → Str → Nat × Str) (hc : Conforming P reply)
    (cs : List Call) (hcs : ∀ c ∈ cs, c.method.isRequest = true ∧ c.InDomain)
    (w : World ConfSt) (hw : ConfInv w) :
    ∀ o ∈ runCalls P (confDev reply) cs w,
      (∃ v, o.res = .ok v) ∧ o.world.st.err = Option.none ∧ (o.world.st.port = true → o.world.dev.queue = []) :=
  fun o ho =>
    have h := conf_hist reply P hc cs hcs w hw o ho
    ⟨h.1, h.2.1, h.2.2⟩

/-- conforming devices exist (for every parameter set): `demoReply` answers at once with `name,1`
or `name,1,1` -/
theorem C05_conforming_exists (P : Params) : Conforming P demoReply := demo_conforming P

example : ConfInv ⟨{ St.init with port := true }, ⟨[], 0⟩, [], 0⟩ := ⟨rfl, fun _ => rfl⟩

/-! ## The same theorems about the *regenerated* code  (see the note in `Props/C04.lean`)

`Gen.EBB3_command` / `Gen.EBB3_query` and the other methods of the bridged set **S** (`Ebb3Gen.inS`: all 38 public
methods), run by `Ebb3Gen.genRun`; `Ebb3Gen.Good w` is the domain; `Ebb3Gen.absWorld w` is what the model sees of a world
of the regenerated code (attributes, script without exception classes, bytes written, read count). -/

open Ebb3Gen in
/-- **Framing (regenerated code).** On a connected, error-free object the regenerated `command(req)` and `query(req)`
return, hand exactly one text to `write` — the trimmed request followed by one carriage return —, and call `readline`
exactly `usedReads (1 + retry)` times (at most `1 + retry`; nothing if the write raised), leaving the rest of the
script untouched. -/
theorem C05_gen_frame (fuel : Nat) (hf : 26 ≤ fuel) (req name : Str) (hasc : PyIO.isAscii req = true)
    (hn : cmdName (strip req) = .ok name) (hne : name ≠ []) (w : PyObj.World Gen.EBB3_Obj) (hg : Good w)
    (hp : w.obj.port = .port) (he : w.obj.err = .none) :
    let aw := absWorld w
    let uc := usedReads (srcParams.retryCmd + 1) (firstWrite aw.dev) aw.dev.reads
    let uq := usedReads (srcParams.retryQry + 1) (firstWrite aw.dev) aw.dev.reads
    (∃ v w', Gen.EBB3_command fuel (.str req) w = .val v w' ∧
      w'.port.log = w.port.log ++ [strip req ++ ['\r']] ∧ w'.port.nread = w.port.nread + uc ∧
      uc ≤ srcParams.retryCmd + 1 ∧ (absWorld w').dev = ⟨aw.dev.reads.drop uc, aw.dev.writes.tail⟩) ∧
    (∃ v w', Gen.EBB3_query fuel (.str req) w = .val v w' ∧
      w'.port.log = w.port.log ++ [strip req ++ ['\r']] ∧ w'.port.nread = w.port.nread + uq ∧
      uq ≤ srcParams.retryQry + 1 ∧ (absWorld w').dev = ⟨aw.dev.reads.drop uq, aw.dev.writes.tail⟩) := by
  intro aw uc uq
  obtain ⟨w1, h1, h2, -⟩ := command_gen_exact fuel hf req name hasc hn w hg hp he
  obtain ⟨w2, h3, h4, -⟩ := query_gen_exact fuel hf req name hasc hn w hg hp he
  exact ⟨⟨_, w1, h1, congrArg (·.out) h2, congrArg (·.nreads) h2, usedReads_le _ _ _, congrArg (·.dev) h2⟩,
    ⟨_, w2, h3, congrArg (·.out) h4, congrArg (·.nreads) h4, usedReads_le _ _ _, congrArg (·.dev) h4⟩⟩

open Ebb3Gen in
/-- **Success iff (regenerated code).** The regenerated `command` returns `True` exactly when no error is recorded,
which is when `Spec.commandError … = none` (see `C05_success_iff` for what that means: write ok and an accepted
reply — or an ignored I/O fault for `rb`/`r`/`bl`); otherwise `err` becomes that message and `False` is returned.
The regenerated `query` returns `Spec.queryValue` (a string exactly when `Spec.queryError … = none`) and records
`Spec.queryError`. -/
theorem C05_gen_success_iff (fuel : Nat) (hf : 26 ≤ fuel) (req name : Str) (hasc : PyIO.isAscii req = true)
    (hn : cmdName (strip req) = .ok name) (hne : name ≠ []) (w : PyObj.World Gen.EBB3_Obj) (hg : Good w)
    (hp : w.obj.port = .port) (he : w.obj.err = .none) :
    let aw := absWorld w
    let ce := commandError srcParams (strip req) name (firstWrite aw.dev) aw.dev.reads
    let qe := queryError srcParams (strip req) name (firstWrite aw.dev) aw.dev.reads
    (∃ w', Gen.EBB3_command fuel (.str req) w = .val (.bool ce.isNone) w' ∧
      w'.obj.err = encReq ce ∧
      (ce = Option.none ↔ (firstWrite aw.dev = .ok ∧ accepted name (firstReply (srcParams.retryCmd + 1) aw.dev.reads) = true) ∨
        ((firstWrite aw.dev = .raise ∨ firstReply (srcParams.retryCmd + 1) aw.dev.reads = .ioError) ∧
          lower name ∈ srcParams.ignoreCmd))) ∧
    (∃ w', Gen.EBB3_query fuel (.str req) w =
        .val (encVal (queryValue srcParams (strip req) name (firstWrite aw.dev) aw.dev.reads)) w' ∧
      w'.obj.err = encReq qe ∧
      (qe = Option.none ↔ firstWrite aw.dev = .ok ∧ accepted name (firstReply (srcParams.retryQry + 1) aw.dev.reads) = true) ∧
      (qe = Option.none ↔ ∃ s, queryValue srcParams (strip req) name (firstWrite aw.dev) aw.dev.reads = .str s)) := by
  intro aw ce qe
  obtain ⟨w1, h1, h2, hg1⟩ := command_gen_exact fuel hf req name hasc hn w hg hp he
  obtain ⟨w2, h3, h4, hg2⟩ := query_gen_exact fuel hf req name hasc hn w hg hp he
  have hm := C05_success_iff srcParams req name hn hne (absWorld w) (ready_of_attrs w hp he)
  exact ⟨⟨w1, h1, err_of_absSt hg1.obj (congrArg (·.st) h2), hm.1.2.2⟩,
    ⟨w2, h3, err_of_absSt hg2.obj (congrArg (·.st) h4), hm.2.2.2.1, hm.2.2.2.2⟩⟩

open Ebb3Gen in
/-- **Query value (regenerated code).** A successful regenerated `query` returns the reply with the name and one
separating comma removed. -/
theorem C05_gen_query_value (fuel : Nat) (hf : 26 ≤ fuel) (req name : Str) (hasc : PyIO.isAscii req = true)
    (hn : cmdName (strip req) = .ok name) (hne : name ≠ []) (w : PyObj.World Gen.EBB3_Obj) (hg : Good w)
    (hp : w.obj.port = .port) (he : w.obj.err = .none)
    (hok : queryError srcParams (strip req) name (firstWrite (absWorld w).dev) (absWorld w).dev.reads = Option.none) :
    ∃ rest w', firstReply (srcParams.retryQry + 1) (absWorld w).dev.reads = .text (name ++ rest) ∧
      Gen.EBB3_query fuel (.str req) w = .val (.str (dropComma rest)) w' := by
  obtain ⟨w2, h3, -, -⟩ := query_gen_exact fuel hf req name hasc hn w hg hp he
  obtain ⟨rest, hr, hv⟩ := C05_query_value srcParams req name hn hne (absWorld w) (ready_of_attrs w hp he) hok
  have hm := (C05_success_iff srcParams req name hn hne (absWorld w) (ready_of_attrs w hp he)).2.1
  rw [hm] at hv
  injection hv with hv
  refine ⟨rest, w2, hr, ?_⟩
  rw [h3, hv]
  rfl

open Ebb3Gen in
/-- **No request method of S raises (regenerated code).** For every call of a request method of S with in-domain
arguments, every `Good` world whose script (as the model sees it) is drawn from the fault alphabet (`AdmScript`): the
regenerated method returns a value — no exception, no fuel exhaustion —, and the world it leaves is `Good` with a
script still in the alphabet. -/
theorem C05_gen_no_raise (fuel : Nat) (c : Call) (hc : Covered fuel c) (hr : c.method.isRequest = true) (hd : c.InDomain)
    (w : PyObj.World Gen.EBB3_Obj) (hg : Good w) (hp : Pre c w) (ha : AdmScript (absWorld w)) :
    ∃ v w', genRun fuel c w = .val v w' ∧ Good w' ∧ AdmScript (absWorld w') := by
  obtain ⟨v, aw', hrun, hadm⟩ := C05_no_raise srcParams c hr hd (absWorld w) ha
  have hs := gen_bridge fuel c hc w hg hp
  rw [hrun] at hs
  obtain ⟨w', h1, h2, h3⟩ := sim_val hs
  exact ⟨_, w', h1, h3, by rw [h2]; exact hadm⟩

open Ebb3Gen in
/-- the same along any history over ALL public methods (`connect`, `find_first`, the helpers and `disconnect`
included; request calls with in-domain arguments), started in a `Good` world with a script from the fault alphabet
whose inputs satisfy the static side conditions `Env` (see `C04_gen_history`): the history runs to its end — no call
runs out of fuel —, and every *request* call returns a value, wherever it stands in the history.  (`connect` itself
may raise by design: a fault of its last exchange, `InvalidVersion`, `TypeError`; it still leaves a world of the domain,
so the request calls after it are covered.) -/
theorem C05_gen_no_raise_history (fuel : Nat) : ∀ (cs : List Call) (w : PyObj.World Gen.EBB3_Obj),
    (∀ c ∈ cs, Covered fuel c ∧ (c.method.isRequest = true → c.InDomain)) → Good w → (∀ c ∈ cs, Env c w) →
    AdmScript (absWorld w) →
    (genCalls fuel cs w).length = cs.length ∧
      ∀ co ∈ List.zip cs (genCalls fuel cs w), co.1.method.isRequest = true → ∃ v w', co.2 = .val v w'
  | [], _, _, _, _, _ => ⟨rfl, fun co hco => by simp [genCalls] at hco⟩
  | c :: cs, w, hc, hg, hp, ha => by
    obtain ⟨hc1, hd1⟩ := hc c List.mem_cons_self
    have hpre := (hp c List.mem_cons_self).pre
    obtain ⟨w1, h1, -, hg1⟩ := sim_world (gen_bridge fuel c hc1 w hg hpre)
    have hfr : Fr w w1 := fr_of_outWorld (genRun_fr fuel c w) h1
    have ih := C05_gen_no_raise_history fuel cs w1 (fun c' hc' => hc c' (List.mem_cons_of_mem _ hc')) hg1
      (fun c' hc' => (hp c' (List.mem_cons_of_mem _ hc')).fr hfr) (admScript_of_fr hfr ha)
    simp only [genCalls, h1, List.length_cons, List.zip_cons_cons, List.mem_cons]
    refine ⟨by rw [ih.1], fun co hco hr => ?_⟩
    rcases hco with rfl | hco
    · obtain ⟨v, w', h2, -, -⟩ := C05_gen_no_raise fuel c hc1 hr (hd1 hr) w hg hpre ha
      exact ⟨v, w', h2⟩
    · exact ih.2 co hco hr

open Ebb3Gen in
/-- **A recorded error is reported by the failure value (regenerated code).** If a regenerated request method of
S returns a value and an error is recorded afterwards, the value is `False`, `None` or `(None, None)`. -/
theorem C05_gen_fail_reported (fuel : Nat) (c : Call) (hc : Covered fuel c) (hr : c.method.isRequest = true)
    (w : PyObj.World Gen.EBB3_Obj) (hg : Good w) (hp : Pre c w) (v : PyObj.Val) (w' : PyObj.World Gen.EBB3_Obj)
    (h : genRun fuel c w = .val v w') (e : Str) (he : w'.obj.err = .str e) :
    v = .bool false ∨ v = .none ∨ v = .tuple [.none, .none] := by
  have hs := gen_bridge fuel c hc w hg hp
  rw [h] at hs
  rcases hm : run srcParams scriptDev c (absWorld w) with ⟨res, aw'⟩
  rw [hm] at hs
  cases res with
  | error ex => exact hs.elim
  | ok v' =>
    obtain ⟨h1, h2, -⟩ := hs
    have herr : aw'.st.err.isSome = true := by
      rw [← h2]; simp [absWorld, absSt, he, absOpt]
    have := run_failRep srcParams scriptDev c hr (absWorld w) v' aw' hm herr
    rw [h1]
    exact encVal_failure this

/-- the constants of the statement, as read from the source: 25 extra reads in both
primitives; I/O errors ignored only for `rb`, `r`, `bl` -/
theorem C05_params :
    srcParams.retryCmd = 25 ∧ srcParams.retryQry = 25 ∧
    srcParams.ignoreCmd = ["rb".toList, "r".toList, "bl".toList] ∧
    srcParams.ignoreQry = ["rb".toList, "r".toList, "bl".toList] := by
  decide

/-! ## Attribution on scripts, and for the regenerated code

`C05_attribution` is about a device that *reacts* to what it is sent (`confDev reply`).  The ports of the regenerated
code are scripts, fixed in advance.  `confTranscript reply P cs st0 k0 out0 nr0` is the script a conforming device
produces for the requests the history `cs` actually sends: the read and write outcomes that `confDev reply`, fitted
with a recorder (`recDev`), hands out while `cs` runs against it.  `replay_run` in `Proofs/C05Replay.lean` (the
relational walk `DevRel.run` over all 38 method bodies: a run against any recorded device is replayed, outcome by
outcome, by `scriptDev` on the recorded script; `replay_start` for histories) and `confRecSound` in
`Proofs/C05ConfRec.lean` (the recorded log *is* `confScript reply k0` of the texts written so far whenever the port is
open) give attribution on scripts; `gen_calls_sim` carries it to the regenerated methods. -/

/-- **Attribution on scripts.**  Any history `cs` of in-domain request calls, any error-free start attributes, any
conforming `reply`, run on `scriptDev` with the script a conforming device produces for the requests this history
sends (`confTranscript`; the device has received `k0` requests before and has nothing queued):
* at the end the script is used up — not one read or write outcome is left;
* after every call: the call returned a value, no error is recorded, and while the port is open what the calls so far
  have consumed from the script is exactly `confScript reply k0 ts` for the texts `ts` they wrote — each reply was
  consumed by the request that caused it and no line is left unread between calls (the rest of the script is the
  answers to requests not sent yet);
* every call behaves exactly like a call of the same history against `confDev reply`: same result, same texts
  written, same number of reads, same attributes afterwards;
* if the port is still open at the end, the whole script is the closed form `confScript reply k0 ts` for the texts
  `ts` the history wrote, with one successful write outcome per text. -/
theorem C05_script_attribution (P : Params) (reply : Nat → Str → Nat × Str) (hc : Conforming P reply)
    (cs : List Call) (hcs : ∀ c ∈ cs, c.method.isRequest = true ∧ c.InDomain)
    (st0 : St) (h0 : st0.err = Option.none) (k0 : Nat) (out0 : List Str) (nr0 : Nat) :
    (finalWorld P scriptDev cs ⟨st0, confTranscript reply P cs st0 k0 out0 nr0, out0, nr0⟩).dev = ⟨[], []⟩ ∧
    (∀ o ∈ runCalls P scriptDev cs ⟨st0, confTranscript reply P cs st0 k0 out0 nr0, out0, nr0⟩,
      (∃ v, o.res = .ok v) ∧ o.world.st.err = Option.none ∧
      (o.world.st.port = true → ∃ ts, o.world.out = out0 ++ ts ∧
        confScript reply k0 ts ++ o.world.dev.reads = (confTranscript reply P cs st0 k0 out0 nr0).reads) ∧
      ∃ oc ∈ runCalls P (confDev reply) cs ⟨st0, ⟨[], k0⟩, out0, nr0⟩,
        o.res = oc.res ∧ o.written = oc.written ∧ o.reads = oc.reads ∧ o.world.st = oc.world.st) ∧
    ((finalWorld P (confDev reply) cs ⟨st0, ⟨[], k0⟩, out0, nr0⟩).st.port = true →
      ∃ ts, (finalWorld P (confDev reply) cs ⟨st0, ⟨[], k0⟩, out0, nr0⟩).out = out0 ++ ts ∧
        confTranscript reply P cs st0 k0 out0 nr0 = ⟨confScript reply k0 ts, ts.map (fun _ => WriteEv.ok)⟩) := by
  obtain ⟨hfin, hcalls⟩ := confRec_hist reply P hc cs hcs st0 h0 k0 out0 nr0
  obtain ⟨r1, r2⟩ := replay_start P (confDev reply) cs (recStart st0 k0 out0 nr0) rfl rfl
  obtain ⟨g1, g2⟩ := proj_hist P (confDev reply) cs (recStart st0 k0 out0 nr0)
  refine ⟨congrArg (·.dev) r1, fun o ho => ?_, fun hp => ?_⟩
  · -- `o` is an outcome `od` of the recorded run, which keeps `ConfInvR`; `projO od` is the outcome on `confDev reply`
    obtain ⟨od, hod, eR, eW, rfl, e1⟩ := r2 o ho
    obtain ⟨hok, hinv⟩ := hcalls od hod
    refine ⟨hok, hinv.1, fun hp => ?_, projO od, g2 ▸ List.mem_map_of_mem hod, rfl, rfl, rfl, rfl⟩
    obtain ⟨-, ts, t1, -, t3, -⟩ := hinv.2 hp
    exact ⟨ts, t1, t3 ▸ e1⟩
  · rw [show (⟨st0, ⟨[], k0⟩, out0, nr0⟩ : World ConfSt) = projW (recStart st0 k0 out0 nr0) from rfl, g1] at hp ⊢
    obtain ⟨-, ts, t1, -, t3, t4⟩ := hfin.2 hp
    exact ⟨ts, t1, by simp only [confTranscript, t3, t4]⟩

open Ebb3Gen in
/-- **Attribution (regenerated code).**  Take any history `cs` of in-domain request calls (all 32 request methods of
`EBB3` / `EBBMotionWrap`), a conforming `reply` with respect to the constants read from the source, and a world of
the regenerated code with well-formed attributes and no error whose port plays the script a conforming device produces
for the requests this history sends (`confTranscript … (absSt w.obj) k0 w.port.log w.port.nread`, ASCII lines; the
model's raise outcome — which does not occur in it — would be a `SerialException`).  Then, on the regenerated methods:
* the history runs to its end (no call runs out of fuel) and every call returns a value — no exception;
* after every call no error is recorded, and while the port is open what has been consumed from the script so far is
  exactly `confScript reply k0 ts` for the texts `ts` the calls so far handed to `write`: each reply was consumed by the
  request that caused it, and no line is left unread between calls;
* at the end the script is used up: no read outcome and no write outcome is left. -/
theorem C05_gen_attribution (fuel : Nat) (reply : Nat → Str → Nat × Str) (hc : Conforming srcParams reply)
    (cs : List Call) (hcs : ∀ c ∈ cs, Covered fuel c ∧ c.method.isRequest = true ∧ c.InDomain)
    (w : PyObj.World Gen.EBB3_Obj) (ho : ObjOk w.obj) (he : w.obj.err = .none) (k0 : Nat)
    (ha : AsciiScript (confTranscript reply srcParams cs (absSt w.obj) k0 w.port.log w.port.nread))
    (hr : w.port.reads = (confTranscript reply srcParams cs (absSt w.obj) k0 w.port.log w.port.nread).reads.map encRd)
    (hw : w.port.writes = (confTranscript reply srcParams cs (absSt w.obj) k0 w.port.log w.port.nread).writes.map encWr) :
    (genCalls fuel cs w).length = cs.length ∧
    (∀ o ∈ genCalls fuel cs w, ∃ v w', o = .val v w' ∧ w'.obj.err = .none ∧
      (w'.obj.port = .port → ∃ ts, w'.port.log = w.port.log ++ ts ∧
        confScript reply k0 ts ++ (absWorld w').dev.reads = (absWorld w).dev.reads)) ∧
    ∃ wF, genFinal fuel cs w = some wF ∧ wF.port.reads = [] ∧ wF.port.writes = [] ∧ wF.obj.err = .none := by
  have hg : Good w := good_of_script w ho _ ha hr hw
  have habs := absWorld_of_script w _ hr hw
  have hst0 : (absSt w.obj).err = Option.none := by simp [absSt, he, absOpt]
  have hcov : ∀ c ∈ cs, Covered fuel c := fun c hc' => (hcs c hc').1
  have henv : ∀ c ∈ cs, Env c w := by
    intro c hc'
    have hreq := (hcs c hc').2.1
    cases c
    case find_first | connect => cases hreq
    case reboot | bootload => exact rebootW_of_script w _ hw
    all_goals trivial
  have hpre := histPre_of_env fuel cs w henv
  obtain ⟨m1, m2, -⟩ := C05_script_attribution srcParams reply hc cs (fun c hc' => (hcs c hc').2)
    (absSt w.obj) hst0 k0 w.port.log w.port.nread
  rw [← habs] at m1 m2
  obtain ⟨hlen, hmem⟩ := callsSim_mem (gen_calls_sim fuel cs w hcov hg hpre)
  refine ⟨by rw [hlen, runCalls_length], fun o ho' => ?_, ?_⟩
  · obtain ⟨m, hm, hsim⟩ := hmem o ho'
    obtain ⟨⟨v, hv⟩, herr, hcons, -⟩ := m2 m hm
    rw [hv] at hsim
    obtain ⟨w', e1, e2, hg'⟩ := sim_val hsim
    refine ⟨_, w', e1, ?_, fun hp => ?_⟩
    · have h1 : (absWorld w').st.err = Option.none := by rw [e2]; exact herr
      exact absOpt_none hg'.obj.err h1
    · have hpt : m.world.st.port = true := by rw [← e2]; exact port_of_absSt _ hp
      obtain ⟨ts, t1, t2⟩ := hcons hpt
      refine ⟨ts, ?_, ?_⟩
      · have h2 : (absWorld w').out = m.world.out := by rw [e2]
        exact h2.trans t1
      · rw [e2, t2, habs]
  · obtain ⟨wF, f1, f2, hgF⟩ := gen_final_sim fuel cs w hcov hg hpre
    have hdev : (absWorld wF).dev = ⟨[], []⟩ := by rw [f2]; exact m1
    have hr0 : wF.port.reads.map absRd = [] := congrArg (fun x => x.reads) hdev
    have hw0 : wF.port.writes.map absWr = [] := congrArg (fun x => x.writes) hdev
    refine ⟨wF, f1, List.map_eq_nil_iff.mp hr0, List.map_eq_nil_iff.mp hw0, ?_⟩
    have hfin : finalWorld srcParams scriptDev cs ⟨absSt w.obj, confTranscript reply srcParams cs (absSt w.obj) k0
        w.port.log w.port.nread, w.port.log, w.port.nread⟩ = _ :=
      (replay_start srcParams (confDev reply) cs (recStart (absSt w.obj) k0 w.port.log w.port.nread) rfl rfl).1
    rw [← habs, ← f2] at hfin
    have herrF : (absWorld wF).st.err = Option.none := by
      rw [hfin]
      exact (confRec_hist reply srcParams hc cs (fun c hc' => (hcs c hc').2) (absSt w.obj) hst0 k0 w.port.log
        w.port.nread).1.1
    exact absOpt_none hgF.obj.err herrF

open Ebb3Gen in
/-- the hypotheses of `C05_gen_attribution` are satisfiable: a three-call history against `demoReply` -/
example : ∃ (w : PyObj.World Gen.EBB3_Obj) (cs : List Call), cs.length = 3 ∧
    (∀ c ∈ cs, Covered 26 c ∧ c.method.isRequest = true ∧ c.InDomain) ∧ ObjOk w.obj ∧ w.obj.err = .none ∧
    AsciiScript (confTranscript demoReply srcParams cs (absSt w.obj) 0 w.port.log w.port.nread) ∧
    w.port.reads = (confTranscript demoReply srcParams cs (absSt w.obj) 0 w.port.log w.port.nread).reads.map encRd ∧
    w.port.writes = (confTranscript demoReply srcParams cs (absSt w.obj) 0 w.port.log w.port.nread).writes.map encWr := by
  have h : absSt ({ Gen.EBB3_Obj.init with port := .port } : Gen.EBB3_Obj) = { St.init with port := true } := rfl
  refine ⟨⟨{ Gen.EBB3_Obj.init with port := .port },
    ⟨[.line "QG,1,1".toList, .line "CS,1,1".toList, .line "QS,1,1".toList], [.ok, .ok, .ok], [], 0⟩, {}⟩,
    [.query_statusbyte, .clear_steps, .query_steps], rfl, ?_,
    ⟨Or.inl rfl, trivial, trivial, Or.inl rfl, trivial, trivial, trivial⟩, rfl, ?_, ?_, ?_⟩
  · intro c hc
    simp only [List.mem_cons, List.mem_nil_iff, or_false] at hc
    rcases hc with rfl | rfl | rfl <;> exact ⟨⟨rfl, trivial, Nat.le_refl _⟩, rfl, trivial⟩
  · show AsciiScript (confTranscript demoReply srcParams _ (absSt _) 0 [] 0)
    rw [h, demoTranscript]
    intro s hs
    simp only [List.mem_cons, List.mem_nil_iff, or_false, ReadEv.line.injEq] at hs
    rcases hs with rfl | rfl | rfl <;> decide
  · show _ = (confTranscript demoReply srcParams _ (absSt _) 0 [] 0).reads.map encRd
    rw [h, demoTranscript]
    rfl
  · show _ = (confTranscript demoReply srcParams _ (absSt _) 0 [] 0).writes.map encWr
    rw [h, demoTranscript]
    rfl

end Plotink
