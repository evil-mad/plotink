import Plotink.Proofs.C06
import Plotink.Proofs.C06GenTop
import Plotink.Proofs.C06GenEbb3Methods
import Plotink.Proofs.C06GenQueryPI

/-! # C06 — motion / configuration helpers emit exactly the documented EBB command text

`C06.legacyEmit` / `C06.ebb3Emit` model the text written by the helpers of `ebb_motion.py` and of
`ebb3_motion.py` + `ebb3_serial.py` against a board that acknowledges everything (`Model/C06.lean`, tied
to the sources by the differential run of `harness/c06.py`); `C06.documented` is the command reference.
`legacyEmit port fwOk r = none` / `ebb3Emit port board r = none`: the layer has no helper for `r`.
All theorems are for **all** integer arguments (zero and negative included) and all optional-argument
patterns. -/

namespace Plotink
open C06

/-- Legacy layer: every helper writes exactly the documented command(s) — preceded, for the two helpers
that are gated on a firmware version (`servo_timeout`, `queryVoltage`), by the version query `V`. -/
theorem C06_legacy_documented (b : Board) (r : Req) (l : List Cmd)
    (h : legacyEmit true true r = some l) : l = legacyGate r ++ documented b r := by
  cases r with
  | absMove rate p1 p2 =>
    cases p1 <;> cases p2 <;> cases h <;> rfl
  | lowLevel r1 s1 a1 r2 s2 a2 clear =>
    simp only [legacyEmit, legacyEmitWith, if_true, Option.some.injEq] at h
    subst h
    simp only [documented, legacyGate, List.nil_append]
    by_cases hc : (r1 = 0 ∧ a1 = 0 ∨ s1 = 0) ∧ (r2 = 0 ∧ a2 = 0 ∨ s2 = 0)
    · have hn := (lm_cond_iff r1 s1 a1 r2 s2 a2).mp hc
      simp [hc, hn]
    · have hn : axisCanMove r1 s1 a1 ∨ axisCanMove r2 s2 a2 :=
        Classical.byContradiction (fun hnn => hc ((lm_cond_iff r1 s1 a1 r2 s2 a2).mpr hnn))
      cases clear <;> simp [hc, hn, present]
  | timedPause n =>
    simp only [legacyEmit, legacyEmitWith, if_true, Option.some.injEq] at h
    subst h
    simp only [documented, legacyGate, List.nil_append, pauseChunk]
    rw [legacyPauseLoop_eq_doc _ _ (Nat.le_refl _)]
  | penDown delay pin =>
    cases pin <;> cases h <;> rfl
  | penUp delay pin =>
    cases pin <;> cases h <;> rfl
  | enable r1 r2 =>
    simp [legacyEmit, legacyEmitWith] at h
    obtain ⟨rfl, rfl⟩ := h
    simp [documented, legacyGate, clampRes_eq]
  | pbConfig pin state dir =>
    simp [legacyEmit, legacyEmitWith] at h
    obtain ⟨rfl, rfl⟩ := h
    simp [documented, legacyGate]
  | servoTimeout ms state =>
    cases state <;> cases h <;> rfl
  | _ => cases h <;> rfl

example : legacyEmit true true (.absMove 1000 (some 0) (some 500)) = some [⟨"HM", [1000, 0, 500]⟩] := by decide

/-- When the board's firmware does not pass the gate, a gated legacy helper sends the version query and
nothing else; ungated helpers do not depend on the firmware version. -/
theorem C06_legacy_gate (r : Req) :
    (legacyGate r ≠ [] → legacyEmit true false r = some (legacyGate r)) ∧
    (legacyGate r = [] → legacyEmit true false r = legacyEmit true true r) := by
  cases r
  case servoTimeout ms st => exact ⟨fun _ => rfl, fun h => nomatch h⟩
  case queryVoltage => exact ⟨fun _ => rfl, fun h => nomatch h⟩
  all_goals exact ⟨fun h => absurd rfl h, fun _ => rfl⟩

example : legacyGate (.servoTimeout 5 none) ≠ [] := by decide
example : legacyGate (.xyMove 1 2 3) = [] := by decide

/-- EBB3 layer (core): every method hands exactly the documented command(s) to `command`/`query`. -/
theorem C06_ebb3_documented (b : Board) (r : Req) (l : List Cmd)
    (h : ebb3Emit true b r = some l) : l = documented b r := by
  cases r with
  | absMove rate p1 p2 =>
    cases p1 <;> cases p2 <;> cases h <;> rfl
  | timedPause n =>
    cases h
    show (ebb3PauseLoop 750 n.toNat n).map _ = (docPause n).map _
    rw [ebb3PauseLoop_eq_legacy, legacyPauseLoop_eq_doc _ _ (Nat.le_refl _)]
  | penDown delay pin =>
    cases pin <;> cases h <;> rfl
  | penUp delay pin =>
    cases pin <;> cases h <;> rfl
  | enable r1 r2 =>
    cases h
    exact ebb3Enable_eq_doc b r1 r2
  | servoTimeout ms state =>
    cases state <;> cases h <;> rfl
  | varWriteInt32 v i => exact varWriteInt32_eq_doc b v i l h
  | varReadInt32 i =>
    cases h
    exact congrArg (fun z => [(⟨"QL", [z]⟩ : Cmd), ⟨"QL", [i + 1]⟩, ⟨"QL", [i + 2]⟩, ⟨"QL", [i + 3]⟩]) (Int.add_zero i)
  | _ => cases h <;> rfl

example : ebb3Emit true ⟨0, 0⟩ (.enable 0 9) =
    some [⟨"CU", [50, 0]⟩, ⟨"QE", []⟩, ⟨"EM", [5, 5]⟩, ⟨"EM", [0, 5]⟩] := by decide

/-- The two layers emit the same text for the same request (the legacy layer's version-gate query aside). -/
theorem C06_layers_agree (b : Board) (r : Req) (l₁ l₂ : List Cmd)
    (h₁ : legacyEmit true true r = some l₁) (h₂ : ebb3Emit true b r = some l₂) :
    l₁ = legacyGate r ++ l₂ := by
  rw [C06_legacy_documented b r l₁ h₁, C06_ebb3_documented b r l₂ h₂]

example : legacyEmit true true (.timedPause 1501) = some [⟨"SM", [750, 0, 0]⟩, ⟨"SM", [750, 0, 0]⟩, ⟨"SM", [1, 0, 0]⟩]
    ∧ ebb3Emit true ⟨0, 0⟩ (.timedPause 1501) = some [⟨"SM", [750, 0, 0]⟩, ⟨"SM", [750, 0, 0]⟩, ⟨"SM", [1, 0, 0]⟩] := by
  decide

/-- Which requests each layer serves. -/
theorem C06_supports (port fwOk : Bool) (b : Board) (r : Req) :
    ((legacyEmit port fwOk r).isSome ↔ legacySupports r) ∧
    ((ebb3Emit true b r).isSome ↔ ebb3Supports r) := by
  -- a row is `some _` (served), `none` (not served), or decided by a test on the arguments
  constructor
  · cases r
    case enable r1 r2 =>
      show (if r1 = r2 then some _ else none : Option (List Cmd)).isSome = true ↔ r1 = r2
      split <;> simp [*]
    case pbConfig p s d =>
      show (if d = 0 then some _ else none : Option (List Cmd)).isSome = true ↔ d = 0
      split <;> simp [*]
    all_goals first | exact ⟨fun _ => trivial, fun _ => rfl⟩ | exact ⟨(nomatch ·), False.elim⟩
  · cases r
    case varWriteInt32 v i =>
      show ((toBytes4 v).map _).isSome = true ↔ int32InRange v
      unfold toBytes4 int32InRange
      split <;> simp [*]
    all_goals first | exact ⟨fun _ => trivial, fun _ => rfl⟩ | exact ⟨(nomatch ·), False.elim⟩

/-- XY moves send the duration, then the axis-1 (Y) delta, then the axis-2 (X) delta — byte for byte. -/
theorem C06_order (b : Board) (dx dy dur : Int) :
    (legacyEmit true true (.xyMove dx dy dur)).map wires =
      some ["SM," ++ Int.repr dur ++ "," ++ Int.repr dy ++ "," ++ Int.repr dx ++ "\r"] ∧
    (ebb3Emit true b (.xyMove dx dy dur)).map wires =
      some ["SM," ++ Int.repr dur ++ "," ++ Int.repr dy ++ "," ++ Int.repr dx ++ "\r"] := by
  have hw : Cmd.wire ⟨"SM", [dur, dy, dx]⟩ =
      "SM," ++ Int.repr dur ++ "," ++ Int.repr dy ++ "," ++ Int.repr dx ++ "\r" := by
    have e : ("SM," : String) = "SM" ++ "," := by decide
    simp [Cmd.wire, Cmd.text, argsText, String.append_assoc]
    rw [e, String.append_assoc]
  -- both rows of the tables compute to the one request line
  exact ⟨congrArg (fun s => some [s]) hw, congrArg (fun s => some [s]) hw⟩

/-- Motor resolutions: every `EM` command either layer sends for an enable request carries arguments in
0..5, and the request ends with `EM,clamp r1,clamp r2`. -/
theorem C06_clamp (b : Board) (r1 r2 : Int) (l : List Cmd)
    (h : ebb3Emit true b (.enable r1 r2) = some l ∨ legacyEmit true true (.enable r1 r2) = some l) :
    (∀ c ∈ l, c.name = "EM" → ∀ a ∈ c.args, 0 ≤ a ∧ a ≤ 5) ∧
    l.getLast? = some ⟨"EM", [clampDoc r1, clampDoc r2]⟩ ∧
    (clampDoc r1 = if r1 < 0 then 0 else if 5 < r1 then 5 else r1) := by
  have hl : l = documented b (.enable r1 r2) := by
    rcases h with h | h
    · exact C06_ebb3_documented b _ l h
    · have := C06_legacy_documented b _ l h
      simpa [legacyGate] using this
  subst hl
  exact ⟨docEnable_em_range b r1 r2, docEnable_last b r1 r2, rfl⟩

example : ebb3Emit true ⟨3, 3⟩ (.enable (-4) 77) = some [⟨"CU", [50, 0]⟩, ⟨"QE", []⟩, ⟨"EM", [5, 5]⟩, ⟨"EM", [0, 5]⟩] := by
  decide

/-- Timed pause: both layers emit zero-moves `SM,d,0,0` whose durations `d` each lie in 1..750 and sum to
`n` when `n ≥ 1`, and emit nothing when `n ≤ 0`. -/
theorem C06_pause (b : Board) (n : Int) :
    ∃ ds : List Int,
      legacyEmit true true (.timedPause n) = some (ds.map (fun d => ⟨"SM", [d, 0, 0]⟩)) ∧
      ebb3Emit true b (.timedPause n) = some (ds.map (fun d => ⟨"SM", [d, 0, 0]⟩)) ∧
      (n ≤ 0 → ds = []) ∧
      (1 ≤ n → (∀ d ∈ ds, 1 ≤ d ∧ d ≤ 750) ∧ ds.sum = n) := by
  refine ⟨legacyPauseLoop pauseChunk n.toNat n, rfl, ?_, ?_, ?_⟩
  · rw [← ebb3PauseLoop_eq_legacy]
    rfl
  · intro h
    exact legacyPauseLoop_nonpos _ _ _ h
  · intro h
    obtain ⟨h1, h2⟩ := legacyPauseLoop_spec pauseChunk (by decide) n.toNat n (Nat.le_refl _)
    refine ⟨fun d hd => ?_, ?_⟩
    · have := h1 d hd
      simpa [pauseChunk] using this
    · rw [h2]
      have : ¬ n ≤ 0 := by omega
      simp [this]

/-- The chunking loops are correct for any chunk size ≥ 1 (the source's 750 is compared with the model's
`pauseChunk` on every run). -/
theorem C06_pause_any_chunk (chunk : Int) (hc : 1 ≤ chunk) (n : Int) :
    ebb3PauseLoop chunk n.toNat n = legacyPauseLoop chunk n.toNat n ∧
    (∀ d ∈ legacyPauseLoop chunk n.toNat n, 1 ≤ d ∧ d ≤ chunk) ∧
    (legacyPauseLoop chunk n.toNat n).sum = (if n ≤ 0 then 0 else n) :=
  ⟨ebb3PauseLoop_eq_legacy chunk _ _, legacyPauseLoop_spec chunk hc _ _ (Nat.le_refl _)⟩

example : (1 : Int) ≤ 750 := by decide

/-- A low-level move is suppressed exactly when neither axis can move. -/
theorem C06_suppress (r1 s1 a1 r2 s2 a2 : Int) (clear : Option Int) :
    (legacyEmit true true (.lowLevel r1 s1 a1 r2 s2 a2 clear) = some [] ↔
      ((r1 = 0 ∧ a1 = 0) ∨ s1 = 0) ∧ ((r2 = 0 ∧ a2 = 0) ∨ s2 = 0)) ∧
    (((r1 = 0 ∧ a1 = 0) ∨ s1 = 0) ∧ ((r2 = 0 ∧ a2 = 0) ∨ s2 = 0) ↔
      ¬ (axisCanMove r1 s1 a1 ∨ axisCanMove r2 s2 a2)) := by
  refine ⟨?_, lm_cond_iff r1 s1 a1 r2 s2 a2⟩
  -- the row is `some (if <the test> then [] else <one `LM` line>)`
  by_cases hc : (r1 = 0 ∧ a1 = 0 ∨ s1 = 0) ∧ (r2 = 0 ∧ a2 = 0 ∨ s2 = 0)
  · exact ⟨fun _ => hc, fun _ => congrArg some (if_pos hc)⟩
  · refine ⟨fun h => ?_, fun h => absurd h hc⟩
    cases clear <;> cases (congrArg some (if_neg hc)).symm.trans h

/-- With no port, nothing is sent (either layer, any request, any firmware). -/
theorem C06_noport (fwOk : Bool) (b : Board) (r : Req) (l : List Cmd) :
    (legacyEmit false fwOk r = some l → l = []) ∧ (ebb3Emit false b r = some l → l = []) := by
  have h1 := legacyEmit_noport fwOk r
  have h2 := ebb3Emit_noport b r
  exact ⟨fun h => by rw [h] at h1; exact h1, fun h => by rw [h] at h2; exact h2⟩

/-- Every supplied argument is recoverable from the transmitted text: two request lines with the same
command name and the same bytes carry the same argument list (integer rendering is injective and a
numeral never contains the separator). -/
theorem C06_args_recoverable (c₁ c₂ : Cmd) (hn : c₁.name = c₂.name) (h : c₁.wire = c₂.wire) :
    c₁.args = c₂.args :=
  Cmd.wire_inj_args hn h

example : (⟨"SM", [1, -2, 3]⟩ : Cmd).name = (⟨"SM", [1, -2, 3]⟩ : Cmd).name := rfl

/-- …in particular an XY move's three arguments can be read back from its bytes. -/
theorem C06_xyMove_recoverable (dx dy dur dx' dy' dur' : Int)
    (h : (legacyEmit true true (.xyMove dx dy dur)).map wires =
         (legacyEmit true true (.xyMove dx' dy' dur')).map wires) :
    dx = dx' ∧ dy = dy' ∧ dur = dur' := by
  have := Cmd.wire_inj_args (c₁ := ⟨"SM", [dur, dy, dx]⟩) (c₂ := ⟨"SM", [dur', dy', dx']⟩) rfl
    (List.cons.inj (Option.some.inj h)).1
  simp at this
  omega

/-- F4: the truthiness tests of the unrepaired sources (`if pin:`, `if clear:`, `if position1 and
position2:`) agree with the presence tests whenever no optional argument is a supplied zero — the
defect is confined to zero-valued optional arguments. -/
theorem C06_truthiness_confined (port fwOk : Bool) (b : Board) (r : Req) (hz : ¬ suppliedZero r) :
    legacyEmitWith truthy port fwOk r = legacyEmit port fwOk r ∧
    ebb3EmitWith truthy port b r = ebb3Emit port b r := by
  constructor
  · cases r with
    | absMove rate p1 p2 =>
      simp only [legacyEmit, legacyEmitWith, truthy_eq_present p1 fun h => hz (Or.inl h),
        truthy_eq_present p2 fun h => hz (Or.inr h)]
    | lowLevel r1 s1 a1 r2 s2 a2 clear =>
      exact congrArg (fun t => legacyEmitWith (fun _ => t) port fwOk (.lowLevel r1 s1 a1 r2 s2 a2 clear))
        (truthy_eq_present clear hz)
    | penDown d pin =>
      exact congrArg (fun t => legacyEmitWith (fun _ => t) port fwOk (.penDown d pin)) (truthy_eq_present pin hz)
    | penUp d pin =>
      exact congrArg (fun t => legacyEmitWith (fun _ => t) port fwOk (.penUp d pin)) (truthy_eq_present pin hz)
    | _ => rfl
  · cases r with
    | penDown d pin =>
      exact congrArg (fun t => ebb3EmitWith (fun _ => t) port b (.penDown d pin)) (truthy_eq_present pin hz)
    | penUp d pin =>
      exact congrArg (fun t => ebb3EmitWith (fun _ => t) port b (.penUp d pin)) (truthy_eq_present pin hz)
    | _ => rfl

example : ¬ suppliedZero (.absMove 1000 (some 7) (some 500)) := by decide
/-- the witnesses of F4: with the truthiness tests a supplied zero is dropped -/
example : legacyEmitWith truthy true true (.absMove 1000 (some 0) (some 500)) = some [⟨"HM", [1000]⟩] := by decide
example : legacyEmitWith truthy true true (.penDown 200 (some 0)) = some [⟨"SP", [0, 200]⟩] := by decide
example : ebb3EmitWith truthy true ⟨0, 0⟩ (.penUp 200 (some 0)) = some [⟨"SP", [1, 200]⟩] := by decide
example : legacyEmitWith truthy true true (.lowLevel 1 1 0 0 0 0 (some 0)) = some [⟨"LM", [1, 1, 0, 0, 0, 0]⟩] := by
  decide


/-! ## The same statements about the SOURCE-REGENERATED code

`Gen.ebb_motion_*` (the legacy helpers) and `Gen.EBBMotionWrap_*` / `Gen.EBB3_*` (the EBB3 methods) are regenerated
from `plotink/ebb_motion.py`, `ebb3_motion.py`, `ebb3_serial.py` on every run (`translator/pyio2lean.py`); the legacy
helpers call the regenerated `ebb_serial.command/query` (bridged to `Model/C07.lean` by `C07_gen_bridge`), the EBB3
methods are bridged to `Model/Ebb3.lean` by `Ebb3Gen.gen_bridge`.  `C06Gen.legacyGen fuel port verbose w r` /
`C06Gen.ebb3Gen fuel w r` is the call of the regenerated helper / method that serves the request `r`, on the encoded
arguments; `C06Gen.Wrote o w (some l)` / `Wrote3`: the call ended (value or escaping exception, never out of fuel) and
the port's write log grew by exactly the wire texts of `l`.

Domain.  Legacy: `C06Gen.Dom w.port` — every scripted fault is a serial I/O exception and every scripted line is ASCII
(acknowledgements, silence, error replies, garbage and I/O faults in any order: much more than the acknowledging board
of the model), of which a helper that sends one command and stops needs only the first half (`C07Gen.IoScript` in
`C06_gen_order`, `C06_gen_clamp`, `C06_gen_suppress`); fuel ≥ 101, and ≥ `n + 1` for the pause loop of `doTimedPause n`
(`C06Gen.FuelFor`).  EBB3: `Ebb3Gen.Good w` and no recorded error; fuel ≥ 26.  Covered in this section: every request the
legacy layer serves (`legacyGenFull`; `legacyGen` leaves out `queryMotorsPI`); the 14 EBB3 methods that transmit a single
command (those `C06Gen.ebb3Gen` serves).  A source whose helper formats another text, tests an optional argument by
truthiness, chunks or suppresses differently does not satisfy these theorems (the build fails). -/

open C06Gen in
/-- **Legacy layer, regenerated code, all 24 requests.**  Each helper writes exactly the documented command(s),
preceded by the version query for the two gated helpers — or, for these two, only the version query (that the command
follows only when the gate call returned `True` is `C06Gen.servo_timeout_gated`, `queryVoltage_gated`).  `legacyGenFull`
is `legacyGen` with `query_enable_motors`, which needs `RepliesFor`: each of its five replies carries the marker `PI,`. -/
theorem C06_gen_legacy_documented_full (b : Board) (fuel : Nat) (vb : PyObj.Val) (w : PyObj.World PyObj.NoObj) (r : Req)
    (o : PyObj.Out PyObj.NoObj) (hf : FuelFor fuel r) (hd : Dom w.port) (hrep : RepliesFor r w.port)
    (ho : legacyGenFull fuel true vb w r = some o) :
    ∃ sent, Wrote o w (some sent) ∧
      (sent = legacyGate r ++ documented b r ∨ (legacyGate r ≠ [] ∧ sent = legacyGate r)) := by
  obtain ⟨fwOk, hw⟩ := legacyGenFull_emit fuel true vb w r o hf hd (fun _ => hrep) ho
  have hs : legacySupports r := (legacyGenFull_isSome fuel true vb w r).mp (by rw [ho]; rfl)
  have hsome : ∀ f, ∃ l, legacyEmit true f r = some l := fun f =>
    Option.isSome_iff_exists.mp ((C06_supports true f b r).1.mpr hs)
  obtain ⟨l, hl⟩ := hsome fwOk
  refine ⟨l, by rw [← hl]; exact hw, ?_⟩
  cases fwOk with
  | true => exact Or.inl (C06_legacy_documented b r l hl)
  | false =>
    by_cases hg : legacyGate r = []
    · rw [(C06_legacy_gate r).2 hg] at hl
      exact Or.inl (C06_legacy_documented b r l hl)
    · rw [(C06_legacy_gate r).1 hg] at hl
      cases hl
      exact Or.inr ⟨hg, rfl⟩

open C06Gen in
/-- **Legacy layer, regenerated code**: the 23 helpers that need no hypothesis on the replies. -/
theorem C06_gen_legacy_documented (b : Board) (fuel : Nat) (vb : PyObj.Val) (w : PyObj.World PyObj.NoObj) (r : Req)
    (o : PyObj.Out PyObj.NoObj) (hf : FuelFor fuel r) (hd : Dom w.port) (ho : legacyGen fuel true vb w r = some o) :
    ∃ sent, Wrote o w (some sent) ∧
      (sent = legacyGate r ++ documented b r ∨ (legacyGate r ≠ [] ∧ sent = legacyGate r)) :=
  C06_gen_legacy_documented_full b fuel vb w r o hf hd (by cases r <;> first | trivial | cases ho)
    (by unfold legacyGenFull; rw [ho])

open C06Gen Ebb3Gen in
/-- **EBB3 layer, regenerated code.**  On a connected object with no recorded error each bridged method hands exactly
the documented command to the port, whatever the board replies. -/
theorem C06_gen_ebb3_documented (b : Board) (fuel : Nat) (hf : 26 ≤ fuel) (w : PyObj.World Gen.EBB3_Obj) (hg : Good w)
    (he : w.obj.err = .none) (hc : connected w = true) (r : Req) (o : PyObj.Out Gen.EBB3_Obj)
    (ho : ebb3Gen fuel w r = some o) :
    Wrote3 o w (some (documented b r)) := by
  obtain ⟨l, hl⟩ := ebb3Emit_of_gen b ho
  rw [← C06_ebb3_documented b r l hl, ← hl, ← hc]
  exact ebb3Gen_emit fuel hf b w hg he r o ho

open C06Gen Ebb3Gen in
/-- **The two regenerated layers transmit the same text** for the same request (the legacy gate query aside). -/
theorem C06_gen_layers_agree (b : Board) (fuel : Nat) (hf : 101 ≤ fuel) (vb : PyObj.Val) (r : Req)
    (w₁ : PyObj.World PyObj.NoObj) (o₁ : PyObj.Out PyObj.NoObj) (hf₁ : FuelFor fuel r) (hd : Dom w₁.port)
    (h₁ : legacyGen fuel true vb w₁ r = some o₁)
    (w₂ : PyObj.World Gen.EBB3_Obj) (o₂ : PyObj.Out Gen.EBB3_Obj) (hg : Good w₂) (he : w₂.obj.err = .none)
    (hc : connected w₂ = true) (h₂ : ebb3Gen fuel w₂ r = some o₂) :
    ∃ l₁ l₂, Wrote o₁ w₁ (some l₁) ∧ Wrote3 o₂ w₂ (some l₂) ∧
      (l₁ = legacyGate r ++ l₂ ∨ (legacyGate r ≠ [] ∧ l₁ = legacyGate r)) := by
  obtain ⟨l₁, hw₁, hcase⟩ := C06_gen_legacy_documented b fuel vb w₁ r o₁ hf₁ hd h₁
  exact ⟨l₁, documented b r, hw₁, C06_gen_ebb3_documented b fuel (by omega) w₂ hg he hc r o₂ h₂, hcase⟩

open C06Gen Ebb3Gen in
/-- **Order, regenerated code**: both `doXYMove` and `xy_move` append the bytes `SM,<dur>,<dy>,<dx>\r`. -/
theorem C06_gen_order (b : Board) (fuel : Nat) (hf : 101 ≤ fuel) (dx dy dur : Int) (vb : PyObj.Val) :
    (∀ (w : PyObj.World PyObj.NoObj), C07Gen.IoScript w.port →
      ∃ w', outWorld (Gen.ebb_motion_doXYMove fuel .port (.int dx) (.int dy) (.int dur) vb w) = some w' ∧
        w'.port.log = w.port.log ++
          [("SM," ++ Int.repr dur ++ "," ++ Int.repr dy ++ "," ++ Int.repr dx ++ "\r").toList]) ∧
    (∀ (w : PyObj.World Gen.EBB3_Obj), Good w → w.obj.err = .none → connected w = true →
      ∃ w', outWorld3 (Gen.EBBMotionWrap_xy_move fuel (.int dx) (.int dy) (.int dur) w) = some w' ∧
        w'.port.log = w.port.log ++
          [("SM," ++ Int.repr dur ++ "," ++ Int.repr dy ++ "," ++ Int.repr dx ++ "\r").toList]) := by
  have hwire : Cmd.wire ⟨"SM", [dur, dy, dx]⟩ = "SM," ++ Int.repr dur ++ "," ++ Int.repr dy ++ "," ++ Int.repr dx ++ "\r" :=
    (List.cons.inj (Option.some.inj (C06_order b dx dy dur).1)).1
  constructor
  · intro w hio
    obtain ⟨w', h1, h2⟩ := LegacyGen.doXYMove_bridge fuel hf true true dx dy dur vb w hio
    refine ⟨w', h1, ?_⟩
    rw [h2, ← hwire]
    rfl
  · intro w hg he hc
    obtain ⟨w', h1, h2⟩ := ebb3Gen_emit fuel (by omega) b w hg he (.xyMove dx dy dur) _ rfl
    refine ⟨w', h1, ?_⟩
    rw [h2, hc, ← hwire]
    rfl

open C06Gen in
/-- **Clamp, regenerated code**: `sendEnableMotors` appends `EM,<c>,<c>` with `c = clamp res` in 0..5. -/
theorem C06_gen_clamp (fuel : Nat) (hf : 101 ≤ fuel) (res : Int) (vb : PyObj.Val) (w : PyObj.World PyObj.NoObj)
    (hio : C07Gen.IoScript w.port) :
    ∃ w', outWorld (Gen.ebb_motion_sendEnableMotors fuel .port (.int res) vb w) = some w' ∧
      w'.port.log = w.port.log ++ [(Cmd.wire ⟨"EM", [clampDoc res, clampDoc res]⟩).toList] ∧
      0 ≤ clampDoc res ∧ clampDoc res ≤ 5 := by
  obtain ⟨w', h1, h2⟩ := sendEnableMotors_bridge fuel hf true res vb w hio
  refine ⟨w', h1, ?_, clampDoc_range res⟩
  rw [h2, show legacyEmit true true (.enable res res) = some [⟨"EM", [clampRes res, clampRes res]⟩] from if_pos rfl,
    clampRes_eq]
  rfl

open C06Gen in
/-- **Pause, regenerated code**: `doTimedPause` appends zero-moves `SM,<d>,0,0` whose durations each lie in 1..750 and
sum to `n` when `n ≥ 1`, and nothing when `n ≤ 0`. -/
theorem C06_gen_pause (fuel : Nat) (hf : 101 ≤ fuel) (n : Int) (hn : n.toNat + 1 ≤ fuel) (vb : PyObj.Val)
    (w : PyObj.World PyObj.NoObj) (hd : Dom w.port) :
    ∃ (ds : List Int) (w' : PyObj.World PyObj.NoObj) (v : PyObj.Val),
      Gen.ebb_motion_doTimedPause fuel .port (.int n) vb w = .val v w' ∧
      w'.port.log = w.port.log ++ ds.map (fun d => (Cmd.wire ⟨"SM", [d, 0, 0]⟩).toList) ∧
      (n ≤ 0 → ds = []) ∧ (1 ≤ n → (∀ d ∈ ds, 1 ≤ d ∧ d ≤ 750) ∧ ds.sum = n) := by
  obtain ⟨ds, hl, _, h0, h1⟩ := C06_pause ⟨0, 0⟩ n
  obtain ⟨w', v, e, hlog, _⟩ := doTimedPause_bridge fuel hf n hn vb w hd
  refine ⟨ds, w', v, e, ?_, h0, h1⟩
  rw [hlog, hl]
  simp [List.map_map, Function.comp_def]

open C06Gen in
/-- **Suppression, regenerated code**: `doLowLevelMove` leaves the write log untouched exactly when neither axis can
move. -/
theorem C06_gen_suppress (fuel : Nat) (hf : 101 ≤ fuel) (r1 s1 a1 r2 s2 a2 : Int) (clear : Option Int) (vb : PyObj.Val)
    (w : PyObj.World PyObj.NoObj) (hio : C07Gen.IoScript w.port) :
    ∃ w', outWorld (Gen.ebb_motion_doLowLevelMove fuel .port (.int r1) (.int s1) (.int a1) (.int r2) (.int s2) (.int a2)
        (encOpt clear) vb w) = some w' ∧
      (w'.port.log = w.port.log ↔ ((r1 = 0 ∧ a1 = 0) ∨ s1 = 0) ∧ ((r2 = 0 ∧ a2 = 0) ∨ s2 = 0)) := by
  obtain ⟨w', h1, h2⟩ := doLowLevelMove_bridge fuel hf r1 s1 a1 r2 s2 a2 clear vb w hio
  refine ⟨w', h1, ?_⟩
  have hs := (C06_suppress r1 s1 a1 r2 s2 a2 clear).1
  obtain ⟨l, hl⟩ := Option.isSome_iff_exists.mp
    ((C06_supports true true ⟨0, 0⟩ (.lowLevel r1 s1 a1 r2 s2 a2 clear)).1.mpr (by simp [legacySupports]))
  rw [hl] at h2 hs
  rw [h2, ← hs]
  simp only [Option.getD_some, List.append_right_eq_self, List.map_eq_nil_iff, Option.some.injEq]

open C06Gen Ebb3Gen in
/-- **No port, regenerated code**: with `port_name = None` (legacy) or `self.port = None` (EBB3) nothing is written. -/
theorem C06_gen_noport (b : Board) (fuel : Nat) (vb : PyObj.Val) (r : Req) :
    (∀ (w : PyObj.World PyObj.NoObj) (o : PyObj.Out PyObj.NoObj), FuelFor fuel r → Dom w.port →
      legacyGen fuel false vb w r = some o → ∃ w', outWorld o = some w' ∧ w'.port.log = w.port.log) ∧
    (∀ (w : PyObj.World Gen.EBB3_Obj) (o : PyObj.Out Gen.EBB3_Obj), 26 ≤ fuel → Good w → w.obj.err = .none →
      connected w = false → ebb3Gen fuel w r = some o → ∃ w', outWorld3 o = some w' ∧ w'.port.log = w.port.log) := by
  constructor
  · intro w o hf hd ho
    obtain ⟨fwOk, w', h1, h2⟩ := legacyGen_emit fuel false vb w r o hf (.of_dom hd) ho
    refine ⟨w', h1, ?_⟩
    rw [h2, legacyEmit_noport, List.map_nil, List.append_nil]
  · intro w o hf hg he hc ho
    obtain ⟨w', h1, h2⟩ := ebb3Gen_emit fuel hf b w hg he r o ho
    refine ⟨w', h1, ?_⟩
    rw [h2, hc, ebb3Emit_noport, List.map_nil, List.append_nil]


/-! ## Every constructor both layers serve (regenerated code)

`ebb3GenFull` adds to `ebb3Gen` the 15 remaining EBB3 methods — the query methods (`var_read`, `dio_b_read`,
`query_steps`, `query_voltage`, `query_current`, `motors_query_enabled`, `query_nickname`, `query_statusbyte`) and the
direct writes (`reboot`, `bootload`) for every script of the domain, and the methods that transmit several requests
(`timed_pause`, `motors_enable`, `dio_b_config`, `var_write_int32`, `var_read_int32`) under the acknowledging-script
hypothesis `C06Gen.AckFor` (`Ebb3.Acked`: each documented request, in turn, is answered within its
retry window by a line beginning with its name and without `Err:`, on a write that does not fault; `QL` payloads are
integers; the `QE` payload reports the board state). -/

open C06Gen Ebb3Gen in
/-- **EBB3 layer, regenerated code, all 29 requests.**  On a connected object with no recorded error every method hands
exactly the documented request(s) to the port — the multi-request methods when the script acknowledges them. -/
theorem C06_gen_ebb3_documented_full (b : Board) (fuel : Nat) (w : PyObj.World Gen.EBB3_Obj) (hg : Good w)
    (he : w.obj.err = .none) (hc : connected w = true) (r : Req) (o : PyObj.Out Gen.EBB3_Obj)
    (hside : Ebb3Side fuel w r) (hsup : ebb3Supports r) (hack : AckFor b r (absWorld w).dev)
    (ho : ebb3GenFull fuel w r = some o) :
    Wrote3 o w (some (documented b r)) := by
  unfold ebb3GenFull at ho
  cases h : ebb3Gen fuel w r with
  | some o' =>
    rw [h] at ho
    cases ho
    exact C06_gen_ebb3_documented b fuel hside.1 w hg he hc r o h
  | none =>
    rw [h] at ho
    obtain ⟨c, hcall, rfl⟩ := Option.map_eq_some_iff.mp ho
    obtain ⟨hfc, hpc⟩ := hside.2 c hcall
    exact ebb3New_emit fuel b w hg he hc r c hcall hfc hpc hsup hack

open C06Gen Ebb3Gen in
/-- **The two regenerated layers transmit the same text** for every request both serve (the legacy gate query aside). -/
theorem C06_gen_layers_agree_full (b : Board) (fuel : Nat) (vb : PyObj.Val) (r : Req)
    (w₁ : PyObj.World PyObj.NoObj) (o₁ : PyObj.Out PyObj.NoObj) (hf₁ : FuelFor fuel r) (hd : Dom w₁.port)
    (hrep : RepliesFor r w₁.port) (h₁ : legacyGenFull fuel true vb w₁ r = some o₁)
    (w₂ : PyObj.World Gen.EBB3_Obj) (o₂ : PyObj.Out Gen.EBB3_Obj) (hg : Good w₂) (he : w₂.obj.err = .none)
    (hc : connected w₂ = true) (hside : Ebb3Side fuel w₂ r) (hsup : ebb3Supports r) (hack : AckFor b r (absWorld w₂).dev)
    (h₂ : ebb3GenFull fuel w₂ r = some o₂) :
    ∃ l₁ l₂, Wrote o₁ w₁ (some l₁) ∧ Wrote3 o₂ w₂ (some l₂) ∧
      (l₁ = legacyGate r ++ l₂ ∨ (legacyGate r ≠ [] ∧ l₁ = legacyGate r)) := by
  obtain ⟨l₁, hw₁, hcase⟩ := C06_gen_legacy_documented_full b fuel vb w₁ r o₁ hf₁ hd hrep h₁
  exact ⟨l₁, documented b r, hw₁, C06_gen_ebb3_documented_full b fuel w₂ hg he hc r o₂ hside hsup hack h₂, hcase⟩

open C06Gen Ebb3Gen in
/-- **Coverage**: `legacyGenFull` serves exactly the requests the legacy layer serves, and `ebb3GenFull` serves every
request the EBB3 layer serves (`var_write_int32` for in-range 32-bit values). -/
theorem C06_gen_full_coverage (fuel : Nat) (b : Board) (vb : PyObj.Val) (w₁ : PyObj.World PyObj.NoObj)
    (w₂ : PyObj.World Gen.EBB3_Obj) (r : Req) :
    ((legacyGenFull fuel true vb w₁ r).isSome ↔ legacySupports r) ∧
    (ebb3Supports r → (ebb3GenFull fuel w₂ r).isSome) := by
  refine ⟨legacyGenFull_isSome fuel true vb w₁ r, fun h => ?_⟩
  exact ebb3GenFull_isSome fuel w₂ b r ((C06_supports true true b r).2.mpr h)

open C06Gen Ebb3Gen in
/-- **Pause, regenerated EBB3 code**: when the script acknowledges them, `timed_pause` appends zero-moves `SM,<d>,0,0`
whose durations each lie in 1..750 and sum to `n` (`n ≥ 1`), and nothing when `n ≤ 0`. -/
theorem C06_gen_pause_ebb3 (b : Board) (fuel : Nat) (n : Int) (hf : max 26 (n.toNat + 1) ≤ fuel) (w : PyObj.World Gen.EBB3_Obj)
    (hg : Good w) (he : w.obj.err = .none) (hc : connected w = true) (hack : AckFor b (.timedPause n) (absWorld w).dev) :
    ∃ (ds : List Int) (w' : PyObj.World Gen.EBB3_Obj),
      outWorld3 (Gen.EBBMotionWrap_timed_pause fuel (.int n) w) = some w' ∧
      w'.port.log = w.port.log ++ ds.map (fun d => (Cmd.wire ⟨"SM", [d, 0, 0]⟩).toList) ∧
      (n ≤ 0 → ds = []) ∧ (1 ≤ n → (∀ d ∈ ds, 1 ≤ d ∧ d ≤ 750) ∧ ds.sum = n) := by
  obtain ⟨ds, _, hl, h0, h1⟩ := C06_pause b n
  have hdoc : documented b (.timedPause n) = ds.map (fun d => ⟨"SM", [d, 0, 0]⟩) := by
    have := C06_ebb3_documented b (.timedPause n) _ hl
    exact this.symm
  obtain ⟨w', e1, e2⟩ := ebb3New_emit fuel b w hg he hc (.timedPause n) (.timed_pause n) rfl hf trivial trivial hack
  refine ⟨ds, w', e1, ?_, h0, h1⟩
  rw [e2, hdoc]
  simp [List.map_map, Function.comp_def]


section
open C06Gen Ebb3Gen PyObj
/-- non-vacuity of the domains: a script with an acknowledgement, a silent read, a serial fault and a failing write -/
def C06Gen.exPort : PyIO.Port := ⟨[.line ['O', 'K', '\r', '\n'], .empty, .raise .serialException], [.ok, .raise .osError], [], 0⟩
example : Dom C06Gen.exPort := by
  refine ⟨⟨fun c hc => ?_, fun c hc => ?_⟩, by decide⟩
  · simp [C06Gen.exPort] at hc; subst hc; show PyIO.catches _ _ = true; decide
  · simp [C06Gen.exPort] at hc; subst hc; show PyIO.catches _ _ = true; decide
example : FuelFor 1000 (.timedPause 751) := by unfold FuelFor; decide
example : (legacyGen 101 true .none ⟨⟨⟩, C06Gen.exPort, ⟨.ok (.list []), .none, true⟩⟩ (.absMove 1000 (some 0) (some 500))).isSome = true := rfl
example : Good ⟨{ Gen.EBB3_Obj.init with port := .port }, C06Gen.exPort, ⟨.ok (.list []), .none, true⟩⟩ := by
  refine ⟨⟨Or.inl rfl, trivial, trivial, Or.inl rfl, trivial, trivial, trivial⟩, fun c hc => ?_, fun c hc => ?_, fun b hb => ?_⟩
  · simp [C06Gen.exPort] at hc; subst hc; show PyIO.catches _ _ = true; decide
  · simp [C06Gen.exPort] at hc; subst hc; show PyIO.catches _ _ = true; decide
  · simp [C06Gen.exPort] at hb; subst hb; decide
/-- non-vacuity of the acknowledging-script and reply hypotheses -/
example : AckFor ⟨0, 0⟩ (.pbConfig 1 1 0) ⟨[.line ['P', 'O', '\r', '\n'], .line [], .line ['P', 'D']], []⟩ := by
  refine ⟨⟨rfl, ['P', 'O'], by decide, by decide, by decide⟩, ⟨rfl, ['P', 'D'], by decide, by decide, by decide⟩, trivial⟩
example : RepliesFor .queryMotorsPI ⟨[.line ['P', 'I', ',', '1'], .line ['P', 'I', ',', '0'], .line ['P', 'I', ',', '1'], .line ['P', 'I', ',', '1'], .line ['P', 'I', ',', '1']], [], [], 0⟩ := by
  refine ⟨⟨['P', 'I', ',', '1'], by decide, ['1'], rfl⟩, ⟨['P', 'I', ',', '0'], by decide, ['0'], rfl⟩,
    ⟨['P', 'I', ',', '1'], by decide, ['1'], rfl⟩, ⟨['P', 'I', ',', '1'], by decide, ['1'], rfl⟩,
    ⟨['P', 'I', ',', '1'], by decide, ['1'], rfl⟩, trivial⟩
end

end Plotink
