import Plotink.Proofs.X03

/-! # X03 — supplementary: `plot_utils.pathdata_first_point` / `pathdata_last_point`

Not one of the twenty listed properties; not registered in MANIFEST.json.  Both functions are regenerated from the source
on every run; the call of the dependency's parser `simplepath.parsePath(path)` is replaced by the parameter `parsed_path`
(a generic translator rule, recorded in `Gen/report.json`), i.e. the theorems are about what the functions do with *any*
parse result: a list of `(command, [numbers…])` pairs. -/

namespace Plotink
open Py Py.Val

/-- one parsed path segment `(command, params)` as the Python value -/
def encSeg (s : String × List Val) : Val := .tup [.str s.1, .tup s.2]
def encPath (p : List (String × List Val)) : Val := .tup (p.map encSeg)

/-- the `[x, y]` answer taken from the first two parameters of a segment -/
def xyOf (ps : List Val) : Val := .tup [getItem (.tup ps) 0, getItem (.tup ps) 1]

/-- the search loop of `pathdata_first_point`: the first `M` segment of the list wins -/
theorem X03_loop_first (R : Rounding) (amb : Nat) (its : List (String × List Val)) (c0 p0 : Val) :
    (∃ s, its.find? (fun s => s.1 == "M") = some s ∧
      Gen.pathdata_first_point_loop1 R amb (its.map encSeg) c0 p0 = .ret (xyOf s.2)) ∨
    (its.find? (fun s => s.1 == "M") = none ∧
      ∃ c p, Gen.pathdata_first_point_loop1 R amb (its.map encSeg) c0 p0 = .done (c, p)) := by
  induction its generalizing c0 p0 with
  | nil => exact Or.inr ⟨rfl, c0, p0, rfl⟩
  | cons s its ih =>
    rw [List.map_cons, encSeg, X03.loop_cons, List.find?_cons]
    cases h : s.1 == "M"
    · exact ih _ _
    · exact Or.inl ⟨s, rfl, rfl⟩

/-- **`pathdata_first_point`**: the first two parameters of the first `M` (moveto) segment of the parse result, `None`
when there is none — for every parse result -/
theorem X03_first_point (R : Rounding) (amb : Nat) (p : List (String × List Val)) :
    Gen.pathdata_first_point R amb (encPath p) =
      match p.find? (fun s => s.1 == "M") with
      | some s => xyOf s.2
      | none => .none_ := by
  unfold Gen.pathdata_first_point encPath
  simp only [Py.iter]
  rcases X03_loop_first R amb p .err .err with ⟨s, hs, e⟩ | ⟨hn, c, q, e⟩
  · rw [e, hs]
  · rw [e, hn]

example : Gen.pathdata_first_point Rounding.exact 15
    (encPath [("M", [.flt 1, .flt 2]), ("L", [.flt 3, .flt 4])]) = .tup [.flt 1, .flt 2] := by
  rw [X03_first_point]; rfl

/-- the same loop as regenerated inside `pathdata_last_point` -/
theorem X03_loop_last (R : Rounding) (amb : Nat) (its : List (String × List Val)) (c0 p0 : Val) :
    (∃ s, its.find? (fun s => s.1 == "M") = some s ∧
      Gen.pathdata_last_point_loop1 R amb (its.map encSeg) c0 p0 = .ret (xyOf s.2)) ∨
    (its.find? (fun s => s.1 == "M") = none ∧
      ∃ c p, Gen.pathdata_last_point_loop1 R amb (its.map encSeg) c0 p0 = .done (c, p)) := by
  simp only [X03.loop_last_eq]
  exact X03_loop_first R amb its c0 p0

theorem X03_index_last (l : List Val) (x : Val) : Py.index (.tup (l ++ [x])) (.int (-1)) = x :=
  Py.index_neg_one l x

theorem X03_slice_init (l : List Val) (x : Val) :
    Py.slice (.tup (l ++ [x])) .none_ (.int (-1)) = .tup l :=
  Py.slice_init l x

/-- **`pathdata_last_point`** on a non-empty parse result `pre ++ [(c, ps)]`: when the last command is `Z`/`z` (closepath)
the answer is the first two parameters of the *last* `M` before it (`None` if there is none); otherwise it is the last
two parameters of the last segment -/
theorem X03_last_point (R : Rounding) (amb : Nat) (pre : List (String × List Val)) (c : String) (ps : List Val) :
    Gen.pathdata_last_point R amb (encPath (pre ++ [(c, ps)])) =
      if Py.eq (Py.str_upper (.str c)) (.str "Z") then
        match pre.reverse.find? (fun s => s.1 == "M") with
        | some s => xyOf s.2
        | none => .none_
      else .tup [Py.index (.tup ps) (.int (-2)), Py.index (.tup ps) (.int (-1))] := by
  unfold Gen.pathdata_last_point encPath
  simp only [List.map_append, List.map_cons, List.map_nil, X03_index_last, X03_slice_init, encSeg, unpackN_tup2,
    getItem_cons_zero, getItem_cons_succ]
  split
  · simp only [Py.reversed_, Py.iter]
    have hr : (List.map encSeg pre).reverse = pre.reverse.map encSeg := by
      rw [← List.map_reverse]
    rw [hr]
    rcases X03_loop_last R amb pre.reverse (.str c) (.tup ps) with ⟨s, hs, e⟩ | ⟨hn, c', q, e⟩
    · rw [e, hs]
    · rw [e, hn]
  · rfl

example : Gen.pathdata_last_point Rounding.exact 15
    (encPath ([("M", [.flt 1, .flt 2]), ("L", [.flt 3, .flt 4])] ++ [("Z", [])])) = .tup [.flt 1, .flt 2] := by
  rw [X03_last_point]; rfl
example : Gen.pathdata_last_point Rounding.exact 15
    (encPath ([("M", [.flt 1, .flt 2])] ++ [("C", [.flt 0, .flt 0, .flt 5, .flt 5, .flt 3, .flt 4])])) = .tup [.flt 3, .flt 4] := by
  rw [X03_last_point]; rfl

end Plotink
