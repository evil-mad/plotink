import Plotink.Proofs.C15Connect
import Plotink.Proofs.C15Legacy
import Plotink.Proofs.C15GenEbb3

/-! # C15 — firmware version gating uses numeric version order and blocks unsupported boards

Model: `Plotink/Model/C15.lean` (hand-written, tied to `ebb3_serial.py`, `ebb_serial.py`, `ebb_motion.py` by the
correspondence run of `harness/c15.py`).  `vle` is the Spec order (numeric, component by component, a missing
component counting as 0); `versionGe` is what the code computes (`packaging`'s key comparison: trailing
zeros removed, then tuple comparison) and is the single definition called by both layers
(`minVersion3` for `EBB3.min_version`, `lminVersion` for `ebb_serial.min_version`). -/

namespace Plotink
open C15

/-- The version order is a total preorder, antisymmetric up to trailing zeros, characterised by the first
differing component; on triples it is the lexicographic order of the three numbers; and the comparison the
code performs (`versionGe`, both layers) computes exactly this order. -/
theorem C15_order :
    (∀ a, vle a a = true) ∧
    (∀ a b, vle a b = true ∨ vle b a = true) ∧
    (∀ a b c, vle a b = true → vle b c = true → vle a c = true) ∧
    (∀ a b, vle a b = true → vle b a = true → ∀ i, a.getD i 0 = b.getD i 0) ∧
    (∀ a b, vle a b = false ↔ ∃ i, (∀ j, j < i → a.getD j 0 = b.getD j 0) ∧ b.getD i 0 < a.getD i 0) ∧
    (∀ a b c x y z : Nat, vle [a, b, c] [x, y, z] = true ↔ a < x ∨ (a = x ∧ (b < y ∨ (b = y ∧ c ≤ z)))) ∧
    (∀ a b, versionGe a b = vle b a) :=
  ⟨vle_refl, vle_total, fun _ _ _ => vle_trans, fun _ _ => vle_antisymm, vle_false_iff, vle_triple,
    versionGe_eq_vle⟩

/-- Rendering a release as dot-separated decimals and parsing it back is the identity, for every non-empty
list of naturals (any number of digits) — in particular for all triples `a.b.c`. -/
theorem C15_roundtrip (l : List Nat) (hl : l ≠ []) : parseVersion (render l) = some l :=
  parseVersion_render l hl

example : parseVersion (render [2, 10, 0]) = some [2, 10, 0] := C15_roundtrip _ (by simp)

/-- Comparing two rendered triples with the code's comparison is the lexicographic comparison of the numbers. -/
theorem C15_triples (a b c x y z : Nat) :
    (∃ v g, parseVersion (render [a, b, c]) = some v ∧ parseVersion (render [x, y, z]) = some g ∧
      (versionGe v g = true ↔ x < a ∨ (x = a ∧ (y < b ∨ (y = b ∧ z ≤ c))))) := by
  refine ⟨[a, b, c], [x, y, z], C15_roundtrip _ (by simp), C15_roundtrip _ (by simp), ?_⟩
  rw [versionGe_eq_vle]
  exact vle_triple x y z a b c

/-- 2.10.0 is newer than 2.9.9 (and not the other way round) under the comparison the code uses. -/
example : versionGe [2, 10, 0] [2, 9, 9] = true ∧ versionGe [2, 9, 9] [2, 10, 0] = false := by decide

/-- Both layers decide "at least `thr`" by the same function of the same two texts: for a reply whose version
text parses to `v` and a threshold that parses to `g`, `EBB3.min_version` returns `vle g v` and
`ebb_serial.min_version` returns `vle g v`. -/
theorem C15_layers (P : Params) (st : St) (io : Io) (thr : Str) (v g : List Nat)
    (hg : parseVersion thr = some g) :
    (st.vparsed = some v → minVersion3 st thr = .ok (vle g v)) ∧
    (∀ io1 reply, lquery P io vQuery = (io1, .ok reply) → versionOf reply = some v →
      (lminVersion P io thr).2 = .ok (some (vle g v))) := by
  constructor
  · intro hv
    simp only [minVersion3, hg, hv, versionGe_eq_vle]
  · intro io1 reply hq hv
    exact lminVersion_of_reply (by rw [hq]) hv hg

example : minVersion3 { St.fresh with vparsed := some [2, 10, 0] } "2.9.9".toList = .ok true := by
  rw [String.toList_ofList]; decide +kernel

/-- `connect` on a disconnected object, whatever its previous state, returns `True` only after an identification
within the two probes; the accepted version is the one in the identifying reply, or — only when that reply has no
`Firmware Version ` text — a stale one, and it is at least the minimum. -/
theorem C15_connect_true_general (P : Params) (st : St) (given found caller : Option Str) (io : Io)
    (hp : st.port = false) (hres : (connect P st given found caller io).res = .ok true) :
    ∃ s m, Identifies io s ∧ parseVersion P.minVersion = some m ∧
      ((∃ v, versionOf s = some v ∧ vle m v = true) ∨
       (versionText s = none ∧ ∃ v, st.vparsed = some v ∧ vle m v = true)) := by
  rw [C15Gen.connect_eq_head P st given found caller io hp] at hres
  cases hh : C15Gen.connectHead P st given found io with
  | refused st' io' => rw [hh] at hres; cases hres
  | failed e st' io' => rw [hh] at hres; cases hres
  | pass st' io' => exact C15Gen.head_pass (fun _ _ h => h) P st given found io st' io' hh

/-- `connect` on a disconnected object that has no stale version returns `True` only if the device identified
itself as an EBB within the two probes and the version in that reply parsed to at least the minimum. -/
theorem C15_connect_true (P : Params) (st : St) (given found caller : Option Str) (io : Io)
    (hp : st.port = false) (hv : st.vparsed = none)
    (hres : (connect P st given found caller io).res = .ok true) :
    ∃ s v m, Identifies io s ∧ versionOf s = some v ∧ parseVersion P.minVersion = some m ∧ vle m v = true := by
  obtain ⟨s, m, hs, hm, ⟨v, h1, h2⟩ | ⟨_, v, hv', _⟩⟩ :=
    C15_connect_true_general P st given found caller io hp hres
  · exact ⟨s, v, m, hs, h1, hm, h2⟩
  · rw [hv] at hv'; cases hv'

/-- non-vacuity: a conforming 3.0.2 board is accepted with no error; what is sent after the identification
is the syntax-mode command and the nickname query. -/
example :
    let io : Io := ⟨[], [.line "EBBv13_and_above EB Firmware Version 3.0.2\r\n".toList, .line "CU\r\n".toList,
      .line "QT,Bob\r\n".toList], [], []⟩
    let out := connect Params.std St.fresh none (some "/dev/ttyACM0".toList) none io
    out.res = .ok true ∧ out.st.err = none ∧ out.st.name = some "Bob".toList ∧
      out.io.written = ["v\r".toList, "CU,10,1\r".toList, "QT\r".toList] := by
  -- the kernel is slow at decoding a long string literal: make it a list of characters first, then evaluate
  repeat rw [String.toList_ofList]
  decide +kernel

/-- For every rejection scenario of the statement (port cannot be opened; a `SerialException` during the
probes; silence or a non-EBB device on both probes; an EBB whose version is below the minimum) — and when no
port was located — `connect` returns `False`, an error is recorded, the object is blocked for every later
request, and what reached the device is at most two `v\r` probes (none at all when the port did not open). -/
theorem C15_connect_false (P : Params) (st : St) (given found caller : Option Str) (io : Io) (m : List Nat)
    (hp : st.port = false) (hm : parseVersion P.minVersion = some m)
    (hrej : found = none ∨ Rejected m io) :
    let out := connect P st given found caller io
    out.res = .ok false ∧ out.st.err ≠ none ∧ blocked out.st = true ∧
    (∃ k, k ≤ 2 ∧ out.io.written = io.written ++ List.replicate k vProbe ∧
      (found = none ∨ openAt io 0 = false → k = 0)) ∧
    (∀ io', requestWhenBlocked out.st io' = some (out.st, io')) := by
  intro out
  obtain ⟨h1, h2, h3, h4⟩ := connect_false P st given found caller io m hp hm hrej
  exact ⟨h1, h2, h3, h4, fun _ => if_pos h3⟩

/-- non-vacuity: firmware 2.10.0 is an instance of `oldFirmware` against the extracted minimum 3.0.2 -/
example : Rejected [3, 0, 2]
    ⟨[], [.line "EBBv13_and_above EB Firmware Version 2.10.0\r\n".toList], [], []⟩ := by
  refine .oldFirmware "EBBv13_and_above EB Firmware Version 2.10.0".toList [2, 10, 0] ?_ ?_ ?_
  all_goals repeat rw [String.toList_ofList]
  all_goals decide +kernel

example : Rejected [3, 0, 2] ⟨[], [.empty, .line "Marlin 1.0\r\n".toList], [], []⟩ :=
  .notEbb (by decide +kernel) (by decide +kernel)

example : Rejected [3, 0, 2] ⟨[false], [], [], []⟩ := .openFail (by decide)

/-- on a fresh script the written bytes are a prefix of `["v\r","v\r"]` -/
theorem C15_connect_false_prefix (P : Params) (st : St) (given found caller : Option Str) (io : Io) (m : List Nat)
    (hp : st.port = false) (hm : parseVersion P.minVersion = some m)
    (hrej : found = none ∨ Rejected m io) (hw : io.written = []) :
    (connect P st given found caller io).io.written <+: [vProbe, vProbe] := by
  obtain ⟨_, _, _, ⟨k, hk, hwr, _⟩, _⟩ := C15_connect_false P st given found caller io m hp hm hrej
  rw [hwr, hw, List.nil_append]
  exact replicate_prefix vProbe hk

example : (connect Params.std St.fresh none (some "p".toList) none
    ⟨[], [.empty, .line "Marlin 1.0\r\n".toList], [], []⟩).io.written = [vProbe, vProbe] := by
  repeat rw [String.toList_ofList]
  decide +kernel

/-- The scenario split is exhaustive: every script is one of the rejection scenarios, or identifies an EBB whose
reply carries a version at least the minimum, or identifies an EBB whose reply has no release-only version text
(the class the property leaves out). -/
theorem C15_scenarios (m : List Nat) (io : Io) :
    Rejected m io ∨ ∃ s, Identifies io s ∧ (versionOf s = none ∨ ∃ v, versionOf s = some v ∧ vle m v = true) := by
  cases hv : (handshake io).verified with
  | false =>
    left
    rcases (hs_unverified_iff io).mp hv with h | h | ⟨h0, h1⟩
    · exact .openFail h
    · exact .probeRaise h
    · exact .notEbb h0 h1
  | true =>
    obtain ⟨s, hs⟩ := (hs_verified_iff io).mp hv
    cases hvo : versionOf s with
    | none => exact Or.inr ⟨s, hs, Or.inl hvo⟩
    | some v =>
      cases hle : vle m v with
      | true => exact Or.inr ⟨s, hs, Or.inr ⟨v, hvo, hle⟩⟩
      | false => exact Or.inl (.oldFirmware s v hs hvo hle)

/-- Each gated legacy feature puts on the wire nothing, the version query `V\r`, or `V\r` followed by its own
command; the command is there only when the board's version reply (the first non-silent read outcome) parses
to a version at least the feature's gate.  Holds for every script, every retry limit, every no-OK list, and
whether or not the retry loop of `ebb_serial.query` decodes (DESIGN §9 F5). -/
theorem C15_gates (P : Params) (io : Io) :
    (∀ verbose, GateShape io (lqueryNickname P io verbose).1 P.gateNickQuery "QT\r".toList) ∧
    (∀ nick, GateShape io (lwriteNickname P io nick).1 P.gateNickWrite ("ST,".toList ++ nick ++ ['\r'])) ∧
    GateShape io (lreboot P io).1 P.gateReboot "RB\r".toList ∧
    GateShape io (lqueryVoltage P io).1 P.gateVoltage "QC\r".toList ∧
    (∀ t s, GateShape io (lservoTimeout P io t s).1 P.gateServo (srCmd t s)) := by
  refine ⟨fun verbose => ?_, fun nick => ?_, ?_, ?_, fun t s => ?_⟩
  · exact gateShape_gated P io _ _ _
      (fun io1 vs h => by
        simp only [h, ↓reduceIte]
        exact lquery_then_written P io1 _ _ (fun io2 raw => by simp only [apply_ite Prod.fst, ite_self]) _ rfl)
      (fun io1 vs h => by simp only [h, Bool.false_eq_true, ↓reduceIte, apply_ite Prod.fst, ite_self])
  · exact gateShape_gated P io _ _ _
      (fun io1 vs h => by simp only [h, ↓reduceIte]; exact lcommand_written P io1 _)
      (fun io1 vs h => by simp only [h, Bool.false_eq_true, ↓reduceIte])
  · exact gateShape_gated P io _ _ _
      (fun io1 vs h => by simp only [h, ↓reduceIte]; exact lcommand_written P io1 _)
      (fun io1 vs h => by simp only [h, Bool.false_eq_true, ↓reduceIte])
  · exact gateShape_gated P io _ _ _
      (fun io1 vs h => by
        simp only [h, Bool.not_true, Bool.false_eq_true, ↓reduceIte]
        exact lquery_then_written P io1 _ _ (fun io2 raw => by split; rfl; split <;> rfl) _ rfl)
      (fun io1 vs h => by simp only [h, Bool.not_false, ↓reduceIte])
  · exact gateShape_gated P io _ _ _
      (fun io1 vs h => by simp only [h, Bool.not_true, Bool.false_eq_true, ↓reduceIte]; exact lcommand_written P io1 _)
      (fun io1 vs h => by simp only [h, Bool.not_false, ↓reduceIte])

/-- non-vacuity: firmware 2.6.0 gets the `SR` command, 2.5.10 does not -/
example :
    (lservoTimeout Params.std ⟨[], [.line "EBBv13_and_above EB Firmware Version 2.6.0\r\n".toList], [], []⟩
      60000 none).1.written = ["V\r".toList, "SR,60000\r".toList] ∧
    (lservoTimeout Params.std ⟨[], [.line "EBBv13_and_above EB Firmware Version 2.5.10\r\n".toList], [], []⟩
      60000 none).1.written = ["V\r".toList] := by
  repeat rw [String.toList_ofList]
  decide +kernel

/-- The version literals of the source, as parsed by the model's own parser (the harness compares
`Params.std` with the literals it re-reads from the source on every run). -/
theorem C15_params :
    parseVersion Params.std.minVersion = some [3, 0, 2] ∧
    parseVersion Params.std.gateNickQuery = some [2, 5, 5] ∧
    parseVersion Params.std.gateNickWrite = some [2, 5, 5] ∧
    parseVersion Params.std.gateReboot = some [2, 5, 5] ∧
    parseVersion Params.std.gateVoltage = some [2, 2, 3] ∧
    parseVersion Params.std.gateServo = some [2, 6, 0] := by decide +kernel

/-! ## The same properties about the code REGENERATED from the source on every run

`Gen.ebb_serial_min_version`, `Gen.ebb_serial_reboot`, …, `Gen.EBB3_connect` are produced by `translator/pyio2lean.py`
from `plotink/ebb_serial.py`, `ebb_motion.py`, `ebb3_serial.py`; the version literals below are the ones standing in
that code (a changed literal, comparison or statement order changes the generated definition and these proofs stop
checking).  Scripts: faults are serial I/O exceptions, lines are ASCII (`PortOk`); version texts have no leading `v`
(`NoV`: the runtime's `parse` rejects one).  `fuel ≥ 101` covers the retry loops. -/

open C15Gen PyObj Gen in
/-- **Both layers, regenerated**: on a board whose version reply carries the release `v`, the regenerated legacy
`min_version(port, thr)` and the regenerated `EBB3.parse_version(reply)` followed by `EBB3.min_version(thr)` both return
`vle g v` (the Spec order of `C15_order`) for a threshold text that parses to `g`. -/
theorem C15_gen_layers (fuel : Nat) (hf : 101 ≤ fuel) (thr : List Char) (g v : List Nat) (hthr : NoV thr)
    (hg : parseVersion thr = some g) :
    (∀ (w : World NoObj) (reply : List Char), PortOk w.port → NoVScript (absIo w.port).reads →
      (lquery genParams (absIo w.port) vQuery).2 = .ok reply → versionOf reply = some v →
      ∃ p', ebb_serial_min_version fuel .port (.str thr) w = .val (.bool (vle g v)) { w with port := p' }) ∧
    (∀ (st : St) (p : PyIO.Port) (ext : Ext) (reply t : List Char), versionText reply = some t → NoV t →
      parseVersion t = some v →
      ∃ st1, EBB3_parse_version fuel (.str reply) ⟨encSt st, p, ext⟩ = .val .none ⟨encSt st1, p, ext⟩ ∧
        EBB3_min_version fuel (.str thr) ⟨encSt st1, p, ext⟩ = .val (.bool (vle g v)) ⟨encSt st1, p, ext⟩) := by
  refine ⟨fun w reply hp hnov hq hv => ?_, fun st p ext reply t => ebb3_layer_gen fuel thr g v hthr hg st p ext reply t⟩
  obtain ⟨p', e⟩ := min_version_gen fuel hf thr hthr w hp genParams genParams_ok hnov
  refine ⟨p', ?_⟩
  rw [e, lminVersion_of_reply hq hv hg]
  rfl

open C15Gen PyObj Gen in
/-- **Numeric order, regenerated, on all triples**: with the reply's version text `a.b.c` and the threshold text
`x.y.z` (decimal renderings of arbitrary naturals), the regenerated `EBB3` layer answers "at least" exactly when
`(x, y, z) ≤ (a, b, c)` lexicographically — and so does the regenerated legacy layer (`C15_gen_layers`). -/
theorem C15_gen_order (fuel : Nat) (hf : 101 ≤ fuel) (a b c x y z : Nat)
    (st : St) (p : PyIO.Port) (ext : Ext) (reply : List Char) (hr : versionText reply = some (render [a, b, c])) :
    ∃ st1 r, EBB3_parse_version fuel (.str reply) ⟨encSt st, p, ext⟩ = .val .none ⟨encSt st1, p, ext⟩ ∧
      EBB3_min_version fuel (.str (render [x, y, z])) ⟨encSt st1, p, ext⟩ = .val (.bool r) ⟨encSt st1, p, ext⟩ ∧
      (r = true ↔ x < a ∨ (x = a ∧ (y < b ∨ (y = b ∧ z ≤ c)))) := by
  obtain ⟨st1, h1, h2⟩ := order_gen fuel [a, b, c] [x, y, z] (by simp) (by simp) st p ext reply hr
  exact ⟨st1, _, h1, h2, vle_triple x y z a b c⟩

open C15Gen PyObj Gen in
/-- **The gates, regenerated.**  Each regenerated gated feature, called on a port, ends (value or escaping exception,
never out of fuel) having attempted the version query `V\r`, or `V\r` and then its own command — the command only
when the board's version reply (the first non-silent read outcome) parses to at least the gate that stands in the
regenerated code: 2.5.5 (nickname query / write, reboot), 2.2.3 (voltage), 2.6.0 (servo timeout). -/
theorem C15_gen_gates (fuel : Nat) (hf : 101 ≤ fuel) (w : World NoObj) (hp : PortOk w.port)
    (hnov : NoVScript (absIo w.port).reads) :
    (∀ vb, ∃ p', outPort (ebb_serial_query_nickname fuel .port vb w) = some p' ∧
      GenGate w.port p' ['2', '.', '5', '.', '5'] ['Q', 'T', '\r']) ∧
    (∀ nick, PyIO.isAscii nick = true → ∃ p', outPort (ebb_serial_write_nickname fuel .port (.str nick) w) = some p' ∧
      GenGate w.port p' ['2', '.', '5', '.', '5'] (['S', 'T', ','] ++ nick ++ ['\r'])) ∧
    (∃ p', outPort (ebb_serial_reboot fuel .port w) = some p' ∧
      GenGate w.port p' ['2', '.', '5', '.', '5'] ['R', 'B', '\r']) ∧
    (∀ vb, ∃ p', outPort (ebb_motion_queryVoltage fuel .port vb w) = some p' ∧
      GenGate w.port p' ['2', '.', '2', '.', '3'] ['Q', 'C', '\r']) ∧
    (∀ t s vb, ∃ p', outPort (ebb_motion_servo_timeout fuel .port (.int t) (encOptInt s) vb w) = some p' ∧
      GenGate w.port p' ['2', '.', '6', '.', '0'] (srCmd t s)) :=
  ⟨fun vb => query_nickname_gen fuel hf vb w hp genParams genParams_ok hnov,
   fun nick hn => write_nickname_gen fuel hf nick hn w hp genParams genParams_ok hnov,
   reboot_gen fuel hf w hp genParams genParams_ok hnov,
   fun vb => queryVoltage_gen fuel hf vb w hp genParams genParams_ok hnov,
   fun t s vb => servo_timeout_gen fuel hf t s vb w hp genParams genParams_ok hnov⟩

open C15Gen PyObj Gen in
/-- non-vacuity of the script hypotheses of the regenerated-code theorems: a prompt 2.6.0 board -/
example : let p : PyIO.Port := ⟨[.line "EBBv13_and_above EB Firmware Version 2.6.0\r\n".toList, .line "OK\r\n".toList], [], [], 0⟩
    PortOk p ∧ NoVScript (absIo p).reads := by
  intro p
  refine ⟨⟨⟨?_, ?_⟩, by simp only [p]; rw [String.toList_ofList]; decide +kernel⟩, ?_⟩
  · intro c hc; simp [p] at hc
  · intro c hc; simp [p] at hc
  · intro l t hl ht
    simp only [p, absIo, List.map, absRd, List.mem_cons, Rd.line.injEq, List.not_mem_nil, or_false] at hl
    rcases hl with hl | hl <;> rw [hl] at ht
    · have : versionText "EBBv13_and_above EB Firmware Version 2.6.0\r\n".toList = some "2.6.0".toList := by
        repeat rw [String.toList_ofList]
        decide +kernel
      rw [this] at ht; cases ht; rw [NoV, String.toList_ofList]; decide +kernel
    · have : versionText "OK\r\n".toList = none := by rw [String.toList_ofList]; decide +kernel
      rw [this] at ht; cases ht

open C15Gen PyObj Gen in
/-- **`connect` returns `True` only for an identified, supported board — regenerated code.**  On a disconnected
object with no stale version, whatever `_get_port_name` located: if the regenerated `EBB3.connect` returns `True`
then a reply within the two probes contained `EBB` and its version parsed to at least 3.0.2 (the literal in the
regenerated code). -/
theorem C15_gen_connect_true (fuel : Nat) (st : St) (hp : st.port = false) (hvp : st.vparsed = none)
    (given found caller : Option (List Char)) (p : PyIO.Port) (ext : Ext) (hok : PortOk p)
    (hloc : EBB3__get_port_name fuel (optStr given) ⟨encSt st, p, ext⟩
      = .val .none ⟨encSt (locSt st given found), p, ext⟩)
    (w' : World EBB3_Obj)
    (hres : EBB3_connect fuel (optStr given) (optStr caller) ⟨encSt st, p, ext⟩ = .val (.bool true) w') :
    ∃ s v, Identifies (ioOf ext p) s ∧ versionOf s = some v ∧ vle [3, 0, 2] v = true := by
  obtain ⟨st', io', hh⟩ := headSpec_true
    (connect_head_gen fuel genParams genParams_min st hp given found caller p ext hok hloc) hres
  obtain ⟨s, m, hs, hm, hor⟩ :=
    head_pass (fun _ _ => parseRelease_some) genParams st given found (ioOf ext p) st' io' hh
  rw [genParams_min, parse_minC] at hm
  cases hm
  rcases hor with ⟨v, h1, h2⟩ | ⟨_, v, h1, _⟩
  · exact ⟨s, v, hs, h1, h2⟩
  · rw [hvp] at h1; cases h1

open C15Gen PyObj Gen in
/-- **Every rejection scenario is refused — regenerated code.**  No port located, the port cannot be opened, a serial
I/O exception during the probes, no `EBB` in either reply, or an EBB older than 3.0.2: the regenerated `connect`
returns `False`, the object ends in exactly the state of the model's `connect` (an error is recorded, every later
request is blocked), and at most two `v\r` probes were attempted (none when the port did not open). -/
theorem C15_gen_connect_false (fuel : Nat) (st : St) (hp : st.port = false)
    (given found caller : Option (List Char)) (p : PyIO.Port) (ext : Ext) (hok : PortOk p)
    (hloc : EBB3__get_port_name fuel (optStr given) ⟨encSt st, p, ext⟩
      = .val .none ⟨encSt (locSt st given found), p, ext⟩)
    (hrej : found = none ∨ Rejected [3, 0, 2] (ioOf ext p))
    (hnov : ∀ s t, Identifies (ioOf ext p) s → versionText s = some t → NoV t) :
    ∃ p' k, EBB3_connect fuel (optStr given) (optStr caller) ⟨encSt st, p, ext⟩
        = .val (.bool false) ⟨encSt (connect genParams st given found caller (ioOf ext p)).st, p', ext⟩ ∧
      (connect genParams st given found caller (ioOf ext p)).st.err ≠ none ∧
      blocked (connect genParams st given found caller (ioOf ext p)).st = true ∧
      k ≤ 2 ∧ p'.log = p.log ++ List.replicate k vProbe ∧ (found = none ∨ ext.openOk = false → k = 0) := by
  have hm : parseVersion genParams.minVersion = some [3, 0, 2] := by rw [genParams_min]; exact parse_minC
  obtain ⟨_, herr, hbl, _⟩ := connect_false genParams st given found caller (ioOf ext p) [3, 0, 2] hp hm hrej
  have hhead := head_refused genParams st given found caller (ioOf ext p) [3, 0, 2] hp hm hrej
  have hcongr : connectHeadP Ebb3.parseRelease genParams st given found (ioOf ext p)
      = connectHead genParams st given found (ioOf ext p) := by
    apply headP_congr
    intro hv t ht
    obtain ⟨s, hs⟩ := (hs_verified_iff (ioOf ext p)).mp hv
    rw [hs_sv (ioOf ext p) s hs] at ht
    exact parseRelease_agree t (hnov s t hs ht)
  have h := connect_head_gen fuel genParams genParams_min st hp given found caller p ext hok hloc
  rw [hcongr, hhead] at h
  obtain ⟨p', k, e, hk, hl, hk0⟩ := h
  exact ⟨p', k, e, herr, hbl, hk, hl, hk0⟩

open C15Gen PyObj Gen in
/-- on a fresh port log, what the regenerated `connect` attempted to write to a refused device is a prefix of
`["v\r", "v\r"]` -/
theorem C15_gen_connect_false_prefix (fuel : Nat) (st : St) (hp : st.port = false)
    (given found caller : Option (List Char)) (p : PyIO.Port) (ext : Ext) (hok : PortOk p) (hlog : p.log = [])
    (hloc : EBB3__get_port_name fuel (optStr given) ⟨encSt st, p, ext⟩
      = .val .none ⟨encSt (locSt st given found), p, ext⟩)
    (hrej : found = none ∨ Rejected [3, 0, 2] (ioOf ext p))
    (hnov : ∀ s t, Identifies (ioOf ext p) s → versionText s = some t → NoV t) :
    ∃ w', EBB3_connect fuel (optStr given) (optStr caller) ⟨encSt st, p, ext⟩ = .val (.bool false) w' ∧
      w'.port.log <+: [vProbe, vProbe] := by
  obtain ⟨p', k, e, _, _, hk, hl, _⟩ := C15_gen_connect_false fuel st hp given found caller p ext hok hloc hrej hnov
  refine ⟨_, e, ?_⟩
  rw [hl, hlog, List.nil_append]
  exact replicate_prefix vProbe hk

open C15Gen PyObj Gen in
/-- non-vacuity of the location hypothesis: for a given name, `_get_port_name` of the regenerated code does what
`locSt` says (`find_named(...)` is the input `ext.findNamed`) -/
theorem C15_gen_located (fuel : Nat) (g : List Char) (found : Option (List Char)) (st : St)
    (p : PyIO.Port) (ext : Ext) (hext : ext.findNamed = optStr found) :
    EBB3__get_port_name fuel (optStr (some g)) ⟨encSt st, p, ext⟩
      = .val .none ⟨encSt (locSt st (some g) found), p, ext⟩ :=
  get_port_name_named fuel g found st p ext hext

end Plotink
