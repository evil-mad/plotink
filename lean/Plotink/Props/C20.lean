import Plotink.Proofs.C20Xml
import Plotink.Proofs.C20Hms
import Plotink.Proofs.C20Gen
/-! # C20 — text helpers (`plotink/text_utils.py`)

Strings are `List Char`.  `C20.escape` is the model of `xml_escape` (five sequential one-character
replacements in the source order), `C20.formatHms f64 q ms` the model of `format_hms` over the exact
rational value `q` of its argument (`f64` = binary64 rounding of the division by `1000.0`; every theorem
holds for any `f64`).  "Read back by a standard XML parser" is `C20.unescape` (lenient decoding) and
`C20.parse place` (strict: fails on a raw `<`, the raw delimiter quote, or an `&` that is not one of the five
predefined entities) for the three places element content / `"`-attribute / `'`-attribute.  The parser's
white-space normalisation of CR (content) and TAB/LF/CR (attribute values) is *not* in the model: see
finding F9 (`xml-whitespace-normalisation`), reproduced by the harness on every run. -/

namespace Plotink
open C20

/-- the five sequential replacements equal the one-pass character map (`&` first: the `&` of an inserted
entity is never escaped again, and no inserted entity contains a later target) -/
theorem C20_escape_eq_map (s : List Char) : escape s = s.flatMap escChar :=
  escape_eq_escapeMap s

/-- the escaped form contains none of `< > " '`, and every `&` in it begins one of the five entities -/
theorem C20_no_special (s : List Char) :
    (∀ c ∈ escape s, c ≠ '<' ∧ c ≠ '>' ∧ c ≠ '"' ∧ c ≠ '\'') ∧
    (∀ pre post, escape s = pre ++ '&' :: post → ∃ e ∈ entities, e <+: '&' :: post) := by
  rw [escape_eq_escapeMap]
  refine ⟨fun c hc => ?_, escapeMap_amp s⟩
  have h := escapeMap_no_bare s c hc
  unfold Bare at h
  refine ⟨fun e => h (Or.inl e), fun e => h (Or.inr (Or.inl e)), fun e => h (Or.inr (Or.inr (Or.inl e))),
    fun e => h (Or.inr (Or.inr (Or.inr e)))⟩

/-- non-vacuity: an `&` does occur in an escaped text -/
example : ∃ s pre post, escape s = pre ++ '&' :: post :=
  ⟨['&'], [], ['a', 'm', 'p', ';'], by rw [escape_eq_escapeMap]; simp [escapeMap, escChar, eAmp]⟩

/-- the strict parser accepts the escaped text in element content, in a `"`-attribute and in a
`'`-attribute, and reads the original text -/
theorem C20_roundtrip_strict (p : Place) (s : List Char) : parse p (escape s) = some s := by
  rw [escape_eq_escapeMap]; exact parse_escapeMap p s

/-- decoding the five entities gives back the original text, for every string (pre-escaped text such as
`&amp;`, entity-like fragments and mixed quotes are instances): the lenient decoder reads what the strict parser reads -/
theorem C20_roundtrip (s : List Char) : unescape (escape s) = s :=
  unescape_of_parse .content _ s (C20_roundtrip_strict .content s)

/-- instance: already escaped text is escaped again, not passed through -/
theorem C20_preescaped : escape ['&', 'a', 'm', 'p', ';'] = ['&', 'a', 'm', 'p', ';', 'a', 'm', 'p', ';'] := by
  rw [escape_eq_escapeMap]
  simp [escapeMap, escChar, eAmp]

/-- under 10 s (on the unrounded value): the text is the number `n = roundHE (1000 q)` of milliseconds
(within half a millisecond of `q`) printed as `n / 1000`, a point and exactly three digits, then `" Seconds"`;
reading the text back gives `n` -/
theorem C20_short (f64 : Rat → Rat) (q : Rat) (h0 : 0 ≤ q) (h10 : q < 10) :
    ∃ n : Nat, (n : Int) = Py.roundHE (1000 * q) ∧ n ≤ 10000 ∧ |(n : Rat) / 1000 - q| ≤ 1 / 2000 ∧
      formatHms f64 q false =
        natDigits (n / 1000) ++ '.' :: digitChar (n / 100 % 10) :: digitChar (n / 10 % 10) :: digitChar (n % 10) :: sSeconds ∧
      decodeMilli (formatHms f64 q false) = n := by
  have hlo : (0 : Int) ≤ Py.roundHE (1000 * q) := le_roundHE_of_le 0 _ (by push_cast; linarith)
  have hhi : Py.roundHE (1000 * q) ≤ 10000 := roundHE_le_of_le 10000 _ (by push_cast; linarith)
  obtain ⟨n, hr⟩ := Int.eq_ofNat_of_zero_le hlo
  have htext : formatHms f64 q false =
      natDigits (n / 1000) ++ '.' :: digitChar (n / 100 % 10) :: digitChar (n / 10 % 10) :: digitChar (n % 10) :: sSeconds := by
    rw [formatHms_seconds, if_pos h10, hr, fixed3_natCast]
    simp
  refine ⟨n, hr.symm, by omega, ?_, htext, ?_⟩
  · have he := roundHE_err (1000 * q)
    rw [hr, Int.cast_natCast, abs_le] at he
    rw [abs_le]
    constructor <;> linarith [he.1, he.2]
  · rw [htext, decodeMilli_fixed _ _ _ _ (by omega) (by omega) (by omega)]
    omega

example : ∃ q : Rat, 0 ≤ q ∧ q < 10 := ⟨1, by norm_num, by norm_num⟩

/-- 10 s and longer (on the unrounded value): with `r = roundHE q` — a nearest integer, `|r - q| ≤ 1/2` — the
text is `ss Seconds` when `r < 60`, `m:ss (Minutes, seconds)` when `60 ≤ r < 3600`, else
`h:mm:ss (Hours, minutes, seconds)`; the fields `mm = r / 60 % 60` and `ss = r % 60` are below 60 and printed
with exactly two digits (`two`); and the explicit decoder reads `r` back from the text -/
theorem C20_long (f64 : Rat → Rat) (q : Rat) (hq : 10 ≤ q) :
    ∃ r : Nat, (r : Int) = Py.roundHE q ∧ 10 ≤ r ∧ |(r : Rat) - q| ≤ 1 / 2 ∧
      (∀ z : Int, |(r : Rat) - q| ≤ |(z : Rat) - q|) ∧
      (r < 60 → formatHms f64 q false = two r ++ sSeconds) ∧
      (60 ≤ r → r < 3600 →
        formatHms f64 q false = natDigits (r / 60) ++ ':' :: two (r % 60) ++ sMinSec) ∧
      (3600 ≤ r →
        formatHms f64 q false = natDigits (r / 3600) ++ ':' :: two (r / 60 % 60) ++ ':' :: two (r % 60) ++ sHrMinSec) ∧
      r / 60 % 60 < 60 ∧ r % 60 < 60 ∧
      decode (formatHms f64 q false) = r := by
  have hlo : (10 : Int) ≤ Py.roundHE q := le_roundHE_of_le 10 q (by push_cast; exact hq)
  obtain ⟨r, hr⟩ := Int.eq_ofNat_of_zero_le (by omega : (0 : Int) ≤ Py.roundHE q)
  have hc : ((r : Nat) : Rat) = ((Py.roundHE q : Int) : Rat) := by rw [hr, Int.cast_natCast]
  have ht := formatHms_long f64 hq hr.symm
  refine ⟨r, hr.symm, by omega, hc ▸ roundHE_err q, fun z => hc ▸ roundHE_nearest q z,
    fun h => by rw [ht, hmsText, if_pos h], fun h h' => by rw [ht, hmsText, if_neg (by omega), if_pos h'],
    fun h => by rw [ht, hmsText, if_neg (by omega), if_neg (by omega)], by omega, by omega,
    by rw [ht, decode_hmsText]⟩

example : ∃ q : Rat, 10 ≤ q := ⟨10, le_refl _⟩

/-- two long durations print the same text only if they round to the same number of seconds -/
theorem C20_long_injective (f64 : Rat → Rat) (q q' : Rat) (hq : 10 ≤ q) (hq' : 10 ≤ q')
    (h : formatHms f64 q false = formatHms f64 q' false) : Py.roundHE q = Py.roundHE q' := by
  obtain ⟨r, hr, -, -, -, -, -, -, -, -, hd⟩ := C20_long f64 q hq
  obtain ⟨r', hr', -, -, -, -, -, -, -, -, hd'⟩ := C20_long f64 q' hq'
  rw [h, hd'] at hd
  rw [← hr, ← hr', hd]

example : ∃ q q' : Rat, 10 ≤ q ∧ 10 ≤ q' ∧ formatHms id q false = formatHms id q' false :=
  ⟨10, 10, le_refl _, le_refl _, rfl⟩

/-- carry at 59.5 s: rounds (half to even) to 60 and is printed in the minutes form -/
theorem C20_carry_minute (f64 : Rat → Rat) :
    formatHms f64 (119 / 2) false = "1:00 (Minutes, seconds)".toList := by
  have hr : Py.roundHE (119 / 2) = 60 := by
    have := roundHE_half 59
    norm_num at this
    exact this
  rw [formatHms_seconds, if_neg (by norm_num), hr]
  decide +kernel

/-- carry at 3599.5 s: rounds to 3600 and is printed in the hours form -/
theorem C20_carry_hour (f64 : Rat → Rat) :
    formatHms f64 (7199 / 2) false = "1:00:00 (Hours, minutes, seconds)".toList := by
  have hr : Py.roundHE (7199 / 2) = 3600 := by
    have := roundHE_half 3599
    norm_num at this
    exact this
  rw [formatHms_seconds, if_neg (by norm_num), hr]
  decide +kernel

/-- the precision switch: exactly 10 s is already printed in whole seconds -/
theorem C20_switch_ten (f64 : Rat → Rat) : formatHms f64 10 false = "10 Seconds".toList := by
  have hr : Py.roundHE 10 = 10 := by
    have := roundHE_int 10
    norm_num at this
    exact this
  rw [formatHms_seconds, if_neg (by norm_num), hr]
  decide +kernel

/-- a millisecond input gives the same text as the equivalent seconds, i.e. the binary64 quotient
`ms / 1000.0` that the function computes -/
theorem C20_ms (f64 : Rat → Rat) (ms : Rat) :
    formatHms f64 ms true = formatHms f64 (f64 (ms / 1000)) false :=
  rfl

/-! ## The same statements about the SOURCE-REGENERATED code

`Gen.xml_escape` / `Gen.format_hms` are regenerated from `plotink/text_utils.py` by the translator on every run
(`lean/Plotink/Gen/xml_escape.lean`, `format_hms.lean`).  A Python `str` is `Py.Val.str s` with `s : String`; the
models above are over the code-point list `s.toList`.  Numbers are Python `int`s or `float`s (`Py.IsNum v q`: `v` is
`.flt q` or an `.int` equal to `q`). -/

/-- **bridge** `Gen.xml_escape = C20.escape`, for every string and every rounding mode (there is no arithmetic) -/
theorem C20_gen_bridge_xml (R : Rounding) (amb : Nat) (s : String) :
    Gen.xml_escape R amb (.str s) = .str (String.ofList (escape s.toList)) := by
  unfold Gen.xml_escape escape
  have e1 : ("&" : String) = String.ofList ['&'] := by decide
  have e2 : ("<" : String) = String.ofList ['<'] := by decide
  have e3 : (">" : String) = String.ofList ['>'] := by decide
  have e4 : ("\"" : String) = String.ofList ['"'] := by decide
  have e5 : ("'" : String) = String.ofList ['\''] := by decide
  simp only [e1, e2, e3, e4, e5, str_replace_single, String.toList_ofList]
  rfl

/-- `C20_no_special` for the regenerated code -/
theorem C20_gen_no_special (R : Rounding) (amb : Nat) (s : String) :
    ∃ t : String, Gen.xml_escape R amb (.str s) = .str t ∧
      (∀ c ∈ t.toList, c ≠ '<' ∧ c ≠ '>' ∧ c ≠ '"' ∧ c ≠ '\'') ∧
      (∀ pre post, t.toList = pre ++ '&' :: post → ∃ e ∈ entities, e <+: '&' :: post) := by
  refine ⟨_, C20_gen_bridge_xml R amb s, ?_⟩
  rw [String.toList_ofList]
  exact C20_no_special s.toList

/-- `C20_roundtrip` / `C20_roundtrip_strict` for the regenerated code: the lenient decoder and the strict parser
(element content, `"`-attribute, `'`-attribute) read the original text back from what `xml_escape` returns -/
theorem C20_gen_roundtrip (R : Rounding) (amb : Nat) (s : String) :
    ∃ t : String, Gen.xml_escape R amb (.str s) = .str t ∧
      unescape t.toList = s.toList ∧ ∀ p : Place, parse p t.toList = some s.toList := by
  refine ⟨_, C20_gen_bridge_xml R amb s, ?_⟩
  rw [String.toList_ofList]
  exact ⟨C20_roundtrip s.toList, fun p => C20_roundtrip_strict p s.toList⟩

/-- `C20_ms` for the regenerated code: a millisecond input prints what the quotient `R.f64 (ms/1000)` prints in seconds -/
theorem C20_gen_ms (R : Rounding) (amb : Nat) (v : Py.Val) (q : Rat) (hv : Py.IsNum v q) :
    Gen.format_hms R amb v (.bool_ true) = Gen.format_hms R amb (.flt (R.f64 (q / 1000))) (.bool_ false) := by
  unfold Gen.format_hms
  simp only [Py.truthy, if_true, Bool.false_eq_true, if_false, truediv_num_1000 R amb hv]

/-- **bridge** `Gen.format_hms = C20.formatHms R.f64`, for every rounding mode `R` (the one float operation,
`duration / 1000.0`, is `R.f64` of the exact quotient), over the exact value `q` of the `int`/`float` argument.
Hypothesis: the duration that is formatted is not a negative number that rounds to zero thousandths (CPython then
prints `-0.000`; the model has no negative zero) — true for every `q ≥ 0` in seconds. -/
theorem C20_gen_bridge_hms (R : Rounding) (amb : Nat) (v : Py.Val) (q : Rat) (hv : Py.IsNum v q) (ms : Bool)
    (hs : 0 ≤ (if ms then R.f64 (q / 1000) else q) ∨
      Py.roundHE (1000 * (if ms then R.f64 (q / 1000) else q)) ≠ 0) :
    Gen.format_hms R amb v (.bool_ ms) = .str (String.ofList (formatHms R.f64 q ms)) := by
  cases ms with
  | true =>
    rw [C20_gen_ms R amb v q hv, C20_ms]
    exact format_hms_sec R amb _ _ (Or.inl rfl) (by simpa using hs)
  | false => exact format_hms_sec R amb v q hv (by simpa using hs)

/-- `C20_short` for the regenerated code (seconds, `0 ≤ q < 10`) -/
theorem C20_gen_short (R : Rounding) (amb : Nat) (v : Py.Val) (q : Rat) (hv : Py.IsNum v q) (h0 : 0 ≤ q) (h10 : q < 10) :
    ∃ n : Nat, (n : Int) = Py.roundHE (1000 * q) ∧ n ≤ 10000 ∧ |(n : Rat) / 1000 - q| ≤ 1 / 2000 ∧
      Gen.format_hms R amb v (.bool_ false) = .str (String.ofList
        (natDigits (n / 1000) ++ '.' :: digitChar (n / 100 % 10) :: digitChar (n / 10 % 10) :: digitChar (n % 10) :: sSeconds)) := by
  obtain ⟨n, hn, hle, herr, htext, _⟩ := C20_short R.f64 q h0 h10
  refine ⟨n, hn, hle, herr, ?_⟩
  rw [C20_gen_bridge_hms R amb v q hv false (Or.inl (by simpa using h0)), htext]

/-- `C20_long` for the regenerated code (seconds, `q ≥ 10`): the three forms, chosen by the rounded value -/
theorem C20_gen_long (R : Rounding) (amb : Nat) (v : Py.Val) (q : Rat) (hv : Py.IsNum v q) (hq : 10 ≤ q) :
    ∃ r : Nat, (r : Int) = Py.roundHE q ∧ 10 ≤ r ∧ |(r : Rat) - q| ≤ 1 / 2 ∧
      (r < 60 → Gen.format_hms R amb v (.bool_ false) = .str (String.ofList (two r ++ sSeconds))) ∧
      (60 ≤ r → r < 3600 → Gen.format_hms R amb v (.bool_ false) =
        .str (String.ofList (natDigits (r / 60) ++ ':' :: two (r % 60) ++ sMinSec))) ∧
      (3600 ≤ r → Gen.format_hms R amb v (.bool_ false) =
        .str (String.ofList (natDigits (r / 3600) ++ ':' :: two (r / 60 % 60) ++ ':' :: two (r % 60) ++ sHrMinSec))) := by
  obtain ⟨r, hr, h10, herr, _, f1, f2, f3, _⟩ := C20_long R.f64 q hq
  have hb := C20_gen_bridge_hms R amb v q hv false (Or.inl (by simp only [Bool.false_eq_true, if_false]; linarith))
  exact ⟨r, hr, h10, herr, fun h => by rw [hb, f1 h], fun h h' => by rw [hb, f2 h h'], fun h => by rw [hb, f3 h]⟩

/-- non-vacuity: an `int` and a `float` argument meet the hypotheses; the regenerated code prints 59.5 s as `1:00 …` -/
example : Py.IsNum (.int 75) 75 ∧ Py.IsNum (.flt (119 / 2)) (119 / 2) ∧ (10 : Rat) ≤ 119 / 2 :=
  ⟨Or.inr ⟨75, rfl, by norm_num⟩, Or.inl rfl, by norm_num⟩
example (R : Rounding) : Gen.format_hms R 53 (.flt (119 / 2)) (.bool_ false)
    = .str (String.ofList "1:00 (Minutes, seconds)".toList) := by
  rw [C20_gen_bridge_hms R 53 _ (119 / 2) (Or.inl rfl) false (Or.inl (by norm_num)), C20_carry_minute]

end Plotink
