import Plotink.Proofs.C10Term
import Plotink.Proofs.C10Gen

/-! # C10 — Bezier subdivision refines the same curve until every piece is flat

Model: `C10.subdivideCubicPath fuel sp flat` (`Model/C10.lean`, mirroring `plot_utils.subdivideCubicPath`
with `bezmisc.beziersplitatt` and the C09 predicate `points_in_tolerance`).  Spec: Bernstein evaluation
`bez`, restriction by blossoming `restrict`, `DyadicRefinement`, `RefinesPath`, `FlatPiece`. -/

namespace Plotink
open C10 C09

/-- de Casteljau split at `t` (`bezmisc.beziersplitatt`): the two halves are the same curve on
`[0,t]` and `[t,1]`; in particular at the literal one half. -/
theorem C10_split_is_restriction (c : Cubic) (t s : Rat) :
    bez (splitAt c t).1 s = bez c (t * s) ∧ bez (splitAt c t).2 s = bez c (t + (1 - t) * s) :=
  splitAt_restriction c t s

/-- The Spec's `restrict c a b` (defined by blossoming, independently of the split) *is* the curve
`c` on `[a,b]` reparametrised to `[0,1]`; its end points lie on `c` at `a` and `b`; and one
`beziersplitatt(·, 0.5)` of it gives the restrictions to the two halves of `[a,b]`. -/
theorem C10_restrict_is_curve (c : Cubic) (a b : Rat) :
    (∀ s : Rat, bez (restrict c a b) s = bez c (a + s * (b - a))) ∧
    (restrict c a b).p0 = bez c a ∧ (restrict c a b).p3 = bez c b ∧
    splitAt (restrict c a b) half = (restrict c a ((a + b) / 2), restrict c ((a + b) / 2) b) :=
  ⟨fun s => bez_restrict c a b s, restrict_p0 c a b, restrict_p3 c a b, splitAt_half_restrict c a b⟩

/-- On termination both inner control points of every piece are closer than `flat` to the chord
(the C09 distance, squared, `< flat²`). -/
theorem C10_flat (fuel : Nat) (sp r : List Node) (flat : Rat)
    (h : subdivideCubicPath fuel sp flat = some r) : ∀ c ∈ pieces r, FlatPiece c flat := by
  have hr := subdivideCubicPath_refined h
  cases sp with
  | nil => rw [show r = [] from hr]; intro c hc; cases hc
  | cons a rest => exact hr.flat_pieces

/-- On termination the new node list traces the same curve: its piece list is the old one with each
piece replaced by restrictions of that piece to dyadic intervals tiling `[0,1]` (so original nodes
survive in order, and every inserted node is a point of the original piece at a dyadic parameter);
the first node keeps its incoming handle and point, the last node its point and outgoing handle. -/
theorem C10_refines (fuel : Nat) (sp r : List Node) (flat : Rat)
    (h : subdivideCubicPath fuel sp flat = some r) :
    RefinesPath (pieces sp) (pieces r) ∧
    r.head?.map (fun n => (n.hin, n.p)) = sp.head?.map (fun n => (n.hin, n.p)) ∧
    r.getLast?.map (fun n => (n.p, n.hout)) = sp.getLast?.map (fun n => (n.p, n.hout)) := by
  have hr := subdivideCubicPath_refined h
  cases sp with
  | nil => rw [show r = [] from hr]; exact ⟨RefinesPath.nil, rfl, rfl⟩
  | cons a rest =>
    obtain ⟨h1, h2⟩ := hr.tree
    obtain ⟨hh, t, rfl⟩ := hr.head
    exact ⟨h1.path, rfl, h2⟩

/-- What a `DyadicRefinement` says about nodes: the chunk replacing piece `c` starts at `c.p0`, ends at
`c.p3` (original nodes survive, in order), and every leaf starts and ends on the original curve. -/
theorem C10_refinement_nodes (c : Cubic) (l : List Cubic) (h : DyadicRefinement c l) :
    l.head?.map Cubic.p0 = some c.p0 ∧ l.getLast?.map Cubic.p3 = some c.p3 ∧
    ∀ x ∈ l, ∃ t0 t1 : Rat, 0 ≤ t0 ∧ t0 < t1 ∧ t1 ≤ 1 ∧ x.p0 = bez c t0 ∧ x.p3 = bez c t1 := by
  obtain ⟨ivs, hd, ht, rfl⟩ := h
  obtain ⟨e1, e2⟩ := Tiles.ends ivs 0 1 ht
  refine ⟨?_, ?_, ?_⟩
  · cases ivs with
    | nil => simp at e1
    | cons iv t =>
      simp only [List.head?_cons, Option.map_some, Option.some.injEq] at e1
      simp [e1, restrict_p0, bez_zero]
  · rw [List.getLast?_map]
    cases hl : ivs.getLast? with
    | none => rw [hl] at e2; simp at e2
    | some iv =>
      rw [hl] at e2
      simp only [Option.map_some, Option.some.injEq] at e2
      simp [e2, restrict_p3, bez_one]
  · intro x hx
    obtain ⟨iv, hiv, rfl⟩ := List.mem_map.mp hx
    obtain ⟨k, j, hj, h1, h2⟩ := hd iv hiv
    have hp : (0 : Rat) < 2 ^ k := by positivity
    refine ⟨iv.1, iv.2, ?_, ?_, ?_, restrict_p0 _ _ _, restrict_p3 _ _ _⟩
    · rw [h1]; positivity
    · rw [h1, h2]; exact div_lt_div_of_pos_right (by linarith) hp
    · rw [h2, div_le_one hp]
      have : (j : Rat) + 1 ≤ 2 ^ k := by exact_mod_cast hj
      exact this

/-- Termination: for positive flatness some fuel suffices (the squared edges of the control polygon
shrink by 4 at every split; a piece with all edges shorter than `flat` is flat), and the result does
not depend on the fuel. -/
theorem C10_terminates (sp : List Node) (flat : Rat) (hflat : 0 < flat) :
    (∃ fuel r, subdivideCubicPath fuel sp flat = some r) ∧
    (∀ f1 f2 r1 r2, subdivideCubicPath f1 sp flat = some r1 → subdivideCubicPath f2 sp flat = some r2 → r1 = r2) := by
  constructor
  · cases sp with
    | nil => exact ⟨1, [], rfl⟩
    | cons a rest =>
      obtain ⟨r, hr⟩ := refined_total flat hflat rest a
      obtain ⟨fuel, hf⟩ := hr.subdivide
      exact ⟨fuel, r, hf []⟩
  · intro f1 f2 r1 r2 h1 h2
    have e1 := subdivideCubicPath_refined h1
    have e2 := subdivideCubicPath_refined h2
    cases sp with
    | nil => rw [show r1 = [] from e1, show r2 = [] from e2]
    | cons a rest => exact e1.unique e2

/-- non-vacuity of the hypothesis `subdivideCubicPath fuel sp flat = some r` of `C10_flat` / `C10_refines`:
by `C10_terminates` it is satisfiable for *every* node list and positive flatness; concretely: -/
example : subdivideCubicPath 2 [⟨(0,0),(0,0),(1,0)⟩, ⟨(2,0),(3,0),(3,0)⟩] 1
    = some [⟨(0,0),(0,0),(1,0)⟩, ⟨(2,0),(3,0),(3,0)⟩] := by
  decide +kernel

example (sp : List Node) : ∃ fuel r, subdivideCubicPath fuel sp 1 = some r :=
  (C10_terminates sp 1 (by norm_num)).1

/-! ## The same statements about the SOURCE-REGENERATED code

`Gen.subdivideCubicPath` is regenerated from `plotink/plot_utils.py` on every run, its dependency
`Gen.beziersplitatt` (with `Gen.tpoint`) from the installed `ink_extensions/bezmisc.py` (hash in `Gen/report.json`),
`Gen.points_in_tolerance` from `plot_utils.py`.  Exact arithmetic (`Rounding.exact`); a node list is
`C10.encNodes sp` (lists `[hin, p, hout]` of `[x, y]` floats); the in-place rewrite of `s_p` is returned as
`(None, new s_p)`; the two `while True` loops run on `fuel`. -/

/-- `beziersplitatt`, regenerated from the installed dependency: de Casteljau, the model's `splitAt` -/
theorem C10_gen_split (amb : Nat) (c : Cubic) (t : Rat) :
    Gen.beziersplitatt Rounding.exact amb (encCubic c) (.flt t) =
      .tup [encCubic (splitAt c t).1, encCubic (splitAt c t).2] :=
  split_bridge amb c t

/-- **bridge** `Gen.subdivideCubicPath = C10.subdivideCubicPath`: whatever the model returns with fuel `n`, the
regenerated code returns for every fuel above `n` -/
theorem C10_gen_bridge (amb n fuel : Nat) (sp r : List Node) (flat : Rat) (hf : n < fuel)
    (h : subdivideCubicPath n sp flat = some r) :
    Gen.subdivideCubicPath Rounding.exact amb fuel (encNodes sp) (.flt flat) (.int 1) = .val (.tup [.none_, encNodes r]) := by
  obtain ⟨F, rfl⟩ : ∃ F, fuel = F + 1 := ⟨fuel - 1, by omega⟩
  unfold Gen.subdivideCubicPath
  simp only
  rw [show (Py.Val.int 1) = Py.Val.int ((1 : Nat) : Int) from rfl,
    outer_loop amb flat n F sp 1 r _ _ _ _ _ _ _ _ (by omega) (le_refl _) h]

/-- `C10_terminates` for the regenerated code: for positive flatness there is a fuel from which on the regenerated
function returns — the same node list `r` for every such fuel (no `fuelOut`, no exception) -/
theorem C10_gen_terminates (amb : Nat) (sp : List Node) (flat : Rat) (hflat : 0 < flat) :
    ∃ (fuel0 : Nat) (r : List Node), ∀ fuel, fuel0 ≤ fuel →
      Gen.subdivideCubicPath Rounding.exact amb fuel (encNodes sp) (.flt flat) (.int 1) = .val (.tup [.none_, encNodes r]) := by
  obtain ⟨n, r, h⟩ := (C10_terminates sp flat hflat).1
  exact ⟨n + 1, r, fun fuel hf => C10_gen_bridge amb n fuel sp r flat (by omega) h⟩

/-- `C10_flat` for the regenerated code: the node list it returns (for every sufficient fuel) has only flat pieces -/
theorem C10_gen_flat (amb : Nat) (sp : List Node) (flat : Rat) (hflat : 0 < flat) :
    ∃ (fuel0 : Nat) (r : List Node), (∀ fuel, fuel0 ≤ fuel →
      Gen.subdivideCubicPath Rounding.exact amb fuel (encNodes sp) (.flt flat) (.int 1) = .val (.tup [.none_, encNodes r])) ∧
      ∀ c ∈ pieces r, FlatPiece c flat := by
  obtain ⟨n, r, h⟩ := (C10_terminates sp flat hflat).1
  exact ⟨n + 1, r, fun fuel hf => C10_gen_bridge amb n fuel sp r flat (by omega) h, C10_flat n sp r flat h⟩

/-- `C10_refines` for the regenerated code: the returned node list traces the same curve — every original piece
replaced by its restrictions to dyadic intervals tiling `[0,1]`; outer handles and end nodes intact -/
theorem C10_gen_refines (amb : Nat) (sp : List Node) (flat : Rat) (hflat : 0 < flat) :
    ∃ (fuel0 : Nat) (r : List Node), (∀ fuel, fuel0 ≤ fuel →
      Gen.subdivideCubicPath Rounding.exact amb fuel (encNodes sp) (.flt flat) (.int 1) = .val (.tup [.none_, encNodes r])) ∧
      RefinesPath (pieces sp) (pieces r) ∧
      r.head?.map (fun n => (n.hin, n.p)) = sp.head?.map (fun n => (n.hin, n.p)) ∧
      r.getLast?.map (fun n => (n.p, n.hout)) = sp.getLast?.map (fun n => (n.p, n.hout)) := by
  obtain ⟨n, r, h⟩ := (C10_terminates sp flat hflat).1
  exact ⟨n + 1, r, fun fuel hf => C10_gen_bridge amb n fuel sp r flat (by omega) h, C10_refines n sp r flat h⟩

/-- non-vacuity / instance: an already flat two-node path comes back unchanged from the regenerated code -/
example : Gen.subdivideCubicPath Rounding.exact 53 3 (encNodes [⟨(0,0),(0,0),(1,0)⟩, ⟨(2,0),(3,0),(3,0)⟩]) (.flt 1) (.int 1)
    = .val (.tup [.none_, encNodes [⟨(0,0),(0,0),(1,0)⟩, ⟨(2,0),(3,0),(3,0)⟩]]) :=
  C10_gen_bridge 53 2 3 _ _ 1 (by decide) (by decide +kernel)

end Plotink
