import Plotink.Proofs.C01
import Plotink.Proofs.ContractIeee

/-! # C01 — timed-move prediction equals the firmware step-accumulator recurrence

The theorems are stated about the *generated* definitions `Gen.move_dist_lt`, `Gen.moveDistLM`,
`Gen.moveDistLMA` (regenerated from `plotink/ebb_calc.py` / `ebb_motion.py` on every run) against the
independent firmware recurrence of `Model/Firmware.lean` (`Fw.lt`, `Fw.ltSpec`, `Fw.ltClear`).

`R : Rounding` is the arithmetic the Python code runs on (binary64 `/`, mpmath at `prec` bits); the only
thing assumed about it is `ContractExact R`: a value representable with `p` significant bits is returned
unchanged by rounding to `p` bits (`Proofs/Contract.lean`; proved instances: `Rounding.exact` and the
round-to-nearest-even `Rounding.ieee` that the driver runs, `Proofs/ContractIeee.lean`).
`ambient` is the mpmath precision left behind by the caller. It is universally quantified and does not
occur on the right-hand sides: the generated code sets `prec := Py.dpsToPrec 30` itself (the
`mpmath.mp.dps = 30` statement) — deleting that statement makes `Gen.move_dist_lt` use `ambient` and
`C01_main` stops checking. -/

namespace Plotink
open Py Py.Val

/-- the accumulator argument: `"clear"` or an integer -/
def accArg : Option Int → Val
  | none => .str "clear"
  | some a => .int a

/-- Domain of the main theorem.

The property's domain is "every per-tick rate `|r_k| ≤ 2^31 - 1` for `k = 1..T`, `T` up to `2^32`,
start accumulator in `[0, 2^31)`". The proof only needs the *magnitude envelope* below, which the
per-tick condition implies: two consecutive ticks differ by `accel`, so `|accel| ≤ 2·(2^31-1)`, and
`rate = r_1 - accel + trunc(accel/2)` then gives `|rate| < 2^32` (`C01_envelope`, for `T ≥ 2`; for a
one-tick move the per-tick condition bounds only `rate + accel - trunc(accel/2)`, and `|accel| ≤ 2^32` is
the range of the command's signed 32-bit acceleration field — `C01_envelope_one`). So the theorem
covers strictly more than the property asks (`C01_main_ticks` is the statement with the per-tick
hypothesis). -/
structure ValidLT (rate accel T : Int) (acc : Option Int) : Prop where
  hT1 : 1 ≤ T
  hT : T ≤ 2 ^ 32
  hr : |rate| ≤ 2 ^ 32
  ha : |accel| ≤ 2 ^ 32
  hacc : ∀ a, acc = some a → 0 ≤ a ∧ a < 2 ^ 31

/-- closed forms of the recurrence: the rate at tick `k` is an arithmetic progression from the lowered
start rate, and twice the accumulated total is a quadratic in `T`. -/
theorem C01_closed (rate accel : Int) (T : Nat) (a0 : Int) :
    Fw.ltRate rate accel T = rate - Fw.tdiv accel 2 + T * accel ∧
    2 * Fw.ltTotal rate accel T a0 = 2 * a0 + 2 * T * (rate - Fw.tdiv accel 2) + accel * T * (T + 1) ∧
    Fw.ltTotal rate accel (T + 1) a0 = Fw.ltTotal rate accel T a0 + Fw.ltRate rate accel (T + 1) :=
  ⟨ltRate_closed rate accel T, ltTotal_closed rate accel T a0, ltTotal_succ rate accel T a0⟩

/-- the clear rule. `Fw.ltClear` looks at ticks 1 and 2 only; that is enough: every longer look-ahead
gives the same answer, and the answer is `2^31 - 1` exactly when the first non-zero per-tick rate of the
(unbounded) recurrence is negative, `0` otherwise (first non-zero rate positive, or no motion at all). -/
theorem C01_clear_iff (rate accel : Int) :
    (∀ fuel, 2 ≤ fuel →
      Fw.firstMotionBackward (Fw.ltRate rate accel) 1 fuel = Fw.firstMotionBackward (Fw.ltRate rate accel) 1 2) ∧
    (Fw.ltClear rate accel = 2 ^ 31 - 1 ↔
      ∃ k, 1 ≤ k ∧ Fw.ltRate rate accel k < 0 ∧ ∀ j, 1 ≤ j → j < k → Fw.ltRate rate accel j = 0) ∧
    (Fw.ltClear rate accel = 0 ↔
      ¬ ∃ k, 1 ≤ k ∧ Fw.ltRate rate accel k < 0 ∧ ∀ j, 1 ≤ j → j < k → Fw.ltRate rate accel j = 0) := by
  have key := firstMotionBackward_two_iff rate accel
  unfold BackwardFirst at key
  refine ⟨fun fuel hf => firstMotionBackward_fuel rate accel fuel hf, ?_, ?_⟩ <;>
  · rw [← key]; unfold Fw.ltClear Fw.two31
    by_cases h : Fw.firstMotionBackward (Fw.ltRate rate accel) 1 2 = true <;> simp [h]

/-- the per-tick range condition of the property implies the magnitude envelope of `ValidLT` (`T ≥ 2`) -/
theorem C01_envelope (rate accel : Int) (T : Nat) (hT : 2 ≤ T)
    (hticks : ∀ k, 1 ≤ k → k ≤ T → |Fw.ltRate rate accel k| ≤ 2 ^ 31 - 1) :
    |rate| ≤ 2 ^ 32 ∧ |accel| ≤ 2 ^ 32 := by
  have h1 := hticks 1 (le_refl _) (by omega)
  have h2 := hticks 2 (by omega) hT
  rw [ltRate_closed, abs_le] at h1 h2
  push_cast at h1 h2
  have hn := tdiv2_near accel
  rw [abs_le, abs_le]
  omega

/-- one-tick moves: the envelope follows from the tick-1 rate and the acceleration field's range -/
theorem C01_envelope_one (rate accel : Int) (ha : |accel| ≤ 2 ^ 32)
    (h1 : |Fw.ltRate rate accel 1| ≤ 2 ^ 31 - 1) : |rate| ≤ 2 ^ 32 := by
  rw [ltRate_closed, abs_le] at h1
  rw [abs_le] at ha
  push_cast at h1
  have hn := tdiv2_near accel
  rw [abs_le]; omega

/-- **Main theorem.** On the valid domain, for every arithmetic meeting the exactness contract and every
ambient precision, the generated `move_dist_lt` returns exactly the firmware recurrence's
`(floor(total / 2^31), total mod 2^31)`, the total started from the given accumulator or, for `"clear"`,
from `Fw.ltClear`. -/
theorem C01_main {R : Rounding} {rate accel T : Int} {acc : Option Int}
    (hR : ContractExact R) (hv : ValidLT rate accel T acc) (ambient : Nat) :
    Gen.move_dist_lt R ambient (.int rate) (.int accel) (.int T) (accArg acc) =
      .tup [.int (Fw.ltSpec rate accel T.toNat acc).1, .int (Fw.ltSpec rate accel T.toNat acc).2] := by
  obtain ⟨hT1, hT, hr, ha, hacc⟩ := hv
  cases acc with
  | none =>
    simp only [accArg, Fw.ltSpec, Fw.two31]
    rw [move_dist_lt_clear hR ambient rate accel T ha, ← C03.startAcc_none]
    exact move_dist_lt_core hR ambient rate accel T _ hT1 hT hr ha (C03.startAcc_range rate accel none fun _ h => by cases h)
  | some a =>
    simp only [accArg, Fw.ltSpec, Fw.two31]
    exact move_dist_lt_core hR ambient rate accel T a hT1 hT hr ha (hacc a rfl)

/-- the main theorem with the property's own domain predicate (per-tick rates within `±(2^31 − 1)`)
in place of the magnitude envelope -/
theorem C01_main_ticks {R : Rounding} {rate accel T : Int} {acc : Option Int}
    (hR : ContractExact R) (hT1 : 1 ≤ T) (hT : T ≤ 2 ^ 32)
    (hacc : ∀ a, acc = some a → 0 ≤ a ∧ a < 2 ^ 31)
    (hticks : ∀ k : Nat, 1 ≤ k → (k : Int) ≤ T → |Fw.ltRate rate accel k| ≤ 2 ^ 31 - 1)
    (hone : T = 1 → |accel| ≤ 2 ^ 32) (ambient : Nat) :
    Gen.move_dist_lt R ambient (.int rate) (.int accel) (.int T) (accArg acc) =
      .tup [.int (Fw.ltSpec rate accel T.toNat acc).1, .int (Fw.ltSpec rate accel T.toNat acc).2] := by
  apply C01_main hR _ ambient
  by_cases h1 : T = 1
  · have ha := hone h1
    exact ⟨hT1, hT, C01_envelope_one rate accel ha (hticks 1 (le_refl _) (by omega)), ha, hacc⟩
  · obtain ⟨hr, ha⟩ := C01_envelope rate accel T.toNat (by omega) (fun k hk1 hk2 => hticks k hk1 (by omega))
    exact ⟨hT1, hT, hr, ha, hacc⟩

/-- position is the floor of the total over `2^31` and the remainder lies in `[0, 2^31)`: the Spec's pair
is the unique `(pos, rem)` with `total = pos·2^31 + rem`, `0 ≤ rem < 2^31` — and so is what the generated
code returns on the valid domain. -/
theorem C01_range {R : Rounding} {rate accel T : Int} {acc : Option Int}
    (hR : ContractExact R) (hv : ValidLT rate accel T acc) (ambient : Nat) :
    ∃ pos rem, Gen.move_dist_lt R ambient (.int rate) (.int accel) (.int T) (accArg acc) = .tup [.int pos, .int rem] ∧
      0 ≤ rem ∧ rem < 2 ^ 31 ∧
      pos * 2 ^ 31 + rem =
        Fw.ltTotal rate accel T.toNat (match acc with | some a => a | none => Fw.ltClear rate accel) := by
  have hm := C01_main hR hv ambient
  have key : ∀ tot : Int, 0 ≤ tot % 2147483648 ∧ tot % 2147483648 < 2 ^ 31 ∧
      tot / 2147483648 * 2 ^ 31 + tot % 2147483648 = tot :=
    fun tot => ⟨Int.emod_nonneg _ (by norm_num), Int.emod_lt_of_pos _ (by norm_num), by omega⟩
  cases acc <;> exact ⟨_, _, hm, key _⟩

/-- `moveDistLMA` is `move_dist_lt` (for all arguments whatsoever, any arithmetic, any ambient precision) -/
theorem C01_alias_lma (R : Rounding) (ambient : Nat) (rate accel time accum : Val) :
    Gen.moveDistLMA R ambient rate accel time accum = Gen.move_dist_lt R ambient rate accel time accum := rfl

/-- `moveDistLM` is the first component of `move_dist_lt` called with accumulator `0` (all arguments) … -/
theorem C01_alias_lm (R : Rounding) (ambient : Nat) (rate accel time : Val) :
    ∃ pos rem, Gen.move_dist_lt R ambient rate accel time (.int 0) = .tup [pos, rem] ∧
      Gen.moveDistLM R ambient rate accel time = pos := by
  unfold Gen.moveDistLM Gen.move_dist_lt
  by_cases h : Py.eq (Py.int_ time) (.int 0) = true
  · simp only [h, ↓reduceIte]; exact ⟨_, _, rfl, rfl⟩
  · simp only [h, Bool.false_eq_true, ↓reduceIte]; exact ⟨_, _, rfl, rfl⟩

/-- … hence, on the valid domain, the firmware recurrence's step position from a zero accumulator -/
theorem C01_alias_lm_spec {R : Rounding} {rate accel T : Int}
    (hR : ContractExact R) (hv : ValidLT rate accel T (some 0)) (ambient : Nat) :
    Gen.moveDistLM R ambient (.int rate) (.int accel) (.int T) = .int (Fw.ltSpec rate accel T.toNat (some 0)).1 := by
  obtain ⟨pos, rem, h1, h2⟩ := C01_alias_lm R ambient (.int rate) (.int accel) (.int T)
  have h3 := C01_main hR hv ambient
  simp only [accArg] at h3
  rw [h3] at h1
  rw [h2]
  injection h1 with h1
  injection h1 with h1 _
  exact h1.symm

/-- `time = 0` returns `(0, 0)` (outside the property's domain `T ≥ 1`; recorded for completeness) -/
theorem C01_zero (R : Rounding) (ambient : Nat) (rate accel : Int) (acc : Val) :
    Gen.move_dist_lt R ambient (.int rate) (.int accel) (.int 0) acc = .tup [.int 0, .int 0] := by
  unfold Gen.move_dist_lt
  simp only [int_int, eq_int_int, decide_true, ↓reduceIte]

/-- the contract is satisfiable: by ideal arithmetic, and by the concrete round-to-nearest-even arithmetic
(`p` significant bits, unbounded exponent) that the correspondence run executes against CPython/mpmath … -/
example : ContractExact Rounding.exact ∧ ContractExact Rounding.ieee := ⟨contractExact_exact, contractExact_ieee⟩

set_option maxRecDepth 20000 in
/-- … the tuple `(8589934, 17353403, 85, "clear") ↦ (29, 1142286978)` of `test/test_ebb_calc.py` is in the domain, and
the recurrence gives that answer … -/
example : ValidLT 8589934 17353403 85 none ∧ Fw.ltSpec 8589934 17353403 85 none = (29, 1142286978) := by
  refine ⟨⟨by norm_num, by norm_num, by norm_num, by norm_num, fun a h => by cases h⟩, ltSpec_test_vector⟩

set_option maxRecDepth 20000 in
/-- … so the generated code returns it under every admissible arithmetic and ambient precision -/
example {R : Rounding} (hR : ContractExact R) (ambient : Nat) :
    Gen.move_dist_lt R ambient (.int 8589934) (.int 17353403) (.int 85) (.str "clear")
      = .tup [.int 29, .int 1142286978] := by
  have hv : ValidLT 8589934 17353403 85 none :=
    ⟨by norm_num, by norm_num, by norm_num, by norm_num, fun a h => by cases h⟩
  have h := C01_main hR hv ambient
  have e : Fw.ltSpec 8589934 17353403 (85 : Int).toNat none = (29, 1142286978) := ltSpec_test_vector
  rw [e] at h
  exact h

/-- a backward start: first tick rate `-1` clears to `2^31 - 1` -/
example : Fw.ltClear (-1) 0 = 2147483647 ∧ Fw.ltClear 0 0 = 0 ∧ Fw.ltClear 1 (-2) = 2147483647 := by decide

/-- **argument type of the start accumulator, regenerated code**: an explicit start accumulator given as a float is the
integer `int()` makes of it (truncation toward zero; the same integer for an integral float) — it is never mistaken for
`"clear"`.  By computation on the regenerated definition (`rfl`). -/
theorem C01_gen_acc_float (R : Rounding) (amb : Nat) (rate accel T : Py.Val) (q : Rat) :
    Gen.move_dist_lt R amb rate accel T (.flt q) = Gen.move_dist_lt R amb rate accel T (.int (Py.intOfRat q)) := by rfl

end Plotink
