import Plotink.Gen.distance
import Plotink.Gen.dotProductXY
import Plotink.Gen.position_scale
import Plotink.Gen.points_near
import Plotink.Gen.points_equal
import Plotink.Gen.square_dist
import Plotink.Gen.vInitial_VF_A_Dx
import Plotink.Gen.vFinal_Vi_A_Dx
import Plotink.Proofs.ContractSqrtIeee
import Plotink.Proofs.C18

/-! # X01 — supplementary: geometry / kinematics helpers of `plot_utils` outside the twenty listed properties

`distance`, `dotProductXY`, `position_scale`, `points_near`, `vInitial_VF_A_Dx`, `vFinal_Vi_A_Dx` are regenerated
from plotink/plot_utils.py on every run like every other `Gen` definition; the theorems below are stated about the
regenerated definitions.  They decide none of C01..C20 (this file is *not* registered in MANIFEST.json); they extend
the part of the library that is inside the model.  `math.sqrt` is `Py.math_sqrt`: the correctly rounded binary64
root, i.e. `R.mpSqrt 53` (its contract `ContractSqrt` is proved for `Rounding.ieee`). -/

namespace Plotink
open Py Py.Val

/-! ## `dotProductXY` — a dot product clamped to `[-1, 1]` (the clamp of `checkLimits`, `C18.clampVal`) -/

/-- for every pair of arguments the result of `dotProductXY` lies in `[-1, 1]` -/
theorem X01_dot_clamped (R : Rounding) (amb : Nat) (a b : Val) :
    -1 ≤ num (Gen.dotProductXY R amb a b) ∧ num (Gen.dotProductXY R amb a b) ≤ 1 := by
  have c1 : num (int 1) = 1 := by simp [num]
  have c2 : num (int (-1)) = -1 := by simp [num]
  have h : num (int (-1)) ≤ num (int 1) := by rw [c1, c2]; norm_num
  rw [C18.dotProductXY_eq]
  exact c2 ▸ c1 ▸ C18.clampVal_range h

/-- inside the range the computed dot product itself is returned (float vectors; `R` is whatever rounding the
three float operations use) -/
theorem X01_dot_value (R : Rounding) (amb : Nat) (x0 y0 x1 y1 : Rat)
    (h : -1 ≤ R.f64 (R.f64 (x0 * x1) + R.f64 (y0 * y1)) ∧ R.f64 (R.f64 (x0 * x1) + R.f64 (y0 * y1)) ≤ 1) :
    Gen.dotProductXY R amb (.tup [.flt x0, .flt y0]) (.tup [.flt x1, .flt y1])
      = .flt (R.f64 (R.f64 (x0 * x1) + R.f64 (y0 * y1))) := by
  rw [C18.dotProductXY_eq]
  simp only [getItem_cons_zero, getItem_cons_succ, mul_flt_flt, add_flt_flt]
  exact C18.clampVal_inside (by simpa [num] using h.1) (by simpa [num] using h.2)

example : Gen.dotProductXY Rounding.exact 15 (.tup [.flt 3, .flt 4]) (.tup [.flt 3, .flt 4]) = .int 1 := by
  unfold Gen.dotProductXY
  simp only [getItem_cons_zero, getItem_cons_succ, mul_flt_flt, add_flt_flt, Py.gt, num, Rounding.exact, id]
  norm_num

/-! ## `points_near` — the strict squared-distance test, through `square_dist` -/

/-- `points_near a b t` is exactly `square_dist a b < t` (same operations in the same order) -/
theorem X01_points_near_square_dist (R : Rounding) (amb : Nat) (a b t : Val) :
    Gen.points_near R amb a b t = .bool_ (Py.lt (Gen.square_dist R amb a b) t) := by
  unfold Gen.points_near Gen.square_dist
  rfl

/-- `square_dist` under ideal arithmetic is the squared Euclidean distance: non-negative, symmetric, zero exactly for
coincident points -/
theorem X01_square_dist_exact (amb : Nat) (ax ay bx by_ : Rat) :
    Gen.square_dist Rounding.exact amb (.tup [.flt ax, .flt ay]) (.tup [.flt bx, .flt by_])
      = .flt ((ax - bx) * (ax - bx) + (ay - by_) * (ay - by_)) := by
  unfold Gen.square_dist
  simp only [getItem_cons_zero, getItem_cons_succ, sub_flt_flt, mul_flt_flt, add_flt_flt, Rounding.exact, id]

theorem X01_square_dist_nonneg_zero (ax ay bx by_ : Rat) :
    0 ≤ (ax - bx) * (ax - bx) + (ay - by_) * (ay - by_) ∧
    ((ax - bx) * (ax - bx) + (ay - by_) * (ay - by_) = 0 ↔ ax = bx ∧ ay = by_) := by
  have h1 := mul_self_nonneg (ax - bx)
  have h2 := mul_self_nonneg (ay - by_)
  refine ⟨add_nonneg h1 h2, ⟨fun h => ?_, fun ⟨h1', h2'⟩ => by rw [h1', h2', sub_self, sub_self, mul_zero, add_zero]⟩⟩
  have e1 : (ax - bx) * (ax - bx) = 0 := by linarith only [h, h1, h2]
  have e2 : (ay - by_) * (ay - by_) = 0 := by linarith only [h, h1, h2]
  exact ⟨sub_eq_zero.mp (mul_self_eq_zero.mp e1), sub_eq_zero.mp (mul_self_eq_zero.mp e2)⟩

/-- with ideal arithmetic: true exactly when the squared Euclidean distance is strictly below the bound -/
theorem X01_points_near_exact (amb : Nat) (ax ay bx by_ t : Rat) :
    Gen.points_near Rounding.exact amb (.tup [.flt ax, .flt ay]) (.tup [.flt bx, .flt by_]) (.flt t)
      = .bool_ (decide ((ax - bx) * (ax - bx) + (ay - by_) * (ay - by_) < t)) := by
  rw [X01_points_near_square_dist, X01_square_dist_exact]; rfl

/-- symmetric in the two points under ideal arithmetic -/
theorem X01_points_near_symm (amb : Nat) (ax ay bx by_ t : Rat) :
    Gen.points_near Rounding.exact amb (.tup [.flt ax, .flt ay]) (.tup [.flt bx, .flt by_]) (.flt t)
      = Gen.points_near Rounding.exact amb (.tup [.flt bx, .flt by_]) (.tup [.flt ax, .flt ay]) (.flt t) := by
  rw [X01_points_near_exact, X01_points_near_exact]
  congr 2
  apply propext
  have e : (ax - bx) * (ax - bx) + (ay - by_) * (ay - by_) = (bx - ax) * (bx - ax) + (by_ - ay) * (by_ - ay) := by ring
  rw [e]

/-- a larger bound accepts everything a smaller one does (ideal arithmetic) -/
theorem X01_points_near_mono (amb : Nat) (ax ay bx by_ t t' : Rat) (htt : t ≤ t')
    (h : Gen.points_near Rounding.exact amb (.tup [.flt ax, .flt ay]) (.tup [.flt bx, .flt by_]) (.flt t) = .bool_ true) :
    Gen.points_near Rounding.exact amb (.tup [.flt ax, .flt ay]) (.tup [.flt bx, .flt by_]) (.flt t') = .bool_ true := by
  rw [X01_points_near_exact] at h ⊢
  have h' : decide ((ax - bx) * (ax - bx) + (ay - by_) * (ay - by_) < t) = true := by
    injection h
  have : (ax - bx) * (ax - bx) + (ay - by_) * (ay - by_) < t' := lt_of_lt_of_le (of_decide_eq_true h') htt
  simp [this]

/-! ## `points_equal` — `math.isclose` on both coordinates (default `rel_tol = 1e-9`, `abs_tol = 0`) -/

/-- the regenerated `points_equal` is `isclose` on each coordinate -/
theorem X01_points_equal_def (R : Rounding) (amb : Nat) (ax ay bx by_ : Val) :
    Gen.points_equal R amb (.tup [ax, ay]) (.tup [bx, by_]) = .bool_ (Py.isclose R ax bx && Py.isclose R ay by_) := by
  unfold Gen.points_equal
  simp [getItem_cons_zero, getItem_cons_succ, Py.truthy]

/-- every point equals itself (whatever the rounding) -/
theorem X01_points_equal_refl (R : Rounding) (amb : Nat) (x y : Rat) :
    Gen.points_equal R amb (.tup [.flt x, .flt y]) (.tup [.flt x, .flt y]) = .bool_ true := by
  rw [X01_points_equal_def]
  simp [Py.isclose, Py.asF64]

theorem X01_abs_ite (d : Rat) : (if d < 0 then -d else d) = |d| := by
  split
  · rename_i h; rw [abs_of_neg h]
  · rename_i h; rw [abs_of_nonneg (not_lt.mp h)]

/-- **what "equal" means**: two floats judged close by the regenerated test differ by at most `rel_tol` (the double
nearest `1e-9`) times the larger magnitude, up to the two roundings of the test itself -/
theorem X01_isclose_bound (R : Rounding) (hR : ContractBasic R) (x y : Rat)
    (h : Py.isclose R (.flt x) (.flt y) = true) :
    |y - x| * (1 - 1 / 2 ^ 53) ≤ Py.relTolLit * max |x| |y| * (1 + 1 / 2 ^ 53) := by
  have ht : (0 : Rat) ≤ Py.relTolLit := by unfold Py.relTolLit; norm_num
  have hmax : 0 ≤ max |x| |y| := le_max_of_le_left (abs_nonneg x)
  have hrhs : 0 ≤ Py.relTolLit * max |x| |y| * (1 + 1 / 2 ^ 53) := mul_nonneg (mul_nonneg ht hmax) (by norm_num)
  unfold Py.isclose at h
  simp only [Py.asF64] at h
  by_cases hxy : x = y
  · subst hxy; rw [sub_self, abs_zero, zero_mul]; exact hrhs
  · simp only [hxy, ↓reduceIte, X01_abs_ite, Bool.or_eq_true, decide_eq_true_eq] at h
    have hd := hR.f64_err (y - x)
    have hd' : |y - x| * (1 - 1 / 2 ^ 53) ≤ |R.f64 (y - x)| := by
      have := abs_sub_abs_le_abs_sub (y - x) (R.f64 (y - x))
      have e : |y - x - R.f64 (y - x)| = |R.f64 (y - x) - (y - x)| := abs_sub_comm _ _
      rw [e] at this
      linarith only [this, hd]
    have side : ∀ z : Rat, |z| ≤ max |x| |y| → |R.f64 (Py.relTolLit * z)| ≤ Py.relTolLit * max |x| |y| * (1 + 1 / 2 ^ 53) := by
      intro z hz
      have e1 := hR.f64_err (Py.relTolLit * z)
      have e2 : |R.f64 (Py.relTolLit * z)| ≤ |Py.relTolLit * z| + |R.f64 (Py.relTolLit * z) - Py.relTolLit * z| := by
        have := abs_add_le (Py.relTolLit * z) (R.f64 (Py.relTolLit * z) - Py.relTolLit * z)
        simpa using this
      have e3 : |Py.relTolLit * z| = Py.relTolLit * |z| := by rw [abs_mul, abs_of_nonneg ht]
      have e4 : Py.relTolLit * |z| ≤ Py.relTolLit * max |x| |y| := mul_le_mul_of_nonneg_left hz ht
      calc |R.f64 (Py.relTolLit * z)| ≤ |Py.relTolLit * z| + |Py.relTolLit * z| / 2 ^ 53 := by linarith only [e1, e2]
        _ = Py.relTolLit * |z| * (1 + 1 / 2 ^ 53) := by rw [e3]; ring
        _ ≤ Py.relTolLit * max |x| |y| * (1 + 1 / 2 ^ 53) := mul_le_mul_of_nonneg_right e4 (by norm_num)
    rcases h with (h | h) | h
    · exact le_trans hd' (le_trans h (side y (le_max_right _ _)))
    · exact le_trans hd' (le_trans h (side x (le_max_left _ _)))
    · exact le_trans hd' (le_trans h hrhs)

example : Py.isclose Rounding.exact (.flt 1) (.flt (1 + 1 / 10 ^ 10)) = true := by
  simp [Py.isclose, Py.asF64, Rounding.exact, Py.relTolLit]; norm_num

/-! ## `position_scale` — inches to the unit selected by `units_code` -/

/-- the two unit factors standing in the regenerated code are the doubles nearest to 2.54 and 25.4 -/
def cmLit : Rat := (2859785763380265 : Rat) / 1125899906842624
def mmLit : Rat := (3574732204225331 : Rat) / 140737488355328

theorem X01_cmLit_close : |cmLit - 254 / 100| ≤ (254 / 100) / 2 ^ 53 := by
  unfold cmLit; rw [abs_le]; constructor <;> norm_num
theorem X01_mmLit_close : |mmLit - 254 / 10| ≤ (254 / 10) / 2 ^ 53 := by
  unfold mmLit; rw [abs_le]; constructor <;> norm_num

/-- `units_code` 1 → centimetres, 2 → millimetres, any other integer → unchanged (inches) -/
theorem X01_position_scale (R : Rounding) (amb : Nat) (x y : Rat) (c : Int) :
    Gen.position_scale R amb (.flt x) (.flt y) (.int c) =
      if c = 1 then .tup [.flt (R.f64 (x * cmLit)), .flt (R.f64 (y * cmLit))]
      else if c = 2 then .tup [.flt (R.f64 (x * mmLit)), .flt (R.f64 (y * mmLit))]
      else .tup [.flt x, .flt y] := by
  unfold Gen.position_scale cmLit mmLit
  by_cases h1 : c = 1
  · subst h1; simp [Py.eq, num, mul_flt_flt]
  · by_cases h2 : c = 2
    · subst h2; simp [Py.eq, num, mul_flt_flt]
    · have b : ¬ ((c : Rat) = 2) := by exact_mod_cast h2
      simp [Py.eq, num, h1, h2, b]

/-- each scaled coordinate is within one rounding (relative `2^-53`) of the product with the factor literal -/
theorem X01_position_scale_err (R : Rounding) (hR : ContractBasic R) (x : Rat) :
    |R.f64 (x * cmLit) - x * cmLit| ≤ |x * cmLit| / 2 ^ 53 ∧ |R.f64 (x * mmLit) - x * mmLit| ≤ |x * mmLit| / 2 ^ 53 :=
  ⟨hR.f64_err _, hR.f64_err _⟩

/-! ## `distance` — `sqrt(x*x + y*y)` -/

/-- on floats: the result is a non-negative float whose square is within `3·2^-53` (relative) of the computed sum
of squares -/
theorem X01_distance (R : Rounding) (hR : Contract R) (amb : Nat) (x y : Rat) :
    ∃ r, Gen.distance R amb (.flt x) (.flt y) = .flt r ∧ 0 ≤ r ∧
      |r ^ 2 - R.f64 (R.f64 (x * x) + R.f64 (y * y))| ≤ 3 * R.f64 (R.f64 (x * x) + R.f64 (y * y)) / 2 ^ 53 := by
  have z : R.f64 0 = 0 := hR.f64_exact 0 ⟨0, 0, by simp, by positivity⟩
  have hx : 0 ≤ R.f64 (x * x) := by
    have := hR.f64_mono 0 (x * x) (mul_self_nonneg x); rwa [z] at this
  have hy : 0 ≤ R.f64 (y * y) := by
    have := hR.f64_mono 0 (y * y) (mul_self_nonneg y); rwa [z] at this
  have hs : 0 ≤ R.f64 (R.f64 (x * x) + R.f64 (y * y)) := by
    have := hR.f64_mono 0 _ (add_nonneg hx hy); rwa [z] at this
  obtain ⟨h0, herr⟩ := hR.sqrt_sq 53 _ hs
  refine ⟨R.mpSqrt 53 (R.f64 (R.f64 (x * x) + R.f64 (y * y))), ?_, h0, herr⟩
  unfold Gen.distance
  simp only [mul_flt_flt, add_flt_flt, Py.math_sqrt, not_lt.mpr hs, ↓reduceIte]

/-- Pythagorean triples are exact: for integers with `a² + b² = c²`, `0 ≤ c < 2^26`, `distance a b` is exactly `c`
(as a float), whatever rounding satisfies the contract -/
theorem X01_distance_pythagorean (R : Rounding) (hR : Contract R) (amb : Nat) (a b c : Int)
    (h : a * a + b * b = c * c) (hc0 : 0 ≤ c) (hc : c < 2 ^ 26) :
    Gen.distance R amb (.int a) (.int b) = .flt (c : Rat) := by
  unfold Gen.distance
  simp only [mul_int_int, add_int_int, h]
  exact math_sqrt_int_sq hR c hc0 hc

example : Gen.distance Rounding.ieee 15 (.int 3) (.int 4) = .flt 5 :=
  X01_distance_pythagorean Rounding.ieee contract_ieee 15 3 4 5 (by norm_num) (by norm_num) (by norm_num)

/-! ## `vInitial_VF_A_Dx`, `vFinal_Vi_A_Dx` — `sqrt(v² ∓ 2·a·Δx)`, or `-1` when no real root exists -/

/-- computed radicand of `vInitial_VF_A_Dx` on floats -/
def radInitial (R : Rounding) (v a d : Rat) : Rat := R.f64 (R.f64 (v * v) - R.f64 (R.f64 (((2 : Int) : Rat) * a) * d))
/-- computed radicand of `vFinal_Vi_A_Dx` on floats -/
def radFinal (R : Rounding) (v a d : Rat) : Rat := R.f64 (R.f64 (R.f64 (((2 : Int) : Rat) * a) * d) + R.f64 (v * v))

/-- `-1` exactly when the computed radicand is negative; otherwise its correctly rounded root -/
theorem X01_vInitial (R : Rounding) (amb : Nat) (v a d : Rat) :
    Gen.vInitial_VF_A_Dx R amb (.flt v) (.flt a) (.flt d) =
      if 0 ≤ radInitial R v a d then .flt (R.mpSqrt 53 (radInitial R v a d)) else .int (-1) := by
  unfold Gen.vInitial_VF_A_Dx radInitial
  simp only [mul_flt_flt, mul_int_flt, sub_flt_flt, Py.ge, num, Py.math_sqrt, ge_iff_le, Int.cast_zero,
    decide_eq_true_eq]
  split
  · rename_i h; rw [if_neg (not_lt.mpr h)]
  · rfl

theorem X01_vFinal (R : Rounding) (amb : Nat) (v a d : Rat) :
    Gen.vFinal_Vi_A_Dx R amb (.flt v) (.flt a) (.flt d) =
      if 0 ≤ radFinal R v a d then .flt (R.mpSqrt 53 (radFinal R v a d)) else .int (-1) := by
  unfold Gen.vFinal_Vi_A_Dx radFinal
  simp only [mul_flt_flt, mul_int_flt, add_flt_flt, Py.ge, num, Py.math_sqrt, ge_iff_le, Int.cast_zero,
    decide_eq_true_eq]
  split
  · rename_i h; rw [if_neg (not_lt.mpr h)]
  · rfl

/-- the result is never negative except for the failure marker `-1`, and a returned root squares back to the
radicand within `3·2^-53` (relative) -/
theorem X01_vFinal_root (R : Rounding) (hR : Contract R) (amb : Nat) (v a d : Rat) (h : 0 ≤ radFinal R v a d) :
    ∃ r, Gen.vFinal_Vi_A_Dx R amb (.flt v) (.flt a) (.flt d) = .flt r ∧ 0 ≤ r ∧
      |r ^ 2 - radFinal R v a d| ≤ 3 * radFinal R v a d / 2 ^ 53 := by
  obtain ⟨h0, herr⟩ := hR.sqrt_sq 53 _ h
  exact ⟨_, by rw [X01_vFinal, if_pos h], h0, herr⟩

theorem X01_vInitial_root (R : Rounding) (hR : Contract R) (amb : Nat) (v a d : Rat) (h : 0 ≤ radInitial R v a d) :
    ∃ r, Gen.vInitial_VF_A_Dx R amb (.flt v) (.flt a) (.flt d) = .flt r ∧ 0 ≤ r ∧
      |r ^ 2 - radInitial R v a d| ≤ 3 * radInitial R v a d / 2 ^ 53 := by
  obtain ⟨h0, herr⟩ := hR.sqrt_sq 53 _ h
  exact ⟨_, by rw [X01_vInitial, if_pos h], h0, herr⟩

/-- integer kinematics is exact and the two helpers invert each other: if `vf² = vi² + 2·a·Δx` over the integers
(all magnitudes small enough to be exact in binary64) then `vFinal(vi, a, Δx) = vf` and `vInitial(vf, a, Δx) = vi` -/
theorem X01_kinematics_inverse (R : Rounding) (hR : Contract R) (amb : Nat) (vi vf a d : Int)
    (hvi : 0 ≤ vi) (hvf : 0 ≤ vf) (hvi' : vi < 2 ^ 25) (hvf' : vf < 2 ^ 25)
    (h : vf * vf = vi * vi + 2 * a * d) :
    Gen.vFinal_Vi_A_Dx R amb (.int vi) (.int a) (.int d) = .flt (vf : Rat) ∧
    Gen.vInitial_VF_A_Dx R amb (.int vf) (.int a) (.int d) = .flt (vi : Rat) := by
  have key : ∀ c : Int, 0 ≤ c → c < 2 ^ 25 → Py.math_sqrt R (.int (c * c)) = .flt (c : Rat) :=
    fun c hc0 hc => math_sqrt_int_sq hR c hc0 (lt_trans hc (by norm_num))
  constructor
  · unfold Gen.vFinal_Vi_A_Dx
    have e : 2 * a * d + vi * vi = vf * vf := by rw [h]; ring
    simp only [mul_int_int, add_int_int, e]
    have hge : Py.ge (.int (vf * vf)) (.int 0) = true := by
      simp only [Py.ge, num, ge_iff_le, decide_eq_true_eq]; exact_mod_cast mul_nonneg hvf hvf
    rw [if_pos hge]
    exact key vf hvf hvf'
  · unfold Gen.vInitial_VF_A_Dx
    have e : vf * vf - 2 * a * d = vi * vi := by rw [h]; ring
    simp only [mul_int_int, sub_int_int, e]
    have hge : Py.ge (.int (vi * vi)) (.int 0) = true := by
      simp only [Py.ge, num, ge_iff_le, decide_eq_true_eq]; exact_mod_cast mul_nonneg hvi hvi
    rw [if_pos hge]
    exact key vi hvi hvi'

example : (0 : Int) ≤ 3 ∧ (5 : Int) * 5 = 3 * 3 + 2 * 2 * 4 := by decide

end Plotink
