import Plotink.Proofs.C02Dist
import Plotink.Proofs.ContractIeee

/-! # C02 — Jerk (T3) move prediction equals the third-order firmware recurrence

Theorems are stated about the *generated* definitions `Gen.move_dist_t3` and `Gen.rate_t3`
(regenerated from `plotink/ebb_calc.py` on every run), for an arbitrary rounding `R` meeting the
round-to-nearest contract `T3.Contract` (binary64 and mpmath at any precision; `Rounding.exact` is an
instance) and an arbitrary ambient mpmath precision `amb`, against the firmware recurrence
`Fw.t3` / `Fw.t3Spec` (`Model/Firmware.lean`).

Domain: `T3.ValidT3 rate accel jerk T` — spelled out by `C02_valid_iff` below — is the
firmware-valid domain of the property statement. No additional magnitude hypothesis is needed:
`C02_envelope` shows that firmware validity implies the envelope (`|jerk|·T² ≤ 2^50`, `|accel|·T ≤ 2^50`, …)
under which every binary64 intermediate of `rate_t3` is exactly representable and the 103-bit
error of `move_dist_t3` stays within `2^-16`. -/

namespace Plotink
open Py Py.Val Fw T3

/-- how the accumulator argument is passed: `"clear"` or an integer -/
def accArgT3 : Option Int → Val
  | none => .str "clear"
  | some a => .int a

/-- the meaning of the domain predicate: a 32-bit tick count `T ≥ 1`, every per-tick rate within
the signed 32-bit range `[−2^31, 2^31−1]` (so an end rate of exactly `−2^31` is in the domain) and every
per-tick acceleration within `±2^31` -/
theorem C02_valid_iff (rate accel jerk T : Int) :
    ValidT3 rate accel jerk T ↔
      (1 ≤ T ∧ T ≤ 2 ^ 32 ∧
       (∀ k : Nat, 1 ≤ k → (k : Int) ≤ T →
          -2 ^ 31 ≤ t3Rate rate accel jerk k ∧ t3Rate rate accel jerk k ≤ 2 ^ 31 - 1) ∧
       (∀ k : Nat, (k : Int) ≤ T → |t3Accel rate accel jerk k| ≤ 2 ^ 31)) :=
  ⟨fun ⟨a, b, c, d⟩ => ⟨a, b, c, d⟩, fun ⟨a, b, c, d⟩ => ⟨a, b, c, d⟩⟩

/-- closed form of the per-tick rate: a quadratic in the tick, from the start rate
`rate − trunc(accel/2) + trunc(jerk/6)` -/
theorem C02_rate_closed (rate accel jerk : Int) (k : Nat) :
    2 * t3Rate rate accel jerk k
      = 2 * (rate - tdiv accel 2 + tdiv jerk 6) + 2 * k * accel + jerk * k * (k - 1) :=
  rate_closed rate accel jerk k

/-- closed form of the accumulator after `T` ticks: a cubic in `T` -/
theorem C02_total_closed (rate accel jerk a0 : Int) (T : Nat) :
    6 * t3Total rate accel jerk T a0
      = 6 * a0 + 6 * T * (rate - tdiv accel 2 + tdiv jerk 6) + 3 * accel * T * (T + 1)
        + jerk * (T - 1) * T * (T + 1) :=
  total_closed rate accel jerk a0 T

/-- the code's three-level test (rate at tick 1, then `accel + jerk`, then `jerk`) decides the sequence
predicate "the first non-zero rate among the first ticks is negative", and looking at three ticks is
enough: any larger horizon gives the same verdict -/
theorem C02_clear_iff (rate accel jerk : Int) :
    t3Clear rate accel jerk
      = (if rate - tdiv accel 2 + tdiv jerk 6 + accel < 0 then 2147483647
         else if rate - tdiv accel 2 + tdiv jerk 6 + accel = 0 then
           (if accel + jerk < 0 then 2147483647
            else if accel + jerk = 0 then (if jerk < 0 then 2147483647 else 0) else 0)
         else 0) ∧
    ∀ m : Nat, firstMotionBackward (t3Rate rate accel jerk) 1 (3 + m)
      = firstMotionBackward (t3Rate rate accel jerk) 1 3 :=
  ⟨clear_eq rate accel jerk, clear_fuel rate accel jerk⟩

/-- firmware validity implies the magnitude envelope used by the numeric bridges (discrete Markov
inequality for the rate parabola) -/
theorem C02_envelope (rate accel jerk T : Int) (hv : ValidT3 rate accel jerk T) :
    |rate| ≤ 2 ^ 40 ∧ |accel| ≤ 2 ^ 40 ∧ |jerk| ≤ 2 ^ 40 ∧ |accel| * T ≤ 2 ^ 50 ∧ |jerk| * T * T ≤ 2 ^ 50 := by
  obtain ⟨_, _, a, b, c, d, e⟩ := envelope_of_valid hv
  exact ⟨a, b, c, d, e⟩

/-- `rate_t3` returns the firmware rate at tick `T` -/
theorem C02_rate {R : Rounding} (hR : T3.Contract R) (amb : Nat) (T rate accel jerk : Int)
    (hv : ValidT3 rate accel jerk T) :
    Gen.rate_t3 R amb (.int T) (.int rate) (.int accel) (.int jerk)
      = .int (t3Rate rate accel jerk T.toNat) :=
  rate_main hR amb T rate accel jerk (envelope_of_valid hv)

/-- `move_dist_t3` returns position and remainder of the firmware recurrence, for an explicit start
accumulator in `[0, 2^31)` or `"clear"`, whatever the ambient mpmath precision -/
theorem C02_dist {R : Rounding} (hR : T3.Contract R) (amb : Nat) (T rate accel jerk : Int) (acc : Option Int)
    (hv : ValidT3 rate accel jerk T) (hacc : ∀ a, acc = some a → 0 ≤ a ∧ a < 2 ^ 31) :
    Gen.move_dist_t3 R amb (.int T) (.int rate) (.int accel) (.int jerk) (accArgT3 acc)
      = .tup [.int (t3Spec rate accel jerk T.toNat acc).1, .int (t3Spec rate accel jerk T.toNat acc).2] := by
  have hE := envelope_of_valid hv
  cases acc with
  | none =>
    simp only [accArgT3, t3Spec, two31]
    rw [dist_clear hR amb T rate accel jerk hE.ha hE.hj, clear_eq]
    exact dist_core hR amb T rate accel jerk _ hE (T3.codeClear_range rate accel jerk)
  | some a =>
    simp only [accArgT3, t3Spec, two31]
    exact dist_core hR amb T rate accel jerk a hE (hacc a rfl)

/-- the remainder is in `[0, 2^31)` -/
theorem C02_range (rate accel jerk : Int) (T : Nat) (acc : Option Int) :
    0 ≤ (t3Spec rate accel jerk T acc).2 ∧ (t3Spec rate accel jerk T acc).2 < 2 ^ 31 := by
  simp only [t3Spec, two31]
  constructor
  · exact Int.emod_nonneg _ (by norm_num)
  · exact Int.emod_lt_of_pos _ (by norm_num)

/-- with zero jerk the T3 recurrence is the timed-move (LT) recurrence, and so is the prediction:
`move_dist_t3(T, rate, accel, 0, acc)` returns the LT Spec `Fw.ltSpec` (which C01 proves
`move_dist_lt(rate, accel, T, acc)` returns) -/
theorem C02_jerk0 {R : Rounding} (hR : T3.Contract R) (amb : Nat) (T rate accel : Int) (acc : Option Int)
    (hv : ValidT3 rate accel 0 T) (hacc : ∀ a, acc = some a → 0 ≤ a ∧ a < 2 ^ 31) :
    t3Spec rate accel 0 T.toNat acc = ltSpec rate accel T.toNat acc ∧
    Gen.move_dist_t3 R amb (.int T) (.int rate) (.int accel) (.int 0) (accArgT3 acc)
      = .tup [.int (ltSpec rate accel T.toNat acc).1, .int (ltSpec rate accel T.toNat acc).2] := by
  refine ⟨t3Spec_zero_jerk rate accel T.toNat acc, ?_⟩
  rw [C02_dist hR amb T rate accel 0 acc hv hacc, t3Spec_zero_jerk]

/-- non-vacuity: the contract has an instance, and a small move with non-zero jerk is firmware-valid -/
example : T3.Contract Rounding.exact := contract_exact
example : ValidT3 100 (-7) 5 3 := validT3_of_ticks 100 (-7) 5 3 (by decide) (by decide) (by decide)
example : t3Spec 1073741824 0 0 2 none = (1, 0) := by decide
/-- the domain is the asymmetric signed range: a move ending exactly at rate `−2^31` is valid -/
example : ValidT3 (-2147483613) (-10) 0 4 ∧ t3Rate (-2147483613) (-10) 0 4 = -2147483648 :=
  ⟨validT3_of_ticks (-2147483613) (-10) 0 4 (by decide) (by decide) (by decide), by decide⟩

/-- non-vacuity of the rounding hypothesis for the arithmetic that is actually modelled and executed:
the concrete IEEE/mpmath round-to-nearest instance `Rounding.ieee` (run by the driver and compared with
CPython/mpmath on every check) satisfies the contract assumed above -/
theorem C02_contract_ieee : T3.Contract Rounding.ieee := T3.contract_ieee

/-- **argument type of the start accumulator, regenerated code**: a float start accumulator is the integer `int()` makes
of it, never `"clear"` (`rfl` on the regenerated definition). -/
theorem C02_gen_acc_float (R : Rounding) (amb : Nat) (T rate accel jerk : Py.Val) (q : Rat) :
    Gen.move_dist_t3 R amb T rate accel jerk (.flt q) = Gen.move_dist_t3 R amb T rate accel jerk (.int (Py.intOfRat q)) := by rfl

end Plotink
