import Plotink.Proofs.X02Gen

/-! # X02 — supplementary: opening a port in the legacy layer (`ebb_serial.testPort`, `openPort`, `open_named_port`)

Not one of the twenty listed properties and not registered in MANIFEST.json.  The three functions are regenerated from
plotink/ebb_serial.py on every run by the I/O translator; every theorem here is about the regenerated code, for every
read/write script of the device (`w.port`), every outcome of `serial.Serial(...)` (`w.ext.openOk`) and every enumerated
port list (`w.ext.comports`).  `X02.testPortSpec` is the statement-level specification: two `v` probes, the port is
handed out only after a reply that begins `EBB`, a `serial.SerialException` (or subclass) anywhere yields `None`. -/

namespace Plotink
open PyObj Gen LegacyGen X02

/-- **`testPort` = its specification** for every port name, script and open outcome -/
theorem X02_testPort_spec (fuel : Nat) (n : List Char) (w : World NoObj) :
    ebb_serial_testPort fuel (.str n) w = testPortSpec (.str n) w :=
  testPort_eq fuel n w

/-- `testPort(None)` does nothing -/
theorem X02_testPort_none (fuel : Nat) (w : World NoObj) : ebb_serial_testPort fuel .none w = .val .none w := rfl

/-- **the port object is handed out only to a board that identified itself**: if `testPort` returns the port then the
port opened and the reply to the first probe — or, after a first reply that did not, to the second probe — begins
with `EBB` -/
theorem X02_testPort_only_EBB (fuel : Nat) (n : List Char) (w w' : World NoObj)
    (h : ebb_serial_testPort fuel (.str n) w = .val .port w') :
    w.ext.openOk = true ∧
    ((∃ v1, probe w = (.ok v1, w') ∧ isEBB v1 = true) ∨
     (∃ v1 w1 v2, probe w = (.ok v1, w1) ∧ isEBB v1 = false ∧ probe w1 = (.ok v2, w') ∧ isEBB v2 = true)) := by
  rw [testPort_eq] at h
  exact spec_port _ w w' h

/-- **three outcomes only**: the port, `None`, or an exception that is *not* a `serial.SerialException` (those are
swallowed and give `None`); the function never runs out of fuel -/
theorem X02_testPort_outcomes (fuel : Nat) (n : List Char) (w : World NoObj) :
    (∃ w', ebb_serial_testPort fuel (.str n) w = .val .port w') ∨
    (∃ w', ebb_serial_testPort fuel (.str n) w = .val .none w') ∨
    (∃ c w', ebb_serial_testPort fuel (.str n) w = .exc c w' ∧ PyIO.catches [.serialException] c = false) := by
  rw [testPort_eq]
  exact spec_forms _ w

/-- **nothing but version probes is written**: at most two `v\r`, whatever the device does -/
theorem X02_testPort_writes (fuel : Nat) (n : List Char) (w : World NoObj) :
    ∃ w' k, X02.outWorld (ebb_serial_testPort fuel (.str n) w) = some w' ∧ k ≤ 2 ∧
      w'.port.log = w.port.log ++ List.replicate k vProbe := by
  rw [testPort_eq]
  exact spec_log _ w

/-- a port that cannot be opened is reported as `None` with nothing written -/
theorem X02_testPort_closed (fuel : Nat) (n : List Char) (w : World NoObj) (h : w.ext.openOk = false) :
    ebb_serial_testPort fuel (.str n) w = .val .none w := by
  rw [testPort_eq, spec_eq, h]
  rfl

/-- **`openPort()` is `testPort` of the first discovered board** (`C19.Legacy.findFirst`, the model `C19_gen_first` is
about): no board enumerated → `None` without touching any port -/
theorem X02_openPort (fuel : Nat) (ports : List C19.Port) (w : World NoObj)
    (hc : w.ext.comports = .ok (.list (ports.map encPort))) :
    ebb_serial_openPort fuel w = testPortSpec (encOptStr (C19.Legacy.findFirst ports)) w ∧
    (C19.Legacy.findFirst ports = none → ebb_serial_openPort fuel w = .val .none w) := by
  refine ⟨openPort_eq fuel ports w hc, fun h => ?_⟩
  rw [openPort_eq fuel ports w hc, h]
  rfl

/-- **`open_named_port(name)` is `testPort` of the legacy lookup** (`C19.Legacy.findNamed`) -/
theorem X02_open_named_port (fuel : Nat) (key : Option C19.Str) (ports : List C19.Port) (w : World NoObj)
    (hc : w.ext.comports = .ok (.list (ports.map encPort))) :
    ebb_serial_open_named_port fuel (encOptStr key) w = testPortSpec (encOptStr (C19.Legacy.findNamed key ports)) w ∧
    (C19.Legacy.findNamed key ports = none → ebb_serial_open_named_port fuel (encOptStr key) w = .val .none w) := by
  refine ⟨open_named_port_eq fuel key ports w hc, fun h => ?_⟩
  rw [open_named_port_eq fuel key ports w hc, h]
  rfl

/-- non-vacuity: a board answering the first probe with its version line gets its port; a foreign device does not -/
example :
    ebb_serial_testPort 5 (.str ['p']) ⟨⟨⟩, ⟨[.line "EBBv13_and_above EB Firmware Version 2.8.1\r\n".toList], [], [], 0⟩, {}⟩
      = .val .port ⟨⟨⟩, ⟨[], [], [vProbe], 1⟩, {}⟩ := by
  rw [testPort_eq]; rfl
example :
    ebb_serial_testPort 5 (.str ['p']) ⟨⟨⟩, ⟨[.line "Marlin 1.0\r\n".toList, .empty], [], [], 0⟩, {}⟩
      = .val .none ⟨⟨⟩, ⟨[], [], [vProbe, vProbe], 2⟩, {}⟩ := by
  rw [testPort_eq]; rfl

end Plotink
