import Plotink.Proofs.C09Loop
import Plotink.Proofs.C09Gen
import Plotink.Proofs.C09GenSS

/-! # C09 — vertex reduction keeps the path within tolerance of the original

Models: `C09.pointsInTol`, `C09.maxDistSq`, `C09.supersample` (`Model/C09.lean`, mirroring
`plot_utils.points_in_tolerance`, `max_dist_from_n_points` (squared), `supersample`).  Vertices are
values of an arbitrary type `α` with coordinates `xy : α → Pt`: equal coordinates do not make two
vertices the same object; "the same vertex objects, in order" is `List.Sublist`. -/

namespace Plotink
open C09

/-- The three-region formula (before the start / past the end / perpendicular) is the minimum over
`t ∈ [0,1]` of the squared distance from `p` to the point of parameter `t` of the segment: a lower
bound for every `t`, attained at some `t`. Holds for a zero-length segment too. -/
theorem C09_distSq_is_min (a b p : Pt) :
    (∀ t : Rat, 0 ≤ t → t ≤ 1 → distSq a b p ≤ atSq a b p t) ∧
    (∃ t : Rat, 0 ≤ t ∧ t ≤ 1 ∧ atSq a b p t = distSq a b p) :=
  ⟨fun t h0 h1 => distSq_le_atSq a b p t h0 h1, distSq_attained a b p⟩

/-- With at least 3 points neither function asserts, and the fast predicate is true exactly when every
interior point is at squared distance `< tol²` from the segment first–last, i.e. exactly when the
reference maximum (squared) is `< tol²`; for `tol ≥ 0` that is "maximum distance `< tol`" (`d` is the
non-negative root of the squared maximum — what `max_dist_from_n_points` returns). -/
theorem C09_pred_iff (pts : List Pt) (tol : Rat) (h : 3 ≤ pts.length) :
    ∃ ok m a b, pointsInTol pts tol = some ok ∧ maxDistSq pts = some m ∧
      pts.head? = some a ∧ pts.getLast? = some b ∧
      (ok = true ↔ ∀ p ∈ interior pts, distSq a b p < tol * tol) ∧
      (ok = true ↔ m < tol * tol) ∧
      (0 ≤ tol → ∀ d : Rat, 0 ≤ d → d * d = m → (ok = true ↔ d < tol)) := by
  obtain ⟨a, mid, b, rfl⟩ := shape_of_len pts (by omega)
  have hm : mid ≠ [] := by
    intro h0; subst h0; simp at h
  have hiff : (mid.all (ptOk a b (tol * tol)) = true ↔ maxList (mid.map (distSq a b)) < tol * tol) := by
    rw [all_ptOk_iff, maxList_lt_iff _ (by simpa using hm), List.forall_mem_map]
  refine ⟨_, _, a, b, pointsInTol_shape a b mid hm tol, maxDistSq_shape a b mid hm, rfl,
    getLast?_shape a b mid, ?_, hiff, ?_⟩
  · rw [interior_cons_snoc]; exact all_ptOk_iff a b mid _
  · intro ht d hd hdm
    rw [hiff, ← hdm]
    exact (mul_self_lt_mul_self_iff hd ht).symm

/-- Fewer than 3 points: both functions fail their `assert len(input_points) >= 3`. -/
theorem C09_pred_short (pts : List Pt) (tol : Rat) (h : pts.length < 3) :
    pointsInTol pts tol = none ∧ maxDistSq pts = none := by
  simp [pointsInTol, maxDistSq, h]

section
variable {α : Type} (xy : α → Pt)

/-- Lists of at most two vertices and non-positive tolerances are left unchanged. -/
theorem C09_noop (v : List α) (tol : Rat) (h : v.length ≤ 2 ∨ tol ≤ 0) :
    supersample xy v tol = some v := by
  unfold supersample
  rcases h with h | h
  · rw [if_pos h]
  · split_ifs <;> rfl

/-- Fuel `len(vertices)` suffices for both loops and `points_in_tolerance` is never called with fewer
than three points: the model never returns `none`. -/
theorem C09_fuel (v : List α) (tol : Rat) : ∃ r, supersample xy v tol = some r := by
  unfold supersample
  split_ifs with h1 h2
  · exact ⟨v, rfl⟩
  · exact ⟨v, rfl⟩
  · cases v with
    | nil => exact absurd (Nat.zero_le 2) h1
    | cons a tail =>
      obtain ⟨r', _, hr⟩ := outer_suff xy tol _ [] a tail (Nat.lt_succ_self _)
      exact ⟨_, hr _ (Nat.lt_succ_self _)⟩

/-- Every deleted vertex lies in a run strictly between two survivors `a`, `b` and is closer than
`tol` (squared distance `< tol²`) to the segment `a b`; nothing else is deleted (`C09.Reduced`). -/
theorem C09_deleted_close (v r : List α) (tol : Rat) (h : supersample xy v tol = some r) :
    Reduced xy (tol * tol) v r := by
  unfold supersample at h
  split_ifs at h with h1 h2
  · cases h; exact Reduced.refl xy _ _
  · cases h; exact Reduced.refl xy _ _
  · cases v with
    | nil => exact absurd (Nat.zero_le 2) h1
    | cons a tail =>
      obtain ⟨r', hred, hr⟩ := outer_suff xy tol _ [] a tail (Nat.lt_succ_self _)
      cases (hr _ (Nat.lt_succ_self _)).symm.trans h
      exact hred

/-- The same, read with indices: the survivors are the vertices at a strictly increasing index list
`idx` from `0` to `len-1`; every index `k` not in `idx` (a deleted vertex) lies strictly between two
*consecutive* surviving indices `i < k < j`, and `v[k]` is at squared distance `< tol²` from the
segment `v[i] v[j]`. -/
theorem C09_deleted_close_index (v r : List α) (tol : Rat) (h : supersample xy v tol = some r) :
    ∃ idx : List Nat, idx.Pairwise (· < ·) ∧ r.map some = idx.map (fun i => v[i]?) ∧
      (v ≠ [] → idx.head? = some 0 ∧ idx.getLast? = some (v.length - 1)) ∧
      ∀ k p, v[k]? = some p → k ∉ idx →
        ∃ i j l1 l2 a b, idx = l1 ++ i :: j :: l2 ∧ i < k ∧ k < j ∧ v[i]? = some a ∧ v[j]? = some b ∧
          distSq (xy a) (xy b) (xy p) < tol * tol :=
  (C09_deleted_close xy v r tol h).index

/-- The result is an in-order subsequence of the same vertex objects that keeps the first and the
last vertex. -/
theorem C09_sublist (v r : List α) (tol : Rat) (h : supersample xy v tol = some r) :
    r.Sublist v ∧ r.head? = v.head? ∧ r.getLast? = v.getLast? :=
  have hr := C09_deleted_close xy v r tol h
  ⟨hr.sublist, hr.head?, hr.getLast?⟩

end

/-- non-vacuity: the hypotheses are satisfiable and the model computes something non-trivial -/
example : supersample (fun p : Pt => p) [(0,0), (1,0), (2,0), (3,5)] 1 = some [(0,0), (2,0), (3,5)] := by
  decide +kernel

/-! ## The same statements about the SOURCE-REGENERATED code

`Gen.points_in_tolerance` is regenerated from `plotink/plot_utils.py` by the translator on every run
(`lean/Plotink/Gen/points_in_tolerance.lean`; the `for` loop is a recursion over the item list, so no fuel). The
theorems below are about that definition in exact arithmetic (`Rounding.exact`). Coordinates and tolerance are Python
`int`s or `float`s in any mixture (`Py.IsNum v q`); `C09.EncPts Py.IsNum v pts` says that `v` is a list of 2-item
lists of such numbers. -/

/-- **bridge** `Gen.points_in_tolerance = C09.pointsInTol` (`AssertionError` ↦ `err`), `int`/`float` mixtures -/
theorem C09_gen_bridge (amb : Nat) (pts : List Pt) (tol : Rat) (vp vt : Py.Val)
    (hp : EncPts Py.IsNum vp pts) (ht : Py.IsNum vt tol) :
    Gen.points_in_tolerance Rounding.exact amb vp vt = encOptBool (pointsInTol pts tol) :=
  points_in_tolerance_bridge Py.enc_isNum amb pts tol vp vt hp ht

/-- the bridge for the all-`float` encoding, as an equation between functions of the rationals -/
theorem C09_gen_bridge_flt (amb : Nat) (pts : List Pt) (tol : Rat) :
    Gen.points_in_tolerance Rounding.exact amb (encPts pts) (.flt tol) = encOptBool (pointsInTol pts tol) :=
  points_in_tolerance_bridge Py.enc_isFlt amb pts tol _ _ (encPts_isFlt pts) rfl

/-- `C09_pred_iff` for the regenerated code: with at least 3 points it returns a boolean, true exactly when every
interior point is at squared distance `< tol²` from the segment first–last, i.e. exactly when the reference maximum
(squared) is `< tol²`; for `tol ≥ 0`, "maximum distance `< tol`". -/
theorem C09_gen_pred_iff (amb : Nat) (pts : List Pt) (tol : Rat) (vp vt : Py.Val)
    (hp : EncPts Py.IsNum vp pts) (ht : Py.IsNum vt tol) (h : 3 ≤ pts.length) :
    ∃ ok m a b, Gen.points_in_tolerance Rounding.exact amb vp vt = .bool_ ok ∧ maxDistSq pts = some m ∧
      pts.head? = some a ∧ pts.getLast? = some b ∧
      (ok = true ↔ ∀ p ∈ interior pts, distSq a b p < tol * tol) ∧
      (ok = true ↔ m < tol * tol) ∧
      (0 ≤ tol → ∀ d : Rat, 0 ≤ d → d * d = m → (ok = true ↔ d < tol)) := by
  obtain ⟨ok, m, a, b, hpit, hmax, hh, hl, h1, h2, h3⟩ := C09_pred_iff pts tol h
  refine ⟨ok, m, a, b, ?_, hmax, hh, hl, h1, h2, h3⟩
  rw [C09_gen_bridge amb pts tol vp vt hp ht, hpit]
  rfl

/-- fewer than 3 points: the regenerated code fails its `assert` (`err`) -/
theorem C09_gen_pred_short (amb : Nat) (pts : List Pt) (tol : Rat) (vp vt : Py.Val)
    (hp : EncPts Py.IsNum vp pts) (ht : Py.IsNum vt tol) (h : pts.length < 3) :
    Gen.points_in_tolerance Rounding.exact amb vp vt = .err := by
  rw [C09_gen_bridge amb pts tol vp vt hp ht, (C09_pred_short pts tol h).1]
  rfl

/-- non-vacuity: a concrete list with `int` and `float` coordinates meets the hypotheses -/
example : EncPts Py.IsNum (.tup [.tup [.int 0, .int 0], .tup [.flt (1/2), .int 1], .tup [.int 2, .flt 0]])
      [(0, 0), (1/2, 1), (2, 0)] ∧ Py.IsNum (.int 2) 2 ∧ 3 ≤ [((0:Rat), (0:Rat)), (1/2, 1), (2, 0)].length :=
  ⟨⟨_, rfl, List.Forall₂.cons ⟨_, _, rfl, Or.inr ⟨0, rfl, by norm_num⟩, Or.inr ⟨0, rfl, by norm_num⟩⟩
      (List.Forall₂.cons ⟨_, _, rfl, Or.inl rfl, Or.inr ⟨1, rfl, by norm_num⟩⟩
        (List.Forall₂.cons ⟨_, _, rfl, Or.inr ⟨2, rfl, by norm_num⟩, Or.inl rfl⟩ List.Forall₂.nil))⟩,
    Or.inr ⟨2, rfl, by norm_num⟩, by decide⟩

/-! ## The regenerated `supersample`

`Gen.supersample` (`lean/Plotink/Gen/supersample.lean`) is regenerated from `plotink/plot_utils.py` on every run:
both `while` loops run on fuel (the outer loop uses one unit per pass and hands the remaining fuel to the inner
loop), the in-place slice deletion becomes rebinding, and the function returns `(None, vertices)` so the mutated
list is visible; `Py.Out.fuelOut` = fuel exhausted.  The theorems are about that definition in exact arithmetic.
Vertices are values of any type `α` with coordinates `xy : α → Pt` and a Python representation `enc : α → Py.Val`
as 2-item lists of `int`s/`float`s (`EncPt Py.IsNum (enc a) (xy a)`): distinct vertices may have equal coordinates.
The harness' driver passes fuel `2*len+5`; `len` is enough. -/

section
variable {α : Type} (xy : α → Pt) (enc : α → Py.Val) (henc : ∀ a, EncPt Py.IsNum (enc a) (xy a))
  (amb : Nat) (tol : Rat) (vt : Py.Val) (ht : Py.IsNum vt tol)
include henc ht

/-- **bridge** `Gen.supersample = C09.supersample`: for every fuel `≥ len(vertices)` the regenerated code returns
`(None, the hand model's result)`, vertex by vertex the same encoded objects. -/
theorem C09_gen_ss_bridge (v : List α) (fuel : Nat) (hf : v.length ≤ fuel) :
    Gen.supersample Rounding.exact amb fuel (.tup (v.map enc)) vt = encOut enc (supersample xy v tol) :=
  supersample_bridge xy enc Py.enc_isNum henc amb tol vt ht v fuel hf

/-- fuel `len(vertices)` (a fortiori the `2*len+5` the driver passes) suffices and no `AssertionError` occurs:
the regenerated code returns `(None, list)` -/
theorem C09_gen_fuel (v : List α) (fuel : Nat) (hf : v.length ≤ fuel) :
    ∃ r : List α, Gen.supersample Rounding.exact amb fuel (.tup (v.map enc)) vt = .val (.tup [.none_, .tup (r.map enc)]) := by
  obtain ⟨r, hr⟩ := C09_fuel xy v tol
  exact ⟨r, by rw [C09_gen_ss_bridge xy enc henc amb tol vt ht v fuel hf, hr]; rfl⟩

/-- at most two vertices or a non-positive tolerance: the list comes back unchanged (whatever the fuel) -/
theorem C09_gen_noop (v : List α) (fuel : Nat) (h : v.length ≤ 2 ∨ tol ≤ 0) :
    Gen.supersample Rounding.exact amb fuel (.tup (v.map enc)) vt = .val (.tup [.none_, .tup (v.map enc)]) := by
  unfold Gen.supersample
  simp only [Py.len_map, Py.le_int_int, Nat.cast_le_ofNat, Py.enc_isNum.le_int ht 0, Int.cast_zero]
  by_cases h2 : v.length ≤ 2
  · simp [h2]
  · rcases h with h | h
    · exact absurd h h2
    · simp [h2, h]

/-- every vertex deleted by the regenerated code lies in a run strictly between two survivors and is closer than
the tolerance to the segment joining them (`C09.Reduced`, and its index reading) -/
theorem C09_gen_deleted_close (v : List α) (fuel : Nat) (hf : v.length ≤ fuel) :
    ∃ r : List α, Gen.supersample Rounding.exact amb fuel (.tup (v.map enc)) vt = .val (.tup [.none_, .tup (r.map enc)]) ∧
      Reduced xy (tol * tol) v r ∧
      ∃ idx : List Nat, idx.Pairwise (· < ·) ∧ r.map some = idx.map (fun i => v[i]?) ∧
        (v ≠ [] → idx.head? = some 0 ∧ idx.getLast? = some (v.length - 1)) ∧
        ∀ k p, v[k]? = some p → k ∉ idx →
          ∃ i j l1 l2 a b, idx = l1 ++ i :: j :: l2 ∧ i < k ∧ k < j ∧ v[i]? = some a ∧ v[j]? = some b ∧
            distSq (xy a) (xy b) (xy p) < tol * tol := by
  obtain ⟨r, hr⟩ := C09_fuel xy v tol
  refine ⟨r, by rw [C09_gen_ss_bridge xy enc henc amb tol vt ht v fuel hf, hr]; rfl,
    C09_deleted_close xy v r tol hr, C09_deleted_close_index xy v r tol hr⟩

/-- the regenerated code returns an in-order sublist of the same vertices that keeps the first and the last -/
theorem C09_gen_sublist (v : List α) (fuel : Nat) (hf : v.length ≤ fuel) :
    ∃ r : List α, Gen.supersample Rounding.exact amb fuel (.tup (v.map enc)) vt = .val (.tup [.none_, .tup (r.map enc)]) ∧
      r.Sublist v ∧ r.head? = v.head? ∧ r.getLast? = v.getLast? := by
  obtain ⟨r, hr⟩ := C09_fuel xy v tol
  exact ⟨r, by rw [C09_gen_ss_bridge xy enc henc amb tol vt ht v fuel hf, hr]; rfl, C09_sublist xy v r tol hr⟩

end

/-- the bridge for the all-`float` encoding with the fuel the driver passes, as an equation between functions of
the rationals: `Gen.supersample (2*len+5) [[x, y], …] tol = (None, C09.supersample …)` -/
theorem C09_gen_ss_bridge_flt (amb : Nat) (v : List Pt) (tol : Rat) :
    Gen.supersample Rounding.exact amb (2 * v.length + 5) (encPts v) (.flt tol) =
      encOut encPt (supersample (fun p => p) v tol) := by
  rw [encPts_eq_map]
  exact supersample_bridge (fun p => p) encPt Py.enc_isFlt encPt_isFlt amb tol _ rfl v _ (by omega)

/-- non-vacuity: the hypotheses are met by concrete data, and the generated code really deletes a vertex -/
example : Gen.supersample Rounding.exact 53 13 (encPts [(0,0), (1,0), (2,0), (3,5)]) (.flt 1) =
    .val (.tup [.none_, encPts [(0,0), (2,0), (3,5)]]) := by
  have h := C09_gen_ss_bridge_flt 53 [(0,0), (1,0), (2,0), (3,5)] 1
  have hm : supersample (fun p : Pt => p) [(0,0), (1,0), (2,0), (3,5)] 1 = some [(0,0), (2,0), (3,5)] := by
    decide +kernel
  rw [hm] at h
  exact h

end Plotink
