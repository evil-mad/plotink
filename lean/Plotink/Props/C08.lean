import Plotink.Model.C08
import Plotink.Proofs.C08
import Plotink.Proofs.C08Gen

/-! # C08 — segment clipping returns exactly the part of the segment inside the rectangle

Theorems about the hand-written model `C08.clipSegment` of `plot_utils.clip_segment` (exact rational
arithmetic; tied to the Python text by the correspondence run of `harness/c08.py`), against the
specification `C08.Inside` (closed rectangle) and `C08.On s t = a + t·(b − a)`.

They hold for *every* segment and *every* rectangle — in particular for all rectangles with
`min ≤ max` (`Rect.Valid`, the property's domain), degenerate segments and zero-area rectangles
included; the hypothesis `min ≤ max` is not needed by any of the proofs. -/

namespace Plotink
open C08

/-- `clip_segment` always returns through trivial accept or trivial reject: no division by zero (the
divisor is the difference of two coordinates that a non-shared outcode bit forces to differ), no
unbound `x_new`, and the `iterations > 3` failsafe is never reached (every clip resolves one of the
four boundary lines and unresolves none, so the fifth pass at the latest returns before it looks at
the counter). -/
theorem C08_total (r : Rect) (s : Seg) :
    ∃ acc s', clipSegment r s = .ok (some (acc, s')) := by
  obtain ⟨acc, s', h, _⟩ := clip_spec r s
  exact ⟨acc, s', h⟩

/-- accept ⇔ some point of the input segment lies in the (closed) rectangle -/
theorem C08_accept_iff (r : Rect) (s : Seg) (acc : Bool) (s' : Seg)
    (h : clipSegment r s = .ok (some (acc, s'))) :
    acc = true ↔ ∃ t, 0 ≤ t ∧ t ≤ 1 ∧ Inside r (On s t) := by
  have hP := clip_post h
  cases acc with
  | false => exact ⟨nofun, fun ⟨t, ht⟩ => absurd ht (hP.reject t)⟩
  | true =>
    obtain ⟨u, v, _, _, hS⟩ := hP.accept
    exact ⟨fun _ => ⟨u, (hS.2 u).2 ⟨le_rfl, hS.1⟩⟩, fun _ => rfl⟩

/-- on accept the returned segment is `(On s t0, On s t1)` with `0 ≤ t0 ≤ t1 ≤ 1` (on the input
segment, same orientation) and the points of the input segment inside the rectangle are exactly
those with parameter in `[t0, t1]` (the result is inside the rectangle and covers all of the inside
part) -/
theorem C08_exact (r : Rect) (s : Seg) (s' : Seg)
    (h : clipSegment r s = .ok (some (true, s'))) :
    ∃ t0 t1, 0 ≤ t0 ∧ t0 ≤ t1 ∧ t1 ≤ 1 ∧ s'.a = On s t0 ∧ s'.b = On s t1 ∧
      ∀ t, 0 ≤ t → t ≤ 1 → (Inside r (On s t) ↔ t0 ≤ t ∧ t ≤ t1) := by
  obtain ⟨u, v, ha, hb, hS⟩ := (clip_post h).accept
  obtain ⟨h0, h01, h1, hin⟩ := hS.bounds
  exact ⟨u, v, h0, h01, h1, ha, hb, hin⟩

/-- the executable specification used by the check (`specInterval`, Liang–Barsky: no outcodes, no
iteration) computes exactly the set `{t ∈ [0,1] | Inside r (On s t)}`: `none` iff it is empty, else its
two ends -/
theorem C08_spec_interval (r : Rect) (s : Seg) :
    (specInterval r s = none → ¬ ∃ t, 0 ≤ t ∧ t ≤ 1 ∧ Inside r (On s t)) ∧
    (∀ t0 t1, specInterval r s = some (t0, t1) → 0 ≤ t0 ∧ t0 ≤ t1 ∧ t1 ≤ 1 ∧
      ∀ t, 0 ≤ t → t ≤ 1 → (Inside r (On s t) ↔ t0 ≤ t ∧ t ≤ t1)) := by
  have h := specInterval_represents r s
  constructor
  · intro hn; rw [hn] at h
    rintro ⟨t, ht⟩; exact h t ht
  · intro t0 t1 hs; rw [hs] at h
    exact h.bounds

/-- the model agrees with the executable specification on every input: it accepts iff the specified
inside part is non-empty, and then returns exactly that part -/
theorem C08_model_eq_spec (r : Rect) (s : Seg) (acc : Bool) (s' : Seg)
    (h : clipSegment r s = .ok (some (acc, s'))) :
    (acc = false → specClip r s = none) ∧ (acc = true → specClip r s = some s') := by
  have hS := specInterval_represents r s
  have hP := clip_post h
  unfold specClip
  cases acc with
  | false => rw [← hP.reject.unique hS]; exact ⟨fun _ => rfl, nofun⟩
  | true =>
    obtain ⟨u, v, ha, hb, hrep⟩ := hP.accept
    rw [← hrep.unique hS]
    refine ⟨nofun, fun _ => ?_⟩
    show some (⟨On s u, On s v⟩ : Seg) = some s'
    rw [← ha, ← hb]

/-- non-vacuity of the hypotheses of `C08_accept_iff`/`C08_exact`: every input produces a result of
that shape (by `C08_total`), and the domain predicate is inhabited, also by a zero-area rectangle -/
example (r : Rect) (s : Seg) : ∃ acc s', clipSegment r s = .ok (some (acc, s')) := C08_total r s
/-- `C08_exact` is not vacuous: a segment starting inside a (zero-area) rectangle is accepted -/
example : ∃ s', clipSegment ⟨3, 1, 3, 1⟩ ⟨⟨3, 1⟩, ⟨7, 5⟩⟩ = .ok (some (true, s')) := by
  obtain ⟨acc, s', h⟩ := C08_total ⟨3, 1, 3, 1⟩ ⟨⟨3, 1⟩, ⟨7, 5⟩⟩
  have := (C08_accept_iff _ _ acc s' h).2 ⟨0, le_refl _, zero_le_one, by simp [Inside, On]⟩
  subst this
  exact ⟨s', h⟩
example : Rect.Valid ⟨0, 0, 10, 10⟩ ∧ Rect.Valid ⟨3, 1, 3, 1⟩ := by
  simp [Rect.Valid]

/-! ## The same statements about the SOURCE-REGENERATED code

`Gen.clip_code` / `Gen.clip_segment` are regenerated from `plotink/plot_utils.py` by the translator on every run
(`lean/Plotink/Gen/clip_code.lean`, `clip_segment.lean`); the theorems below are about those definitions, in exact
arithmetic (`Rounding.exact`), for every fuel ≥ 5 (the `while True` loop is translated with an explicit fuel).
Coordinates are Python `int`s or `float`s in any mixture (`Py.IsNum v q`: `v` is `.flt q` or an `.int` equal to
`q`); `C08.EncSeg`/`C08.EncRect` say that a value is a list `[[a, b], [c, d]]` of such numbers. -/

open Py in
/-- `clip_code`, regenerated: the outcode of the numeric values — for every rounding mode and whatever the tags
(the function only compares) -/
theorem C08_gen_clip_code (R : Rounding) (amb : Nat) (x y x0 x1 y0 y1 : Py.Val) :
    Gen.clip_code R amb x y x0 x1 y0 y1
      = .int (clipCode (num x) (num y) ⟨num x0, num y0, num x1, num y1⟩ : Nat) :=
  clip_code_bridge R amb x y x0 x1 y0 y1

/-- **bridge** `Gen.clip_segment = C08.clipSegment` (all-`float` encoding, as an equation) -/
theorem C08_gen_bridge (amb fuel : Nat) (hf : 5 ≤ fuel) (r : Rect) (s : Seg) :
    Gen.clip_segment Rounding.exact amb fuel (encSeg s) (encRect r) = encResult (clipSegment r s) := by
  obtain ⟨acc, s', vs', hm, hvs', hg⟩ :=
    clip_segment_bridge Py.enc_isFlt amb fuel hf r s _ _ (encSeg_isFlt s) (encRect_isFlt r)
  rw [hg, hm, encSeg_of_isFlt hvs']
  rfl

/-- **bridge**, `int`/`float` mixtures: the generated code returns `(accept, segment)` with the model's accept
flag and a segment whose numbers encode the model's segment -/
theorem C08_gen_bridge_num (amb fuel : Nat) (hf : 5 ≤ fuel) (r : Rect) (s : Seg) (vs vr : Py.Val)
    (hs : EncSeg Py.IsNum vs s) (hr : EncRect Py.IsNum vr r) :
    ∃ acc s' vs', clipSegment r s = .ok (some (acc, s')) ∧ EncSeg Py.IsNum vs' s' ∧
      Gen.clip_segment Rounding.exact amb fuel vs vr = .val (.tup [.bool_ acc, vs']) :=
  clip_segment_bridge Py.enc_isNum amb fuel hf r s vs vr hs hr

/-- `C08_total` for the regenerated code: with fuel ≥ 5 it returns a pair `(accept, segment)` — the fuel does not
run out, no exception, and the segment is again a list of numbers -/
theorem C08_gen_total (amb fuel : Nat) (hf : 5 ≤ fuel) (r : Rect) (s : Seg) (vs vr : Py.Val)
    (hs : EncSeg Py.IsNum vs s) (hr : EncRect Py.IsNum vr r) :
    ∃ acc vs' s', Gen.clip_segment Rounding.exact amb fuel vs vr = .val (.tup [.bool_ acc, vs']) ∧
      EncSeg Py.IsNum vs' s' := by
  obtain ⟨acc, s', vs', _, hvs', hg⟩ := C08_gen_bridge_num amb fuel hf r s vs vr hs hr
  exact ⟨acc, vs', s', hg, hvs'⟩

/-- `C08_accept_iff` for the regenerated code -/
theorem C08_gen_accept_iff (amb fuel : Nat) (hf : 5 ≤ fuel) (r : Rect) (s : Seg) (vs vr : Py.Val)
    (hs : EncSeg Py.IsNum vs s) (hr : EncRect Py.IsNum vr r) (acc : Bool) (vs' : Py.Val)
    (h : Gen.clip_segment Rounding.exact amb fuel vs vr = .val (.tup [.bool_ acc, vs'])) :
    acc = true ↔ ∃ t, 0 ≤ t ∧ t ≤ 1 ∧ Inside r (On s t) := by
  obtain ⟨acc0, s', vs0, hm, _, hg⟩ := C08_gen_bridge_num amb fuel hf r s vs vr hs hr
  rw [hg] at h
  cases h
  exact C08_accept_iff r s acc s' hm

/-- `C08_exact` for the regenerated code: on accept the returned list encodes `(On s t0, On s t1)`, `0 ≤ t0 ≤ t1 ≤ 1`,
and the points of the input segment inside the rectangle are exactly those with parameter in `[t0, t1]` -/
theorem C08_gen_exact (amb fuel : Nat) (hf : 5 ≤ fuel) (r : Rect) (s : Seg) (vs vr : Py.Val)
    (hs : EncSeg Py.IsNum vs s) (hr : EncRect Py.IsNum vr r) (vs' : Py.Val)
    (h : Gen.clip_segment Rounding.exact amb fuel vs vr = .val (.tup [.bool_ true, vs'])) :
    ∃ s' t0 t1, EncSeg Py.IsNum vs' s' ∧ 0 ≤ t0 ∧ t0 ≤ t1 ∧ t1 ≤ 1 ∧ s'.a = On s t0 ∧ s'.b = On s t1 ∧
      ∀ t, 0 ≤ t → t ≤ 1 → (Inside r (On s t) ↔ t0 ≤ t ∧ t ≤ t1) := by
  obtain ⟨acc0, s', vs0, hm, hvs0, hg⟩ := C08_gen_bridge_num amb fuel hf r s vs vr hs hr
  rw [hg] at h
  cases h
  obtain ⟨t0, t1, a0, a01, a1, ea, eb, hin⟩ := C08_exact r s s' hm
  exact ⟨s', t0, t1, hvs0, a0, a01, a1, ea, eb, hin⟩

/-- non-vacuity: a concrete segment with `int` and `float` coordinates and an `int` rectangle meet the hypotheses,
and the generated code accepts it (the segment starts inside) -/
example : EncSeg Py.IsNum (.tup [.tup [.int 3, .flt (1/2)], .tup [.int 7, .int 5]]) ⟨⟨3, 1/2⟩, ⟨7, 5⟩⟩ ∧
    EncRect Py.IsNum (.tup [.tup [.int 0, .int 0], .tup [.int 4, .int 3]]) ⟨0, 0, 4, 3⟩ :=
  ⟨⟨_, _, _, _, rfl, Or.inr ⟨3, rfl, by norm_num⟩, Or.inl rfl, Or.inr ⟨7, rfl, by norm_num⟩, Or.inr ⟨5, rfl, by norm_num⟩⟩,
   ⟨_, _, _, _, rfl, Or.inr ⟨0, rfl, by norm_num⟩, Or.inr ⟨0, rfl, by norm_num⟩, Or.inr ⟨4, rfl, by norm_num⟩,
     Or.inr ⟨3, rfl, by norm_num⟩⟩⟩
example : ∃ vs', Gen.clip_segment Rounding.exact 53 5 (encSeg ⟨⟨3, 1⟩, ⟨7, 5⟩⟩) (encRect ⟨0, 0, 4, 3⟩)
    = .val (.tup [.bool_ true, vs']) := by
  have hs : EncSeg Py.IsNum _ ⟨⟨3, 1⟩, ⟨7, 5⟩⟩ := (encSeg_isFlt _).mono fun _ _ => Py.IsFlt.isNum
  have hr : EncRect Py.IsNum _ ⟨0, 0, 4, 3⟩ := (encRect_isFlt _).mono fun _ _ => Py.IsFlt.isNum
  obtain ⟨acc, vs', s', h, _⟩ := C08_gen_total 53 5 (le_refl _) _ _ _ _ hs hr
  have := (C08_gen_accept_iff 53 5 (le_refl _) _ _ _ _ hs hr acc vs' h).2
    ⟨0, le_refl _, zero_le_one, by norm_num [Inside, On]⟩
  subst this
  exact ⟨vs', h⟩

end Plotink
