import Plotink.Proofs.C04Latch
import Plotink.Model.Ebb3Params
import Plotink.Proofs.Ebb3GenLift

/-! # C04 — the EBB3 connection object latches its first error and then transmits nothing

Model: `Plotink/Model/Ebb3.lean` (every public method of `EBB3` / `EBBMotionWrap`; a port is any
`Device σ`, in particular a `Script` = arbitrary read/write outcome lists, so "a fault of any kind
at any read or write of any call" is `∀ dev`).  `World` = object attributes + device state + log of
every text handed to `port.write` + number of `readline` calls; `run P D c w` = result (value or
escaped exception) and world after the call `c`.  All theorems hold for every parameter set `P`
(retry limits etc.) and every device `D`. -/

namespace Plotink
open Ebb3

/-- The table is complete and every one of the 32 request methods starts with the guard
`if (self.port is None) or (self.err is not None): return <failure value>` (checked by evaluation
of the finite table; `prog_guard` ties each call's program to its table entry). -/
theorem C04_table :
    Method.all.length = 38 ∧ (Method.all.filter Method.isRequest).length = 32 ∧ Method.all.Nodup ∧
    (∀ m, m ∈ Method.all) ∧
    (∀ m ∈ Method.all, m.isRequest = true → (guardOf m).isSome = true) ∧
    (∀ m ∈ Method.all, m.isRequest = true →
      blockedVal m = .bool false ∨ blockedVal m = .none ∨ blockedVal m = .pair .none .none) := by
  exact ⟨by decide, by decide, by decide, Method.mem_all, request_guarded_all, by decide⟩

/-- **Blocked.** With an error recorded, or with no port, every request method (command, query,
motion, pen, I/O, variable, reboot, bootloader; all arguments) returns its failure value, hands
nothing to `write`, calls `readline` zero times and leaves object and device exactly as they were. -/
theorem C04_blocked {σ : Type} (P : Params) (D : Device σ) (c : Call) (hc : c.method.isRequest = true)
    (w : World σ) (h : w.st.port = false ∨ w.st.err.isSome = true) :
    run P D c w = (.ok (blockedVal c.method), w) ∧
    runCall P D c w = ⟨.ok (blockedVal c.method), [], 0, w⟩ := by
  have hb : w.st.blocked = true := by
    rcases h with h | h <;> simp [St.blocked, h]
  have h1 := run_blocked P D c hc w hb
  refine ⟨h1, ?_⟩
  simp [runCall, h1]

example : ∃ (c : Call) (w : World Script), c.method.isRequest = true ∧ w.st.port = true ∧
    w.st.err.isSome = true :=
  ⟨.xy_move 1 2 3, ⟨{ St.init with port := true, err := some ['e'] }, ⟨[], []⟩, [], 0⟩, rfl, rfl, rfl⟩

/-- **First error wins.** No public method — `connect`, `disconnect`, `record_error` and the other
helpers included, whether it returns or raises — replaces a recorded message. -/
theorem C04_first_wins {σ : Type} (P : Params) (D : Device σ) (c : Call) (w : World σ) (e : Str)
    (h : w.st.err = some e) : (run P D c w).2.st.err = some e :=
  run_keepsErr P D c w e h

example : (run srcParams scriptDev (.record_error ['b'])
    ⟨{ St.init with err := some ['a'] }, ⟨[], []⟩, [], 0⟩).2.st.err = some ['a'] := by decide

/-- the helpers and `disconnect` never touch the port -/
theorem C04_helpers_no_io {σ : Type} (P : Params) (D : Device σ) (c : Call)
    (hc : c.method.isHelper = true ∨ c.method = .disconnect) (w : World σ) :
    (runCall P D c w).written = [] ∧ (runCall P D c w).reads = 0 ∧ (run P D c w).2.dev = w.dev := by
  have h := run_noIO P D c hc w
  simp [runCall, h.1, h.2.1, h.2.2]

/-- **Histories.** For every list of calls `pre ++ post`, every device and every start state: if
an error `e` is recorded after `pre` (however it came about: device error reply, unexpected reply,
timeout, USB exception, unsupported firmware, `record_error`), then
* the error at the end of the whole history is still `e`, and so is the error after every call of
  `post`;
* every call of `post` other than `connect` hands nothing to `write`; every request call of `post`
  moreover reads nothing and returns its failure value. -/
theorem C04_history {σ : Type} (P : Params) (D : Device σ) (pre post : List Call) (w : World σ) (e : Str)
    (h : (finalWorld P D pre w).st.err = some e) :
    (finalWorld P D (pre ++ post) w).st.err = some e ∧
    ∀ co ∈ List.zip post (runCalls P D post (finalWorld P D pre w)),
      co.2.world.st.err = some e ∧
      (co.1.method ≠ .connect → co.2.written = []) ∧
      (co.1.method.isRequest = true → co.2.res = .ok (blockedVal co.1.method) ∧ co.2.reads = 0) := by
  refine ⟨by rw [finalWorld_append]; exact finalWorld_err P D post _ e h, ?_⟩
  generalize finalWorld P D pre w = w0 at h
  induction post generalizing w0 with
  | nil => intro co hco; simp [runCalls] at hco
  | cons c cs ih =>
    intro co hco
    simp only [runCalls, List.zip_cons_cons, List.mem_cons] at hco
    have hkeep : (run P D c w0).2.st.err = some e := C04_first_wins P D c w0 e h
    rcases hco with rfl | hco
    · refine ⟨hkeep, ?_, ?_⟩
      · intro hne
        by_cases hr : c.method.isRequest = true
        · simp [(C04_blocked P D c hr w0 (Or.inr (by simp [h]))).2]
        · exact (C04_helpers_no_io P D c ((Method.not_request hr).imp_right fun h => h.resolve_left hne) w0).1
      · intro hr
        simp [(C04_blocked P D c hr w0 (Or.inr (by simp [h]))).2]
    · exact ih _ hkeep co hco

example : ∃ (pre : List Call) (w : World Script) (e : Str),
    (finalWorld srcParams scriptDev pre w).st.err = some e :=
  ⟨[.record_error ['x']], ⟨St.init, ⟨[], []⟩, [], 0⟩, ['x'], by decide⟩

/-- **Not connected.** In every history, a request call that starts while the object has no port
writes nothing, reads nothing and returns its failure value (position-wise form of `C04_blocked`;
`connect` is the only way `port` becomes set again). -/
theorem C04_unconnected {σ : Type} (P : Params) (D : Device σ) (pre : List Call) (c : Call) (w : World σ)
    (hc : c.method.isRequest = true) (h : (finalWorld P D pre w).st.port = false) :
    runCall P D c (finalWorld P D pre w) = ⟨.ok (blockedVal c.method), [], 0, finalWorld P D pre w⟩ :=
  (C04_blocked P D c hc _ (Or.inl h)).2

example : (finalWorld srcParams scriptDev [.disconnect]
    ⟨{ St.init with port := true }, ⟨[], []⟩, [], 0⟩).st.port = false := by decide

/-! ## The same theorems about the *regenerated* code

`Gen.EBB3_<m>` / `Gen.EBBMotionWrap_<m>` are regenerated from `ebb3_serial.py` / `ebb3_motion.py` on every run by
`translator/pyio2lean.py`; `Ebb3Gen.genRun fuel c w` calls the regenerated method of the call `c` on the world `w`
(attributes as Python values, the port as a script with exception classes).  `Ebb3Gen.Covered fuel c`: the method of
`c` is in the bridged set **S** (`Ebb3Gen.inS`: all 38 public methods), request / nickname texts are ASCII, and `fuel`
covers the loops.  `Ebb3Gen.Good w` is the domain (attribute types, faults of serial-I/O
classes, ASCII lines).  Each theorem follows from its hand-model counterpart through `Ebb3Gen.gen_bridge`. -/

open Ebb3Gen in
/-- **Blocked (regenerated code).** With no port or with an error recorded, every regenerated request method of S
returns its failure value; attributes, script, bytes written and read count (everything `absWorld` sees) are
unchanged. -/
theorem C04_gen_blocked (fuel : Nat) (c : Call) (hc : Covered fuel c) (hr : c.method.isRequest = true)
    (w : PyObj.World Gen.EBB3_Obj) (hg : Good w) (hb : w.obj.port = .none ∨ ∃ e, w.obj.err = .str e) :
    ∃ w', genRun fuel c w = .val (encVal (blockedVal c.method)) w' ∧ absWorld w' = absWorld w ∧
      w'.port.log = w.port.log ∧ w'.port.nread = w.port.nread ∧ w'.obj.err = w.obj.err := by
  have hbl := blocked_of_attrs w hb
  have hsim := gen_bridge fuel c hc w hg (pre_of_blocked hr hbl)
  rw [run_blocked srcParams scriptDev c hr (absWorld w) hbl] at hsim
  obtain ⟨w', h1, h2, hg'⟩ := sim_val hsim
  exact ⟨w', h1, h2, congrArg (·.out) h2, congrArg (·.nreads) h2,
    absOpt_inj hg'.obj.err hg.obj.err (congrArg (·.st.err) h2)⟩

open Ebb3Gen in
/-- **First error wins (regenerated code).** No regenerated method of S — whether it returns or raises — replaces
a recorded message. -/
theorem C04_gen_first_wins (fuel : Nat) (c : Call) (hc : Covered fuel c) (w : PyObj.World Gen.EBB3_Obj) (hg : Good w)
    (hp : Pre c w) (e : Str) (he : w.obj.err = .str e) :
    ∃ w', outWorld (genRun fuel c w) = some w' ∧ w'.obj.err = .str e := by
  obtain ⟨w', h1, h2, hg'⟩ := sim_world (gen_bridge fuel c hc w hg hp)
  refine ⟨w', h1, ?_⟩
  have hk := run_keepsErr srcParams scriptDev c (absWorld w) e (by simp [absWorld, absSt, he, absOpt])
  rw [← h2] at hk
  exact absOpt_str hk

open Ebb3Gen in
example : ∃ (w : PyObj.World Gen.EBB3_Obj) (c : Call), Ebb3Gen.Good w ∧ Ebb3Gen.Covered 26 c ∧ c.method.isRequest = true ∧
    (∃ e, w.obj.err = .str e) :=
  ⟨⟨{ Gen.EBB3_Obj.init with port := .port, err := .str ['e'] }, ⟨[], [], [], 0⟩, {}⟩, .xy_move 1 2 3,
    ⟨⟨Or.inl rfl, trivial, trivial, Or.inl rfl, trivial, trivial, trivial⟩, (fun _ h => nomatch h), (fun _ h => nomatch h),
      (fun _ h => nomatch h)⟩,
    ⟨rfl, trivial, Nat.le_refl _⟩, rfl, ⟨_, rfl⟩⟩

/-- the side conditions are satisfiable for a history that connects: an empty `comports()` list, nothing found -/
example : ∃ (w : PyObj.World Gen.EBB3_Obj) (c : Call), Ebb3Gen.Good w ∧ Ebb3Gen.Covered 26 c ∧ c.method = .connect ∧
    Ebb3Gen.Env c w :=
  ⟨⟨Gen.EBB3_Obj.init, ⟨[], [], [], 0⟩, {}⟩, .connect none none none true,
    ⟨⟨Or.inr rfl, trivial, trivial, Or.inl rfl, trivial, trivial, trivial⟩, (fun _ h => nomatch h), (fun _ h => nomatch h),
      (fun _ h => nomatch h)⟩,
    ⟨rfl, trivial, Nat.le_refl _⟩, rfl, ⟨⟨[], rfl, rfl⟩, rfl, (fun _ h => nomatch h), (fun _ h => nomatch h)⟩⟩

open Ebb3Gen in
/-- **Histories (regenerated code), over ALL public methods — `connect` and `find_first` included.** For every history
`pre ++ post` of calls of the regenerated methods, started in a world of the domain whose inputs satisfy the static
side conditions `Env` (the environment arguments of each `connect` / `find_first` call are what the world's `ext`
holds — port search through C19's `findFirst` of the `comports()` input, open outcome `ext.openOk` —, scripts with
`SerialException` faults only when the history contains `connect`, no `RuntimeError` write fault when it contains
`reboot` / `bootload`): if an error `e` is recorded after `pre`, then after the whole history the error is still `e`
(hence, applying this to every prefix of `post`, after every call of `post`); and if `post` contains no `connect`,
not one byte more has been handed to `write`, not one more `readline` was made and the scripts are untouched.
Applied to `pre ++ p1` and `[c]` for a split `post = p1 ++ c :: p2`, the second part says that every call of `post`
other than `connect` does no I/O at all, whatever surrounds it.  With `C04_gen_blocked`: every request call of `post`
returned its failure value. -/
theorem C04_gen_history (fuel : Nat) (pre post : List Call) (w : PyObj.World Gen.EBB3_Obj)
    (hc : ∀ c ∈ pre ++ post, Covered fuel c) (hg : Good w) (hp : ∀ c ∈ pre ++ post, Env c w)
    (w1 : PyObj.World Gen.EBB3_Obj) (h1 : genFinal fuel pre w = some w1) (e : Str) (he : w1.obj.err = .str e) :
    ∃ w2, genFinal fuel (pre ++ post) w = some w2 ∧ w2.obj.err = .str e ∧
      ((∀ c ∈ post, c.method ≠ .connect) →
        w2.port.log = w1.port.log ∧ w2.port.nread = w1.port.nread ∧ (absWorld w2).dev = (absWorld w1).dev) := by
  obtain ⟨w2, h2, h3, hg2⟩ := gen_final_sim fuel (pre ++ post) w hc hg (histPre_of_env fuel _ w hp)
  obtain ⟨w1', h1', h1abs, -⟩ := gen_final_sim fuel pre w (fun c h => hc c (List.mem_append_left _ h)) hg
    (histPre_of_env fuel _ w fun c h => hp c (List.mem_append_left _ h))
  rw [h1] at h1'
  injection h1' with h1'
  subst h1'
  have hm : (finalWorld srcParams scriptDev pre (absWorld w)).st.err = some e := by
    rw [← h1abs]; simp [absWorld, absSt, he, absOpt]
  refine ⟨w2, h2, ?_, fun hnc => ?_⟩
  · have hk := finalWorld_err srcParams scriptDev post _ e hm
    rw [← finalWorld_append, ← h3] at hk
    exact absOpt_str hk
  · have hq := finalWorld_quiet srcParams scriptDev post _ e hm hnc
    rw [← finalWorld_append, ← h3, ← h1abs] at hq
    exact hq

end Plotink
