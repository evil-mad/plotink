import Plotink.Proofs.C17Main
import Plotink.Proofs.ContractIeee

/-! # C17 — Reported peak T3 rate brackets the true peak within one jerk increment

Theorems about the *generated* `Gen.max_rate_t3` (which calls the generated `Gen.rate_t3`), for any
rounding `R` meeting the round-to-nearest contract `T3.Contract` — so the binary64 quotient `t_mid`,
the float window test `1.5 < t_mid < time − 1.5` and `math.ceil` are covered, not only ideal
arithmetic — on the firmware-valid domain `T3.ValidT3` (see `C02_valid_iff`). The true peak is
`Fw.t3Peak rate accel jerk T`, characterised by `C17_peak_spec`. -/

namespace Plotink
open Py Py.Val Fw T3

/-- `Fw.t3Peak … n` is the maximum of `|r_k|` over ticks `1..n`: an upper bound, attained when `n ≥ 1` -/
theorem C17_peak_spec (rate accel jerk : Int) (n : Nat) :
    (∀ k : Nat, 1 ≤ k → k ≤ n → |t3Rate rate accel jerk k| ≤ t3Peak rate accel jerk n) ∧
    (1 ≤ n → ∃ k : Nat, 1 ≤ k ∧ k ≤ n ∧ t3Peak rate accel jerk n = |t3Rate rate accel jerk k|) ∧
    0 ≤ t3Peak rate accel jerk n := by
  induction n with
  | zero =>
    refine ⟨fun k h1 h2 => by omega, fun h => by omega, by simp [t3Peak]⟩
  | succ n ih =>
    obtain ⟨ih1, ih2, ih3⟩ := ih
    have hstep : t3Peak rate accel jerk (n + 1)
        = max (t3Peak rate accel jerk n) |t3Rate rate accel jerk (n + 1)| := by
      simp only [t3Peak, Int.natCast_natAbs]
    refine ⟨?_, ?_, ?_⟩
    · intro k h1 h2
      rw [hstep]
      by_cases hk : k = n + 1
      · rw [hk]; exact le_max_right _ _
      · exact le_trans (ih1 k h1 (by omega)) (le_max_left _ _)
    · intro _
      rw [hstep]
      by_cases hle : t3Peak rate accel jerk n ≤ |t3Rate rate accel jerk (n + 1)|
      · exact ⟨n + 1, by omega, le_refl _, max_eq_right hle⟩
      · have hlt := not_le.mp hle
        have hn : 1 ≤ n := by
          by_contra h0
          have : n = 0 := by omega
          rw [this] at hlt
          simp only [t3Peak] at hlt
          have := abs_nonneg (t3Rate rate accel jerk (0 + 1))
          omega
        obtain ⟨k, hk1, hk2, hk3⟩ := ih2 hn
        exact ⟨k, hk1, by omega, by rw [max_eq_left (le_of_lt hlt)]; exact hk3⟩
    · rw [hstep]; exact le_trans ih3 (le_max_left _ _)

/-- the reported value is the absolute rate of some tick of the move, hence never above the true peak -/
theorem C17_attained {R : Rounding} (hR : T3.Contract R) (amb : Nat) (T rate accel jerk : Int)
    (hv : ValidT3 rate accel jerk T) :
    ∃ (res : Int) (k : Nat), Gen.max_rate_t3 R amb (.int T) (.int rate) (.int accel) (.int jerk) = .int res ∧
      1 ≤ k ∧ (k : Int) ≤ T ∧ res = |t3Rate rate accel jerk k| ∧ res ≤ t3Peak rate accel jerk T.toNat := by
  obtain ⟨res, hres, ⟨k, hk1, hkT, hk⟩, _, _, _⟩ := max_main hR amb T rate accel jerk (envelope_of_valid hv)
  refine ⟨res, k, hres, hk1, hkT, hk, ?_⟩
  rw [hk]
  exact (C17_peak_spec rate accel jerk T.toNat).1 k hk1 (by have := hv.hT1; omega)

/-- it is at least the absolute rate at the first and at the last tick -/
theorem C17_ends {R : Rounding} (hR : T3.Contract R) (amb : Nat) (T rate accel jerk : Int)
    (hv : ValidT3 rate accel jerk T) (res : Int)
    (h : Gen.max_rate_t3 R amb (.int T) (.int rate) (.int accel) (.int jerk) = .int res) :
    |t3Rate rate accel jerk 1| ≤ res ∧ |t3Rate rate accel jerk T.toNat| ≤ res := by
  obtain ⟨res', hres, _, h1, hT, _⟩ := max_main hR amb T rate accel jerk (envelope_of_valid hv)
  rw [hres] at h
  injection h with h
  subst h
  exact ⟨h1, hT⟩

/-- it falls short of the true peak by at most `|jerk|` -/
theorem C17_shortfall {R : Rounding} (hR : T3.Contract R) (amb : Nat) (T rate accel jerk : Int)
    (hv : ValidT3 rate accel jerk T) (res : Int)
    (h : Gen.max_rate_t3 R amb (.int T) (.int rate) (.int accel) (.int jerk) = .int res) :
    t3Peak rate accel jerk T.toNat - res ≤ |jerk| := by
  obtain ⟨res', hres, _, _, _, hs⟩ := max_main hR amb T rate accel jerk (envelope_of_valid hv)
  rw [hres] at h
  injection h with h
  subst h
  have hT1 := hv.hT1
  obtain ⟨k, hk1, hk2, hk3⟩ := (C17_peak_spec rate accel jerk T.toNat).2.1 (by omega)
  rw [hk3]
  have := hs k hk1 (by omega)
  linarith

/-- a move reported as within the `2^31−1` rate limit exceeds it by at most one jerk increment -/
theorem C17_limit {R : Rounding} (hR : T3.Contract R) (amb : Nat) (T rate accel jerk : Int)
    (hv : ValidT3 rate accel jerk T) (res : Int)
    (h : Gen.max_rate_t3 R amb (.int T) (.int rate) (.int accel) (.int jerk) = .int res)
    (hlim : res ≤ 2 ^ 31 - 1) :
    t3Peak rate accel jerk T.toNat ≤ 2 ^ 31 - 1 + |jerk| := by
  have := C17_shortfall hR amb T rate accel jerk hv res h
  linarith

/-- non-vacuity: the contract and the domain are inhabited (vertex of the rate parabola at tick 2.9, inside the move) -/
example : T3.Contract Rounding.exact := contract_exact
example : ValidT3 100 (-12) 5 5 := validT3_of_ticks 100 (-12) 5 5 (by decide) (by decide) (by decide)
example : t3Peak 100 (-12) 5 5 = 96 := by decide

/-- non-vacuity of the rounding hypothesis for the arithmetic that is actually modelled and executed:
the concrete IEEE/mpmath round-to-nearest instance `Rounding.ieee` (run by the driver and compared with
CPython/mpmath on every check) satisfies the contract assumed above -/
theorem C17_contract_ieee : T3.Contract Rounding.ieee := T3.contract_ieee

end Plotink
