import Plotink.Proofs.C14Gen
import Plotink.Proofs.C14
import Mathlib.Tactic.NormNum

/-! # C14 — R-tree intersection query equals brute force

Model: `Plotink/Model/C14.lean` (`build`, `query` mirror `rtree.Index.__init__` / `intersection`).
The theorems hold for **every** centre function (the code's binary64 running mean is one instance) and
for every strictness assignment `s` of the eight quadrant comparisons that passes the decidable
coverage test `coversB s` (all-non-strict does; the all-strict partition of the unrepaired code does
not).  The harness reads `s` off the current source on every run.  -/

namespace Plotink
open C14

/-- **Main theorem.**  For every centre function, every covering strictness assignment, every list of
id-tagged boxes with `min ≤ max` on both axes and every query box: an id is reported exactly when one
of its boxes passes the closed-interval test against the query (touching counts). -/
theorem C14_query (s : Strict) (hs : coversB s = true) (center : List IBox → Rat × Rat)
    (bs : List IBox) (hv : ∀ b ∈ bs, b.2.Valid) (q : Box) (i : Nat) :
    i ∈ query q (build s center bs) ↔ ∃ b, (i, b) ∈ bs ∧ overlaps q b = true :=
  ⟨query_sound s center q bs i, fun ⟨b, hb, ho⟩ => query_complete s hs center q bs hv i b hb ho⟩

example : coversB Strict.none = true := by decide +kernel
example : ∀ b ∈ [((7 : Nat), (⟨0, 0, 1, 0⟩ : Box))], b.2.Valid := by
  intro b hb; simp at hb; subst hb; constructor <;> norm_num

/-- the same, against the executable brute-force specification and in geometric terms: the reported ids
are exactly those of `bruteForce`, and for a query box with `min ≤ max` exactly those having a box that
shares at least one point with the query rectangle -/
theorem C14_brute_force (s : Strict) (hs : coversB s = true) (center : List IBox → Rat × Rat)
    (bs : List IBox) (hv : ∀ b ∈ bs, b.2.Valid) (q : Box) (i : Nat) :
    (i ∈ query q (build s center bs) ↔ i ∈ bruteForce q bs) ∧
    (q.Valid → (i ∈ query q (build s center bs) ↔
      ∃ b, (i, b) ∈ bs ∧ ∃ x y : Rat, (b.x1 ≤ x ∧ x ≤ b.x2 ∧ b.y1 ≤ y ∧ y ≤ b.y2) ∧
                                       (q.x1 ≤ x ∧ x ≤ q.x2 ∧ q.y1 ≤ y ∧ y ≤ q.y2))) := by
  have h := C14_query s hs center bs hv q i
  exact ⟨h.trans (mem_bruteForce q bs i).symm, fun hq => h.trans <| exists_congr fun b =>
    and_congr_right fun hb => overlaps_iff_shares_point q b hq (hv (i, b) hb)⟩

/-- "nothing extra" needs no hypothesis at all: it holds for every strictness assignment (also the
unrepaired strict one) and for arbitrary boxes -/
theorem C14_nothing_extra (s : Strict) (center : List IBox → Rat × Rat) (bs : List IBox) (q : Box) (i : Nat)
    (h : i ∈ query q (build s center bs)) : ∃ b, (i, b) ∈ bs ∧ overlaps q b = true :=
  query_sound s center q bs i h

/-- **Construction terminates**: `build` is a total function (accepted by Lean with the proof that the
four quadrant lists are strictly shorter whenever the node is not a leaf), and the recursion depth is at
most the number of boxes. -/
theorem C14_terminates (s : Strict) (center : List IBox → Rat × Rat) (bs : List IBox) :
    (build s center bs).depth ≤ bs.length :=
  depth_le s center bs

/-- the repaired partition (all eight comparisons non-strict) covers; so does the assignment whose left and lower
tests are strict and whose right and upper tests are not -/
theorem C14_nonstrict_covers :
    coversB Strict.none = true ∧
    coversB ⟨true, true, false, true, true, false, false, false⟩ = true := by decide +kernel

/-- the unrepaired partition (all comparisons strict) does not cover, and the model exhibits the
lost box of DESIGN §9 F8 with the code's own (exact) mean centre: the horizontal stroke `(2,0)-(3,0)`
overlaps the query `(1,-1)-(3,0)` but is not reported. -/
theorem C14_strict_counterexample :
    coversB Strict.all = false ∧
    overlaps ⟨1, -1, 3, 0⟩ ⟨2, 0, 3, 0⟩ = true ∧
    (0 : Nat) ∉ query ⟨1, -1, 3, 0⟩ (build Strict.all (meanCenter id) [(0, ⟨2, 0, 3, 0⟩)]) := by
  refine ⟨by decide, by decide, ?_⟩
  have hc : meanCenter id [((0 : Nat), (⟨2, 0, 3, 0⟩ : Box))] = (5 / 2, 0) := by
    simp only [meanCenter, List.foldl, id, List.length_singleton]; norm_num
  rw [build]
  simp only [hc, List.filter, quad, lo, hi, Strict.all]
  norm_num [extent, extentHit, query]

/-! ## The same statements about the SOURCE-REGENERATED class

`Gen.rtree_Index_init` / `Gen.rtree_Index_intersection` are regenerated from `plotink/rtree.py` on every run
(`lean/Plotink/Gen/rtree_Index.lean`).  Exact arithmetic (`Rounding.exact`); boxes are `(id, (x1, y1, x2, y2))` with
`float` coordinates (`C14.encIBoxes`, `C14.encBox`); an instance is the field tuple `C14.encTree`; the returned `set`
is a duplicate-free list of ids (`C14.encSet`).  Both functions recurse on `fuel`. -/

/-- **bridge** (construction): `Index(bboxes)`, regenerated, builds the model's tree with the code's own running
mean as the centre and its eight non-strict quadrant comparisons, for every fuel above the number of boxes -/
theorem C14_gen_build (amb : Nat) (bs : List IBox) (fuel : Nat) (hf : bs.length < fuel) :
    Gen.rtree_Index_init Rounding.exact amb fuel (encIBoxes bs)
      = .val (encTree (extent bs) (build Strict.none (meanCenter id) bs)) :=
  init_bridge amb bs fuel hf

/-- **bridge** (query): `intersection`, regenerated, on an encoded tree returns the id set of the model's `query`,
for every fuel above the depth of the tree -/
theorem C14_gen_intersection (amb : Nat) (q : Box) (t : Tree) (own : Option Box) (fuel : Nat) (hf : t.depth < fuel) :
    ∃ l : List Nat, Gen.rtree_Index_intersection Rounding.exact amb fuel (encTree own t) (encBox q) = .val (encSet l) ∧
      l.Nodup ∧ ∀ i, i ∈ l ↔ i ∈ query q t :=
  ⟨qset q t, intersection_bridge amb q t own fuel hf, nodup_qset q t, mem_qset q t⟩

/-- `C14_query` / `C14_brute_force` for the regenerated class: build the index from any list of id-tagged boxes with
`min ≤ max`, ask any query box — with any fuel above the number of boxes both calls return, and the returned set
contains an id exactly when one of its boxes passes the closed-interval test (= the brute-force answer) -/
theorem C14_gen_query (amb : Nat) (bs : List IBox) (hv : ∀ b ∈ bs, b.2.Valid) (q : Box) (fuel : Nat)
    (hf : bs.length < fuel) :
    ∃ (t : Py.Val) (l : List Nat), Gen.rtree_Index_init Rounding.exact amb fuel (encIBoxes bs) = .val t ∧
      Gen.rtree_Index_intersection Rounding.exact amb fuel t (encBox q) = .val (encSet l) ∧ l.Nodup ∧
      (∀ i, i ∈ l ↔ ∃ b, (i, b) ∈ bs ∧ overlaps q b = true) ∧ (∀ i, i ∈ l ↔ i ∈ bruteForce q bs) := by
  have hd := C14_terminates Strict.none (meanCenter id) bs
  obtain ⟨l, hl, hnd, hm⟩ := C14_gen_intersection amb q (build Strict.none (meanCenter id) bs) (extent bs) fuel (lt_of_le_of_lt hd hf)
  refine ⟨_, l, C14_gen_build amb bs fuel hf, hl, hnd, fun i => ?_, fun i => ?_⟩
  · rw [hm, C14_query Strict.none C14_nonstrict_covers.1 (meanCenter id) bs hv q i]
  · rw [hm, (C14_brute_force Strict.none C14_nonstrict_covers.1 (meanCenter id) bs hv q i).1]

/-- `C14_terminates` for the regenerated constructor: no `fuelOut` from `bs.length + 1` units of fuel on -/
theorem C14_gen_terminates (amb : Nat) (bs : List IBox) :
    ∃ t, ∀ fuel, bs.length < fuel → Gen.rtree_Index_init Rounding.exact amb fuel (encIBoxes bs) = .val t :=
  ⟨_, fun fuel hf => C14_gen_build amb bs fuel hf⟩

/-- non-vacuity: a concrete valid box list; the regenerated class reports the horizontal stroke of finding F8 -/
example : ∀ b ∈ [((0 : Nat), (⟨2, 0, 3, 0⟩ : Box))], b.2.Valid := by
  intro b hb; simp at hb; subst hb; constructor <;> norm_num
example : ∃ t l, Gen.rtree_Index_init Rounding.exact 53 2 (encIBoxes [(0, ⟨2, 0, 3, 0⟩)]) = .val t ∧
    Gen.rtree_Index_intersection Rounding.exact 53 2 t (encBox ⟨1, -1, 3, 0⟩) = .val (encSet l) ∧ 0 ∈ l := by
  obtain ⟨t, l, h1, h2, _, hm, _⟩ := C14_gen_query 53 [(0, ⟨2, 0, 3, 0⟩)]
    (by intro b hb; simp at hb; subst hb; constructor <;> norm_num) ⟨1, -1, 3, 0⟩ 2 (by decide)
  exact ⟨t, l, h1, h2, (hm 0).2 ⟨⟨2, 0, 3, 0⟩, List.mem_cons_self, by decide⟩⟩

end Plotink
