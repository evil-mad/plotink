import Plotink.Proofs.C18
import Plotink.Proofs.PyEnc

/-! # C18 — travel-limit helpers

Theorems are stated about the *generated* definitions `Gen.checkLimits`, `Gen.checkLimitsTol`,
`Gen.constrainLimits`, `Gen.point_in_bounds` (regenerated from plotink/plot_utils.py on every run).
Arguments are numeric Python values (`int` or `float`, any mixture); comparisons are Python's exact
mixed comparisons.  -/

namespace Plotink
open Py Py.Val

def Numeric : Val → Prop
  | .int _ => True
  | .flt _ => True
  | _ => False

/-- `checkLimits`: returns the value itself inside the closed range, else the nearer bound, and
flags exactly the values outside the range. -/
theorem C18_checkLimits (R : Rounding) (amb : Nat) (v l u : Val)
    (hlu : num l ≤ num u) :
    (num l ≤ num v ∧ num v ≤ num u → Gen.checkLimits R amb v l u = .tup [v, .bool_ false]) ∧
    (num u < num v → Gen.checkLimits R amb v l u = .tup [u, .bool_ true]) ∧
    (num v < num l → Gen.checkLimits R amb v l u = .tup [l, .bool_ true]) := by
  simp only [C18.checkLimits_eq]
  refine ⟨fun ⟨h1, h2⟩ => ?_, fun h => ?_, fun h => ?_⟩
  · rw [C18.clampVal_inside h1 h2, Bool.eq_false_iff.mpr (mt (gt_iff v u).mp (not_lt.mpr h2)),
      Bool.eq_false_iff.mpr (mt (lt_iff v l).mp (not_lt.mpr h1))]; rfl
  · rw [C18.clampVal_above h, (gt_iff v u).mpr h]; rfl
  · rw [C18.clampVal_below hlu h, (lt_iff v l).mpr h, Bool.or_true]

/-- the result of `checkLimits` is always inside the range -/
theorem C18_checkLimits_inside (R : Rounding) (amb : Nat) (v l u : Val) (hlu : num l ≤ num u) :
    ∃ r f, Gen.checkLimits R amb v l u = .tup [r, .bool_ f] ∧ num l ≤ num r ∧ num r ≤ num u ∧
      (f = true ↔ (num v < num l ∨ num u < num v)) := by
  refine ⟨_, _, C18.checkLimits_eq R amb v l u, (C18.clampVal_range hlu).1, (C18.clampVal_range hlu).2, ?_⟩
  rw [Bool.or_eq_true, gt_iff, lt_iff]; exact or_comm

/-- `checkLimitsTol`: same clamp; the flag is raised exactly when the value is outside the range and, on that
side, beyond the *computed* band `upper + tol` / `lower - tol` (whatever rounding the addition used). -/
theorem C18_checkLimitsTol (R : Rounding) (amb : Nat) (v l u t : Val) (hlu : num l ≤ num u) :
    ∃ r f, Gen.checkLimitsTol R amb v l u t = .tup [r, .bool_ f] ∧
      (num l ≤ num v ∧ num v ≤ num u → r = v ∧ f = false) ∧
      (num u < num v → r = u ∧ (f = true ↔ num (Py.add R amb u t) < num v)) ∧
      (num v < num l → r = l ∧ (f = true ↔ num v < num (Py.sub R amb l t))) ∧
      num l ≤ num r ∧ num r ≤ num u := by
  refine ⟨_, _, C18.checkLimitsTol_eq R amb t hlu, ?_, ?_, ?_, C18.clampVal_range hlu⟩
  · rintro ⟨h1, h2⟩
    refine ⟨C18.clampVal_inside h1 h2, Bool.eq_false_iff.mpr fun hf => ?_⟩
    rcases C18.tolFlag_iff.mp hf with ⟨h, _⟩ | ⟨h, _⟩ <;> linarith
  · intro h
    refine ⟨C18.clampVal_above h, C18.tolFlag_iff.trans ⟨?_, fun a => Or.inl ⟨h, a⟩⟩⟩
    rintro (⟨_, a⟩ | ⟨b, _⟩)
    · exact a
    · linarith
  · intro h
    refine ⟨C18.clampVal_below hlu h, C18.tolFlag_iff.trans ⟨?_, fun a => Or.inr ⟨h, a⟩⟩⟩
    rintro (⟨b, _⟩ | ⟨_, a⟩)
    · linarith
    · exact a

/-- with ideal arithmetic and a non-negative tolerance, `checkLimitsTol` flags exactly the values
outside the range by more than the tolerance -/
theorem C18_checkLimitsTol_exact (amb : Nat) (v l u t : Val)
    (_hv : Numeric v) (hl : Numeric l) (hu : Numeric u) (ht : Numeric t)
    (hlu : num l ≤ num u) (ht0 : 0 ≤ num t) :
    ∃ r f, Gen.checkLimitsTol Rounding.exact amb v l u t = .tup [r, .bool_ f] ∧
      (f = true ↔ (num u + num t < num v ∨ num v < num l - num t)) := by
  have isNum : ∀ {w : Val}, Numeric w → IsNum w (num w) := by
    intro w h
    cases w <;> first | exact Or.inl rfl | exact Or.inr ⟨_, rfl, rfl⟩ | exact h.elim
  have hadd := enc_isNum.num_eq (enc_isNum.add amb (isNum hu) (isNum ht))
  have hsub := enc_isNum.num_eq (enc_isNum.sub amb (isNum hl) (isNum ht))
  refine ⟨_, _, C18.checkLimitsTol_eq _ amb t hlu, ?_⟩
  rw [C18.tolFlag_iff, hadd, hsub]
  constructor
  · rintro (⟨_, h⟩ | ⟨_, h⟩)
    · exact Or.inl h
    · exact Or.inr h
  · rintro (h | h)
    · exact Or.inl ⟨by linarith, h⟩
    · exact Or.inr ⟨by linarith, h⟩

/-- `constrainLimits` returns one of its three arguments: the value inside the closed range, the
nearer bound otherwise (numerically; for a degenerate range the two bounds are the same number) -/
theorem C18_constrainLimits (R : Rounding) (amb : Nat) (v l u : Val) (hlu : num l ≤ num u) :
    (Gen.constrainLimits R amb v l u = v ∨ Gen.constrainLimits R amb v l u = l ∨
      Gen.constrainLimits R amb v l u = u) ∧
    (num l ≤ num v ∧ num v ≤ num u → num (Gen.constrainLimits R amb v l u) = num v) ∧
    (num u < num v → num (Gen.constrainLimits R amb v l u) = num u) ∧
    (num v < num l → num (Gen.constrainLimits R amb v l u) = num l) ∧
    num l ≤ num (Gen.constrainLimits R amb v l u) ∧ num (Gen.constrainLimits R amb v l u) ≤ num u := by
  refine ⟨C18.constrainLimits_mem R amb v l u, ?_⟩
  rw [C18.num_constrainLimits]
  exact ⟨fun h => by rw [min_eq_right h.2, max_eq_right h.1],
    fun h => by rw [min_eq_left h.le, max_eq_right hlu],
    fun h => by rw [min_eq_right (h.le.trans hlu), max_eq_left h.le],
    le_max_left _ _, max_le hlu (min_le_left _ _)⟩

/-- 2-D test = the tolerant checker on each coordinate, for **every** rounding of the tolerance band: `point_in_bounds`
tests the bound itself before the band, as `checkLimitsTol` does (repair F14). Without that test the statement needs
the computed band to contain the range, which fails for an integer bound above `2^53` with a float tolerance. -/
theorem C18_point_in_bounds (R : Rounding) (amb : Nat) (x y x0 y0 x1 y1 t : Val)
    (hx : num x0 ≤ num x1) (hy : num y0 ≤ num y1) :
    ∃ rx fx ry fy, Gen.checkLimitsTol R amb x x0 x1 t = .tup [rx, .bool_ fx] ∧
      Gen.checkLimitsTol R amb y y0 y1 t = .tup [ry, .bool_ fy] ∧
      Gen.point_in_bounds R amb (.tup [x, y]) (.tup [.tup [x0, y0], .tup [x1, y1]]) t
        = .bool_ (!fx && !fy) := by
  exact ⟨_, _, _, _, C18.checkLimitsTol_eq R amb t hx, C18.checkLimitsTol_eq R amb t hy,
    C18.point_in_bounds_eq R amb x y x0 y0 x1 y1 t⟩

/-- non-vacuity and the F14 witness: a point exactly on an integer bound above `2^53`, float tolerance `1e-9`, any
rounding: in bounds -/
example (R : Rounding) : Gen.point_in_bounds R 53 (.tup [.int (2 ^ 53 + 1), .int 0])
    (.tup [.tup [.int 0, .int 0], .tup [.int (2 ^ 53 + 1), .int 1]]) (.flt (1 / 10 ^ 9)) = .bool_ true := by
  unfold Gen.point_in_bounds
  simp only [Py.unpackN_tup2, Py.getItem_cons_zero, Py.getItem_cons_succ, Py.gt, Py.lt, Py.num]
  norm_num

end Plotink
