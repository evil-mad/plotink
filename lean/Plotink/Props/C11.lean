import Plotink.Proofs.C11Gen
import Plotink.Proofs.C11Core
import Plotink.Proofs.C11Parse

/-! # C11 — viewBox scaling follows the SVG preserveAspectRatio rules

About `C11.vbScale`, the hand-written model of `plot_utils.vb_scale` (tied to the source by the
correspondence run of `harness/c11.py`).  A point maps as `x ↦ (x + o_x) * s_x`, `y ↦ (y + o_y) * s_y`;
`parseVB vb = .ok x y w h` says the viewBox attribute holds (at least) four numerals with these values,
`parTokens par = (a, m)` that the code reads the align word `a` and the meetOrSlice word `m` from the
preserveAspectRatio attribute (`C11_parse` says when). -/

namespace Plotink
open C11 PyFloat

/-- the value `vb_scale` returns for a valid viewBox and positive sizes, whatever the two words read from the
preserveAspectRatio attribute: the numeric part `vbCore` on those words -/
theorem C11_valid (vb par : Option (List Char)) (a m : List Char) (x y w h W H : Rat)
    (hvb : parseVB vb = .ok x y w h) (hpar : parTokens par = (a, m))
    (hw : 0 < w) (hh : 0 < h) (hW : 0 < W) (hH : 0 < H) :
    vbScale vb par W H = .xf (vbCore a m x y w h W H) := by
  rw [vbScale_ok par W H hvb, if_neg (not_or.2 ⟨hw.not_ge, hh.not_ge⟩), if_neg (not_or.2 ⟨hW.not_ge, hH.not_ge⟩), hpar]

/-- `none`: each axis is stretched to fill; the viewBox rectangle lands exactly on the page rectangle -/
theorem C11_none (vb par : Option (List Char)) (mos : List Char) (x y w h W H : Rat)
    (hvb : parseVB vb = .ok x y w h) (hpar : parTokens par = (sNone, mos))
    (hw : 0 < w) (hh : 0 < h) (hW : 0 < W) (hH : 0 < H) :
    ∃ t, vbScale vb par W H = .xf t ∧ t.sx = W / w ∧ t.sy = H / h ∧
      (x + t.ox) * t.sx = 0 ∧ (x + w + t.ox) * t.sx = W ∧
      (y + t.oy) * t.sy = 0 ∧ (y + h + t.oy) * t.sy = H := by
  -- both axes are filled exactly: no excess to place, each edge of the viewBox lands on the same edge of the page
  have ex : w * (W / w) = W := mul_div_cancel₀ W hw.ne'
  have ey : h * (H / h) = H := mul_div_cancel₀ H hh.ne'
  exact ⟨_, (C11_valid vb par _ _ x y w h W H hvb hpar hw hh hW hH).trans (congrArg _ (core_none ..)), rfl, rfl,
    aligned_axis_fill .min x w _ W ex, aligned_axis_fill .max x w _ W ex,
    aligned_axis_fill .min y h _ H ey, aligned_axis_fill .max y h _ H ey⟩

example : ∃ t, vbScale (some ['0',' ','-','2','.','5',',','1','e','1',' ','4']) (some ['N','o','n','e']) 20 2 = .xf t ∧
    t.sx = 20 / 10 ∧ t.sy = 2 / 4 := by
  obtain ⟨t, h, a, b, _⟩ := C11_none (some ['0',' ','-','2','.','5',',','1','e','1',' ','4']) (some ['N','o','n','e'])
    sMeet 0 (-5/2) 10 4 20 2 (by decide +kernel) (by decide) (by norm_num) (by norm_num) (by norm_num) (by norm_num)
  exact ⟨t, h, a, b⟩

/-- any of the nine alignments: the scale is uniform, equal to the smaller axis ratio for `meet` and to
the larger one for `slice` (at equal aspect ratios both coincide) -/
theorem C11_uniform (vb par : Option (List Char)) (ax ay : Pos) (m : MOS) (x y w h W H : Rat)
    (hvb : parseVB vb = .ok x y w h) (hpar : parTokens par = (alignName ax ay, mosName m))
    (hw : 0 < w) (hh : 0 < h) (hW : 0 < W) (hH : 0 < H) :
    ∃ t, vbScale vb par W H = .xf t ∧ t.sx = t.sy ∧
      t.sx = fitScale m (W / w) (H / h) := by
  obtain ⟨a, b, _⟩ := core_uniform ax ay m x y w h W H hw hh hW hH
  exact ⟨_, C11_valid vb par _ _ x y w h W H hvb hpar hw hh hW hH, a, b⟩

/-- … and on each axis the named position of the viewBox (min edge, centre, max edge) is mapped onto
the same-named position of the page -/
theorem C11_align (vb par : Option (List Char)) (ax ay : Pos) (m : MOS) (x y w h W H : Rat)
    (hvb : parseVB vb = .ok x y w h) (hpar : parTokens par = (alignName ax ay, mosName m))
    (hw : 0 < w) (hh : 0 < h) (hW : 0 < W) (hH : 0 < H) :
    ∃ t, vbScale vb par W H = .xf t ∧
      (vbPt ax x w + t.ox) * t.sx = pagePt ax W ∧ (vbPt ay y h + t.oy) * t.sy = pagePt ay H := by
  obtain ⟨_, _, c⟩ := core_uniform ax ay m x y w h W H hw hh hW hH
  exact ⟨_, C11_valid vb par _ _ x y w h W H hvb hpar hw hh hW hH, c.1, c.2⟩

example : ∃ t, vbScale (some ['0',' ','-','2','.','5',',','1','e','1',' ','4'])
    (some [' ','d','E','f','e','r',',',' ','x','M','i','n','Y','M','a','x',' ',',','S','L','I','C','E']) 20 2 = .xf t ∧
    t.sx = max (20 / 10 : Rat) (2 / 4) ∧ (-5/2 + 4 + t.oy) * t.sy = 2 := by
  have hvb : parseVB (some ['0',' ','-','2','.','5',',','1','e','1',' ','4']) = .ok 0 (-5/2) 10 4 := by decide +kernel
  have hpar : parTokens (some [' ','d','E','f','e','r',',',' ','x','M','i','n','Y','M','a','x',' ',',','S','L','I','C','E'])
      = (alignName .min .max, mosName .slice) := by decide
  obtain ⟨t, h, _, b⟩ := C11_uniform _ _ .min .max .slice 0 (-5/2) 10 4 20 2 hvb hpar
    (by norm_num) (by norm_num) (by norm_num) (by norm_num)
  obtain ⟨t', h', _, c⟩ := C11_align _ _ .min .max .slice 0 (-5/2) 10 4 20 2 hvb hpar
    (by norm_num) (by norm_num) (by norm_num) (by norm_num)
  rw [h] at h'
  cases h'
  exact ⟨t, h, b, c⟩

/-- missing viewBox, fewer than four tokens, a token among the first four that `float()` rejects,
non-positive viewBox width/height or non-positive document width/height: the identity transform -/
theorem C11_identity (vb par : Option (List Char)) (W H : Rat) :
    (vb = none → vbScale vb par W H = .xf identity) ∧
    (∀ v, vb = some v → (pySplit (commaToBlank (pyStrip v))).length < 4 → vbScale vb par W H = .xf identity) ∧
    (∀ v t0 t1 t2 t3 rest, vb = some v → pySplit (commaToBlank (pyStrip v)) = t0 :: t1 :: t2 :: t3 :: rest →
      (parseFloat t0 = none ∨ parseFloat t1 = none ∨ parseFloat t2 = none ∨ parseFloat t3 = none) →
      vbScale vb par W H = .xf identity) ∧
    (∀ x y w h, parseVB vb = .ok x y w h → (w ≤ 0 ∨ h ≤ 0 ∨ W ≤ 0 ∨ H ≤ 0) → vbScale vb par W H = .xf identity) := by
  refine ⟨?_, ?_, ?_, ?_⟩
  · rintro rfl; rfl
  · rintro v rfl hlen
    unfold vbScale; rw [parseVB_short v hlen]
  · rintro v t0 t1 t2 t3 rest rfl hs hbad
    unfold vbScale; rw [parseVB_tokens v t0 t1 t2 t3 rest hs, classify_bad hbad]
  · intro x y w h hvb hle
    rw [vbScale_ok par W H hvb, ite_nonpos _ _ hle]

/-- the ten keywords of the `align` parameter -/
inductive AlignKw where
  | none
  | xy (ax ay : Pos)

def AlignKw.name : AlignKw → List Char
  | .none => sNone
  | .xy ax ay => alignName ax ay

/-- Reading the preserveAspectRatio attribute.  For each of the ten align keywords `a`, written in any
casing (`lower A = a.name`), optionally preceded by `defer` (any casing) and optionally followed by
`meet`/`slice` (any casing; absent means `meet`), with arbitrary non-empty runs of blanks and commas
between the words and arbitrary ones around them, the code obtains exactly that pair. -/
theorem C11_parse (a : AlignKw) (k : MOS) (pre post A : List Char) (defer mos : Option (List Char × List Char))
    (hpre : ∀ c ∈ pre, isSep c = true) (hpost : ∀ c ∈ post, isSep c = true)
    (hA : lower A = a.name)
    (hdefer : ∀ D s0, defer = some (D, s0) → lower D = sDefer ∧ s0 ≠ [] ∧ ∀ c ∈ s0, isSep c = true)
    (hmos : ∀ s1 M, mos = some (s1, M) → s1 ≠ [] ∧ (∀ c ∈ s1, isSep c = true) ∧ lower M = mosName k)
    (habs : mos = none → k = .meet) :
    parTokens (some (parText pre defer A mos post)) = (a.name, mosName k) := by
  -- words whose lower-casing consists of lower-case letters contain no separators
  have letters : ∀ (t n : List Char), lower t = n → (n.all (fun d => 97 ≤ d.toNat && d.toNat ≤ 122) = true) →
      ∀ c ∈ t, isSep c = false := by
    intro t n ht hn c hc
    have hmem : lowerAscii c ∈ n := by rw [← ht]; exact List.mem_map_of_mem hc
    have hl := List.all_eq_true.mp hn _ hmem
    simp only [Bool.and_eq_true, decide_eq_true_eq] at hl
    cases hsep : isSep c with
    | false => rfl
    | true =>
      exfalso
      simp only [isSep, Bool.or_eq_true, beq_iff_eq] at hsep
      rcases hsep with h | h
      · rw [lowerAscii_space c h] at hl
        have := isPySpace_le c h
        omega
      · subst h
        have e : lowerAscii ',' = ',' := by decide
        rw [e, comma_toNat] at hl
        omega
  have nonempty : ∀ (t n : List Char), lower t = n → n ≠ [] → t ≠ [] := by
    intro t n ht hn e; subst e; exact hn (by simpa [lower] using ht.symm)
  have hname : a.name.all (fun d => 97 ≤ d.toNat && d.toNat ≤ 122) = true ∧ a.name ≠ [] ∧ a.name ≠ sDefer := by
    cases a with
    | none => decide
    | xy ax ay => cases ax <;> cases ay <;> decide
  have hmosname : (mosName k).all (fun d => 97 ≤ d.toNat && d.toNat ≤ 122) = true ∧ mosName k ≠ [] := by
    cases k <;> decide
  have hgen := parTokens_general pre post A defer mos hpre hpost
    ⟨nonempty A _ hA hname.2.1, letters A _ hA hname.1, by rw [hA]; exact hname.2.2⟩
    (fun D s0 e => by
      obtain ⟨h1, h2, h3⟩ := hdefer D s0 e
      exact ⟨letters D _ h1 (by decide), h1, h2, h3⟩)
    (fun s1 M e => by
      obtain ⟨h1, h2, h3⟩ := hmos s1 M e
      exact ⟨h1, h2, nonempty M _ h3 hmosname.2, letters M _ h3 hmosname.1⟩)
  rw [hgen, hA]
  rcases mos with _ | ⟨s1, M⟩
  · rw [habs rfl]; rfl
  · simp only [mosTok]
    rw [(hmos s1 M rfl).2.2]

example : parTokens (some (parText [' '] (some (['d','E','f','e','r'], [',',' '])) ['x','M','i','n','Y','M','a','x']
    (some ([' ',','], ['S','L','I','C','E'])) ['\n'])) = (alignName .min .max, sSlice) :=
  C11_parse (.xy .min .max) .slice _ _ _ _ _ (by decide) (by decide) (by decide)
    (fun D s0 e => by cases e; decide) (fun s1 M e => by cases e; decide) (fun e => by cases e)

/-- absent attribute, or one holding only blanks/commas (in particular the empty string): `xMidYMid meet` -/
theorem C11_parse_default :
    parTokens none = (alignName .mid .mid, mosName .meet) ∧
    ∀ s, (∀ c ∈ s, isSep c = true) → parTokens (some s) = (alignName .mid .mid, mosName .meet) :=
  ⟨rfl, fun s hs => parTokens_blank s hs⟩

/-! ## The same statements about the SOURCE-REGENERATED code

`Gen.vb_scale` is regenerated from `plotink/plot_utils.py` by the translator on every run
(`lean/Plotink/Gen/vb_scale.lean`).  The attribute texts are `Option String` (`C11.encOS`: `None` or a `str`), the
document size is a Python `int` or `float` (`Py.IsNum`), arithmetic is exact (`Rounding.exact`).  `C11.EncXf r t`: the
value `r` is a 4-tuple of `int`s/`float`s holding the transform `t`; `C11.xfVal t`: the tuple of four `float`s.
Hypothesis `parseVB … ≠ nonfinite`: none of the four viewBox numbers is an `inf`/`nan` numeral. -/

/-- **bridge** `Gen.vb_scale = C11.vbScale` -/
theorem C11_gen_bridge (amb : Nat) (vb par : Option String) (Wv Hv : Py.Val) (W H : Rat)
    (hW : Py.IsNum Wv W) (hH : Py.IsNum Hv H) (hfin : parseVB (vb.map String.toList) ≠ .nonfinite) :
    ∃ t, vbScale (vb.map String.toList) (par.map String.toList) W H = .xf t ∧
      EncXf (Gen.vb_scale Rounding.exact amb (encOS vb) (encOS par) Wv Hv) t := by
  cases vb with
  | none => exact ⟨identity, rfl, encXf_identity⟩
  | some s =>
    show ∃ t, vbScale (some s.toList) _ W H = .xf t ∧ EncXf (Gen.vb_scale Rounding.exact amb (.str s) (encOS par) Wv Hv) t
    rcases four_or_short (pySplit (commaToBlank (pyStrip s.toList))) with hl | ⟨t0, t1, t2, t3, rest, hs⟩
    · rw [vb_short _ _ _ _ _ _ hl]
      exact ⟨identity, by unfold vbScale; rw [parseVB_short _ hl], encXf_identity⟩
    have hcl := parseVB_tokens s.toList t0 t1 t2 t3 rest hs
    rcases classify_cases (parseFloat t0) (parseFloat t1) (parseFloat t2) (parseFloat t3) with
      hb | hn | ⟨x, y, w, h, h0, h1, h2, h3⟩
    · rw [vb_err _ _ _ _ _ _ t0 t1 t2 t3 rest hs hb]
      exact ⟨identity, by unfold vbScale; rw [hcl, classify_bad hb], encXf_identity⟩
    · exact absurd (hcl.trans hn) hfin
    · have hok : parseVB (some s.toList) = .ok x y w h := by rw [hcl, h0, h1, h2, h3]; rfl
      rw [vb_scale_ok amb s par Wv Hv x y w h W H hW hH hok, vbScale_ok _ W H hok]
      by_cases c1 : w ≤ 0 ∨ h ≤ 0
      · rw [if_pos c1, if_pos c1]; exact ⟨identity, rfl, encXf_identity⟩
      rw [if_neg c1, if_neg c1]
      by_cases c2 : W ≤ 0 ∨ H ≤ 0
      · rw [if_pos c2, if_pos c2]; exact ⟨identity, rfl, encXf_identity⟩
      rw [if_neg c2, if_neg c2]
      exact ⟨_, rfl, encXf_xfVal _⟩

/-- `C11_valid` for the regenerated code: the four floats of `vbCore` -/
theorem C11_gen_valid (amb : Nat) (s : String) (par : Option String) (a m : List Char) (Wv Hv : Py.Val)
    (x y w h W H : Rat) (hW : Py.IsNum Wv W) (hH : Py.IsNum Hv H)
    (hvb : parseVB (some s.toList) = .ok x y w h) (hpar : parTokens (par.map String.toList) = (a, m))
    (hw : 0 < w) (hh : 0 < h) (hW0 : 0 < W) (hH0 : 0 < H) :
    Gen.vb_scale Rounding.exact amb (.str s) (encOS par) Wv Hv = xfVal (vbCore a m x y w h W H) := by
  rw [vb_scale_ok amb s par Wv Hv x y w h W H hW hH hvb, if_neg (not_or.2 ⟨hw.not_ge, hh.not_ge⟩),
    if_neg (not_or.2 ⟨hW0.not_ge, hH0.not_ge⟩), hpar]

/-- `C11_none` for the regenerated code: `none` stretches the viewBox onto the page -/
theorem C11_gen_none (amb : Nat) (s : String) (par : Option String) (mos : List Char) (Wv Hv : Py.Val)
    (x y w h W H : Rat) (hW : Py.IsNum Wv W) (hH : Py.IsNum Hv H)
    (hvb : parseVB (some s.toList) = .ok x y w h) (hpar : parTokens (par.map String.toList) = (sNone, mos))
    (hw : 0 < w) (hh : 0 < h) (hW0 : 0 < W) (hH0 : 0 < H) :
    ∃ t, Gen.vb_scale Rounding.exact amb (.str s) (encOS par) Wv Hv = xfVal t ∧ t.sx = W / w ∧ t.sy = H / h ∧
      (x + t.ox) * t.sx = 0 ∧ (x + w + t.ox) * t.sx = W ∧ (y + t.oy) * t.sy = 0 ∧ (y + h + t.oy) * t.sy = H := by
  obtain ⟨t, ht, rest⟩ := C11_none (some s.toList) (par.map String.toList) mos x y w h W H hvb hpar hw hh hW0 hH0
  rw [C11_valid (some s.toList) (par.map String.toList) sNone mos x y w h W H hvb hpar hw hh hW0 hH0] at ht
  cases ht
  exact ⟨_, C11_gen_valid amb s par sNone mos Wv Hv x y w h W H hW hH hvb hpar hw hh hW0 hH0, rest⟩

/-- `C11_uniform` and `C11_align` for the regenerated code: one of the nine alignments — uniform scale, the smaller
axis ratio for `meet` and the larger for `slice`, and the named viewBox position lands on the named page position -/
theorem C11_gen_uniform_align (amb : Nat) (s : String) (par : Option String) (ax ay : Pos) (m : MOS) (Wv Hv : Py.Val)
    (x y w h W H : Rat) (hW : Py.IsNum Wv W) (hH : Py.IsNum Hv H)
    (hvb : parseVB (some s.toList) = .ok x y w h)
    (hpar : parTokens (par.map String.toList) = (alignName ax ay, mosName m))
    (hw : 0 < w) (hh : 0 < h) (hW0 : 0 < W) (hH0 : 0 < H) :
    ∃ t, Gen.vb_scale Rounding.exact amb (.str s) (encOS par) Wv Hv = xfVal t ∧ t.sx = t.sy ∧
      t.sx = fitScale m (W / w) (H / h) ∧
      (vbPt ax x w + t.ox) * t.sx = pagePt ax W ∧ (vbPt ay y h + t.oy) * t.sy = pagePt ay H := by
  obtain ⟨a, b, c⟩ := core_uniform ax ay m x y w h W H hw hh hW0 hH0
  exact ⟨_, C11_gen_valid amb s par _ _ Wv Hv x y w h W H hW hH hvb hpar hw hh hW0 hH0, a, b, c.1, c.2⟩

/-- `C11_identity` for the regenerated code.  Missing attribute, fewer than four tokens, a rejected token: `(1, 1, 0, 0)`
for every rounding mode; non-positive sizes: the identity transform in exact arithmetic -/
theorem C11_gen_identity (R : Rounding) (amb : Nat) (parv Wv Hv : Py.Val) :
    Gen.vb_scale R amb .none_ parv Wv Hv = identityVal ∧
    (∀ s : String, (pySplit (commaToBlank (pyStrip s.toList))).length < 4 →
      Gen.vb_scale R amb (.str s) parv Wv Hv = identityVal) ∧
    (∀ (s : String) t0 t1 t2 t3 rest, pySplit (commaToBlank (pyStrip s.toList)) = t0 :: t1 :: t2 :: t3 :: rest →
      (parseFloat t0 = none ∨ parseFloat t1 = none ∨ parseFloat t2 = none ∨ parseFloat t3 = none) →
      Gen.vb_scale R amb (.str s) parv Wv Hv = identityVal) ∧
    (∀ (s : String) (par : Option String) (W H x y w h : Rat), Py.IsNum Wv W → Py.IsNum Hv H →
      parseVB (some s.toList) = .ok x y w h → (w ≤ 0 ∨ h ≤ 0 ∨ W ≤ 0 ∨ H ≤ 0) →
      EncXf (Gen.vb_scale Rounding.exact amb (.str s) (encOS par) Wv Hv) identity) := by
  refine ⟨vb_none R amb parv Wv Hv, fun s h => vb_short R amb s parv Wv Hv h,
    fun s t0 t1 t2 t3 rest hs hbad => vb_err R amb s parv Wv Hv t0 t1 t2 t3 rest hs hbad, ?_⟩
  · intro s par W H x y w h hW hH hvb hle
    rw [vb_scale_ok amb s par Wv Hv x y w h W H hW hH hvb, ite_nonpos _ _ hle]
    exact encXf_identity

/-- non-vacuity: a concrete viewBox / preserveAspectRatio pair meets the hypotheses of `C11_gen_uniform_align` -/
example : parseVB (some ("0 -2.5,1e1 4" : String).toList) = .ok 0 (-5/2) 10 4 ∧
    parTokens ((some " dEfer, xMinYMax ,SLICE" : Option String).map String.toList) = (alignName .min .max, mosName .slice) ∧
    Py.IsNum (.int 20) 20 ∧ Py.IsNum (.flt 2) 2 :=
  ⟨by decide +kernel, by decide +kernel, Or.inr ⟨20, rfl, by norm_num⟩, Or.inl rfl⟩

end Plotink
