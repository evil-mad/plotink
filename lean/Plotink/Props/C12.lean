import Plotink.Proofs.C12Core
import Plotink.Proofs.C12Parse
import Plotink.Proofs.C12Gen
import Plotink.Proofs.C12GenAttr

/-! # C12 — length parsing and unit conversion are mutually consistent and follow SVG units

About the hand-written models of `parseLengthWithUnits`, `unitsToUserUnits`, `userUnitToUnits`,
`getLength`, `getLengthInches` in `Model/C12.lean` (each with its own copy of the unit table; tied to
the source by differential execution and by AST extraction of every table literal, `harness/c12.py`).
`svgFactor u` is the independent specification: user units per unit `u` at 96 px/in.
`parseLength s = some (.fin v, u)` says the text `s` reads as the finite value `v` with unit `u`. -/

namespace Plotink
open C12 PyFloat

/-- `unitsToUserUnits` multiplies by the SVG factor -/
theorem C12_tables_unitsToUserUnits (s : Option (List Char)) (ref : Option Rat) (v f : Rat) (u : List Char)
    (hp : parseLength s = some (.fin v, u)) (hf : svgFactor u = some f) :
    unitsToUserUnits s ref = .val (v * f) := by
  unfold unitsToUserUnits
  rw [hp]
  rcases svgFactor_cases u f hf with h | h | h | h | h | h | h <;> obtain ⟨rfl, rfl⟩ := h <;>
    simp [conv, pxPerInch, UU.cMm, UU.cCm, UU.cQ, UU.cPc, UU.cPt] <;> ring

/-- `userUnitToUnits` divides by the SVG factor (`''` reads as px, `q` as `Q`) -/
theorem C12_tables_userUnitToUnits (d f : Rat) (u : List Char) (hf : svgFactor u = some f) :
    userUnitToUnits (some d) u = some (d / f) ∧
    userUnitToUnits (some d) [] = some d ∧
    userUnitToUnits (some d) ['q'] = userUnitToUnits (some d) ['Q'] := by
  refine ⟨?_, by simp [userUnitToUnits], by simp [userUnitToUnits]⟩
  unfold userUnitToUnits
  rcases svgFactor_cases u f hf with h | h | h | h | h | h | h <;> obtain ⟨rfl, rfl⟩ := h <;>
    simp [pxPerInch, Back.cMm, Back.cCm, Back.cQa, Back.cQb, Back.cPc, Back.cPt] <;> ring

/-- `getLength` multiplies by the SVG factor -/
theorem C12_tables_getLength (s : List Char) (dflt v f : Rat) (u : List Char) (hs : s ≠ [])
    (hp : parseLength (some s) = some (.fin v, u)) (hf : svgFactor u = some f) :
    getLength (some s) dflt = .val (v * f) := by
  rw [getLength_eq_uu s hs, C12_tables_unitsToUserUnits (some s) (some dflt) v f u hp hf]

/-- `getLengthInches` multiplies by the SVG factor and divides by 96 -/
theorem C12_tables_getLengthInches (s : List Char) (v f : Rat) (u : List Char) (hs : s ≠ [])
    (hp : parseLength (some s) = some (.fin v, u)) (hf : svgFactor u = some f) :
    getLengthInches (some s) = .val (v * f / 96) := by
  unfold getLengthInches
  simp only [hs, if_false]
  rw [hp]
  rcases svgFactor_cases u f hf with h | h | h | h | h | h | h <;> obtain ⟨rfl, rfl⟩ := h <;>
    simp [conv, GI.cMm, GI.cCm, GI.cQa, GI.cQb, GI.cPc, GI.cPt, GI.cPx] <;> ring

example : unitsToUserUnits (some [' ','2','5','.','4','m','m']) none = .val 96 := by
  have := C12_tables_unitsToUserUnits (some [' ','2','5','.','4','m','m']) none (127/5) (96 / (254 / 10)) ['m','m']
    (by decide +kernel) (by decide +kernel)
  rw [this]; norm_num

/-- converting to user units and back returns the original value, exactly, for every unit the parser
can produce (for `%` when no reference is supplied) -/
theorem C12_roundtrip (s : Option (List Char)) (ref : Option Rat) (v : Rat) (u : List Char)
    (hp : parseLength s = some (.fin v, u)) (h : u ≠ ['%'] ∨ ref = none) :
    ∃ x, unitsToUserUnits s ref = .val x ∧ userUnitToUnits (some x) u = some v := by
  rcases parseLength_factor s _ u hp with rfl | ⟨f, hf⟩
  · have hr : ref = none := h.resolve_left (fun h => h rfl)
    subst hr
    refine ⟨v / 100, ?_, ?_⟩
    · unfold unitsToUserUnits; rw [hp]; simp [conv, UU.cPct]
    · simp [userUnitToUnits, Back.cPct]
  · exact ⟨v * f, C12_tables_unitsToUserUnits s ref v f u hp hf, by
      rw [(C12_tables_userUnitToUnits (v * f) f u hf).1, mul_div_cancel_right₀ v (svgFactor_ne_zero hf)]⟩

/-- the document-attribute readers: pixels = 96 × inches on every unit both accept; a percentage is
taken of the supplied reference — for **every** reference, 0 included — by `getLength` and by
`unitsToUserUnits` alike; and the two agree on every non-empty attribute text -/
theorem C12_attr (s : List Char) (hs : s ≠ []) (v : Rat) (u : List Char)
    (hp : parseLength (some s) = some (.fin v, u)) :
    (u ≠ ['%'] → ∃ px inch, getLength (some s) 0 = .val px ∧ getLengthInches (some s) = .val inch ∧ px = 96 * inch) ∧
    (u = ['%'] → ∀ r : Rat, getLength (some s) r = .val (r * v / 100) ∧
        unitsToUserUnits (some s) (some r) = .val (v * r / 100) ∧ getLengthInches (some s) = .none) ∧
    (∀ r : Rat, getLength (some s) r = unitsToUserUnits (some s) (some r)) := by
  refine ⟨fun hne => ?_, ?_, getLength_eq_uu s hs⟩
  · obtain ⟨f, hf⟩ := (parseLength_factor _ _ u hp).resolve_left hne
    exact ⟨v * f, v * f / 96, C12_tables_getLength s 0 v f u hs hp hf,
      C12_tables_getLengthInches s v f u hs hp hf, by ring⟩
  · rintro rfl r
    have huu : unitsToUserUnits (some s) (some r) = .val (v * r / 100) := by
      unfold unitsToUserUnits; rw [hp]; simp [conv, UU.cPctRef]
    refine ⟨by rw [getLength_eq_uu s hs, huu, mul_comm], huu, ?_⟩
    unfold getLengthInches; simp only [hs, if_false]; rw [hp]; simp

example : getLength (some ['5','0','%']) 0 = .val 0 ∧ unitsToUserUnits (some ['5','0','%']) (some 0) = .val 0 := by
  have h := (C12_attr ['5','0','%'] (by decide) 50 ['%'] (by decide +kernel)).2.1 rfl 0
  exact ⟨by rw [h.1]; norm_num, by rw [h.2.1]; norm_num⟩

/-- Parsing.  For every numeral `body` that Python's `float()` accepts (value `v`), that starts with a
non-blank and ends in a digit or `.`, every unit spelling `u` of the ten (`''` and `px` read as `px`,
`q` and `Q` as `Q`) and any surrounding ASCII blanks, `parseLengthWithUnits` yields that value and unit. -/
theorem C12_parse (ws ws' body u : List Char) (v : Num)
    (hws : ∀ c ∈ ws, isPySpace c = true) (hws' : ∀ c ∈ ws', isPySpace c = true)
    (hv : parseFloat body = some v)
    (hfirst : ∀ c, body.head? = some c → isPySpace c = false)
    (hlast : ∃ d, body.getLast? = some d ∧ (isDigit d = true ∨ d = '.'))
    (hu : u ∈ [[], ['p','x'], ['i','n'], ['m','m'], ['c','m'], ['p','t'], ['p','c'], ['Q'], ['q'], ['%']]) :
    parseLength (some (ws ++ ((body ++ u) ++ ws'))) = some (v, canonUnit u) := by
  obtain ⟨d, hd, hdd⟩ := hlast
  obtain ⟨b, rfl⟩ : ∃ b, body = b ++ [d] := by
    rw [List.getLast?_eq_some_iff] at hd; exact hd
  have hstrip : pyStrip (ws ++ (((b ++ [d]) ++ u) ++ ws')) = (b ++ [d]) ++ u := by
    refine stripBy_core isPySpace ws _ ws' hws hws' ⟨fun c hc => ?_, fun c hc => ?_⟩
    · apply hfirst c
      cases b <;> simpa using hc
    · by_cases hue : u = []
      · subst hue
        simp at hc
        subst hc
        exact digit_or_dot_nonspace _ hdd
      · rw [List.getLast?_append] at hc
        cases hul : u.getLast? with
        | none => exact absurd (List.getLast?_eq_none_iff.mp hul) hue
        | some e =>
          rw [hul] at hc
          simp at hc
          subst hc
          exact unit_last_nonspace u hu _ hul
  unfold parseLength
  simp only [hstrip, splitUnit_spec b d hdd u hu, hv]

example : parseLength (some ([' ', '\t'] ++ ((['-','1','.','5','e','1'] ++ ['q']) ++ ['\n']))) = some (.fin (-15), ['Q']) :=
  C12_parse _ _ _ _ _ (by decide) (by decide) (by decide +kernel) (by decide) ⟨'1', by decide, by decide⟩ (by decide)

/-- Rejection.  (1) Text whose stripped form ends in a character that is neither a digit nor `.`, is not
the end of a supported unit, and is not `f`/`y`/`n` in either case (the endings of `inf`, `infinity`,
`nan`, which Python's `float()` accepts) — this covers `em ex rem ch vw vh vmax deg m pxx …` — yields
`None` from the parser and from the three functions that call it.  (2) A unit, or nothing, without a
numeric part yields `None`.  (3) `userUnitToUnits` yields `None` for `None` and for every unit string
other than the ten supported spellings. -/
theorem C12_reject :
    (∀ (s : List Char) (c : Char), (pyStrip s).getLast? = some c → isDigit c = false → c ≠ '.' →
      lowerAscii c ∉ ['f', 'y', 'n'] →
      lastN 2 (pyStrip s) ∉ [['p','x'], ['i','n'], ['m','m'], ['c','m'], ['p','t'], ['p','c']] →
      c ∉ ['Q', 'q', '%'] →
      parseLength (some s) = none ∧ (∀ ref, unitsToUserUnits (some s) ref = .none) ∧
      (∀ d, getLength (some s) d = .none) ∧ getLengthInches (some s) = .none) ∧
    (∀ (ws ws' u : List Char), (∀ c ∈ ws, isPySpace c = true) → (∀ c ∈ ws', isPySpace c = true) →
      u ∈ [[], ['p','x'], ['i','n'], ['m','m'], ['c','m'], ['p','t'], ['p','c'], ['Q'], ['q'], ['%']] →
      parseLength (some (ws ++ (u ++ ws'))) = none ∧
      (∀ ref, unitsToUserUnits (some (ws ++ (u ++ ws'))) ref = .none) ∧
      (ws ++ (u ++ ws') ≠ [] → ∀ d, getLength (some (ws ++ (u ++ ws'))) d = .none) ∧
      getLengthInches (some (ws ++ (u ++ ws'))) = .none) ∧
    (∀ (d : Option Rat) (u : List Char),
      u ∉ [[], ['p','x'], ['i','n'], ['m','m'], ['c','m'], ['p','t'], ['p','c'], ['Q'], ['q'], ['%']] →
      userUnitToUnits d u = none) ∧
    (∀ u, userUnitToUnits none u = none) ∧
    parseLength none = none ∧ (∀ ref, unitsToUserUnits none ref = .none) ∧ getLengthInches none = .none := by
  refine ⟨?_, ?_, ?_, fun u => rfl, rfl, fun ref => rfl, rfl⟩
  · intro s c hc hd hdot hfyn h2 h1
    have hp := parseLength_reject_suffix s c hc hd hdot hfyn h2 h1
    have hs : s ≠ [] := by
      intro e; subst e
      have : pyStrip [] = [] := by decide
      rw [this] at hc; simp at hc
    obtain ⟨a, b, c'⟩ := none_of_parse_none s hp
    exact ⟨hp, a, b hs, c'⟩
  · intro ws ws' u hws hws' hu
    have hp := parseLength_reject_nonum ws ws' u hws hws' hu
    obtain ⟨a, b, c'⟩ := none_of_parse_none _ hp
    exact ⟨hp, a, b, c'⟩
  · intro d u hu
    simp only [List.mem_cons, List.not_mem_nil, or_false, not_or] at hu
    cases d with
    | none => rfl
    | some x => simp [userUnitToUnits, hu]

example : parseLength (some ['1','2','e','m',' ']) = none ∧ getLength (some ['1','2','e','m',' ']) 7 = .none := by
  obtain ⟨a, _, b, _⟩ := C12_reject.1 ['1','2','e','m',' '] 'm' (by decide) (by decide) (by decide) (by decide) (by decide) (by decide)
  exact ⟨a, b 7⟩

/-! ## Statements about the SOURCE-REGENERATED code

`Gen.parseLengthWithUnits`, `Gen.unitsToUserUnits`, `Gen.userUnitToUnits`, `Gen.getLength`, `Gen.getLengthInches` are
regenerated from `plotink/plot_utils.py` by the translator on every run.  A Python `str` is `Py.Val.str s` (`s : String`,
`Py.ofL l = .str (String.ofList l)`); numbers are `int`s or `float`s (`Py.IsNum v q`).  The parser theorem holds
for every rounding mode; the table theorems are in exact arithmetic (`Rounding.exact`) with the float literals
of the source as the doubles they denote (`C12.genFactor`), which is why the SVG factor appears up to `2^-52`.
`Proofs/C12Gen.lean` says where the figure comes from. -/

/-- **bridge** (parser) `Gen.parseLengthWithUnits = C12.parseLength`: `None` gives `(None, None)`; text the model
rejects gives `(None, None)`; text the model reads as the finite value `q` with unit `u` gives
`(q rounded to a float by the rounding mode, u)`.  Every rounding mode. -/
theorem C12_gen_parse (R : Rounding) (amb : Nat) :
    Gen.parseLengthWithUnits R amb .none_ = .tup [.none_, .none_] ∧
    ∀ s : String,
      (parseLength (some s.toList) = none → Gen.parseLengthWithUnits R amb (.str s) = .tup [.none_, .none_]) ∧
      (∀ q u, parseLength (some s.toList) = some (.fin q, u) →
        Gen.parseLengthWithUnits R amb (.str s) = .tup [.flt (R.f64 q), Py.ofL u]) :=
  ⟨parse_none_arg R amb, fun s => parse_bridge R amb s⟩

/-- `C12_parse` for the regenerated parser: numeral, unit spelling and surrounding blanks -/
theorem C12_gen_parse_spec (R : Rounding) (amb : Nat) (ws ws' body u : List Char) (q : Rat)
    (hws : ∀ c ∈ ws, isPySpace c = true) (hws' : ∀ c ∈ ws', isPySpace c = true)
    (hv : parseFloat body = some (.fin q))
    (hfirst : ∀ c, body.head? = some c → isPySpace c = false)
    (hlast : ∃ d, body.getLast? = some d ∧ (isDigit d = true ∨ d = '.'))
    (hu : u ∈ [[], ['p','x'], ['i','n'], ['m','m'], ['c','m'], ['p','t'], ['p','c'], ['Q'], ['q'], ['%']]) :
    Gen.parseLengthWithUnits R amb (Py.ofL (ws ++ ((body ++ u) ++ ws'))) = .tup [.flt (R.f64 q), Py.ofL (canonUnit u)] :=
  (parse_bridge R amb (String.ofList (ws ++ ((body ++ u) ++ ws')))).2 q (canonUnit u)
    (by rw [String.toList_ofList]; exact C12_parse ws ws' body u (.fin q) hws hws' hv hfirst hlast hu)

/-- `C12_tables_unitsToUserUnits` for the regenerated code: value × factor, the factor being the SVG factor up to
the representation error of the source's float literals (relative `2^-52`) -/
theorem C12_gen_tables_unitsToUserUnits (amb : Nat) (s : String) (ref : Py.Val) (v f : Rat) (u : List Char)
    (hp : parseLength (some s.toList) = some (.fin v, u)) (hf : svgFactor u = some f) :
    ∃ f', genFactor u = some f' ∧ |f' - f| ≤ f / 2 ^ 52 ∧
      Gen.unitsToUserUnits Rounding.exact amb (.str s) ref = .flt (v * f') := by
  obtain ⟨f', h1, h2⟩ := genFactor_close u f hf
  exact ⟨f', h1, h2, uu_tables amb s ref v f' u hp h1⟩

/-- `C12_tables_userUnitToUnits` for the regenerated code: value ÷ factor; `''` reads as px, `q` as `Q` -/
theorem C12_gen_tables_userUnitToUnits (amb : Nat) (dv : Py.Val) (d f : Rat) (u : List Char)
    (hd : Py.IsNum dv d) (hf : svgFactor u = some f) :
    (∃ g, genBackFactor u = some g ∧ |g - f| ≤ f / 2 ^ 52 ∧
      Gen.userUnitToUnits Rounding.exact amb dv (Py.ofL u) = .flt (d / g)) ∧
    Gen.userUnitToUnits Rounding.exact amb dv (Py.ofL []) = .flt d ∧
    Gen.userUnitToUnits Rounding.exact amb dv (Py.ofL ['q']) = Gen.userUnitToUnits Rounding.exact amb dv (Py.ofL ['Q']) := by
  obtain ⟨g, h1, h2⟩ := genBackFactor_close u f hf
  refine ⟨⟨g, h1, h2, back_tables amb dv d g u hd h1⟩, ?_, ?_⟩
  · rw [back_tables amb dv d 1 [] hd (by decide +kernel), div_one]
  · rw [back_tables amb dv d _ ['q'] hd (by decide +kernel : genBackFactor ['q'] = some (96 / (40 * lit2_54))),
      back_tables amb dv d _ ['Q'] hd (by decide +kernel : genBackFactor ['Q'] = some (96 / (40 * lit2_54)))]

/-- percentages in the regenerated code: of the supplied reference — every reference, `0` included — else of 1;
and back -/
theorem C12_gen_percent (amb : Nat) (s : String) (v : Rat)
    (hp : parseLength (some s.toList) = some (.fin v, ['%'])) :
    Gen.unitsToUserUnits Rounding.exact amb (.str s) .none_ = .flt (v / 100) ∧
    (∀ (rv : Py.Val) (r : Rat), Py.IsNum rv r →
      Gen.unitsToUserUnits Rounding.exact amb (.str s) rv = .flt (v * r / 100)) ∧
    (∀ (dv : Py.Val) (d : Rat), Py.IsNum dv d →
      Gen.userUnitToUnits Rounding.exact amb dv (Py.ofL ['%']) = .flt (d * 100)) :=
  ⟨(uu_percent amb s v hp).1, (uu_percent amb s v hp).2, fun dv d hd => back_percent amb dv d hd⟩

/-- `C12_roundtrip` for the regenerated code (exact arithmetic): to user units and back returns the value — exactly
for every unit but `Q`; for `Q` up to relative `2^-52`, because the source writes that factor as `101.6` in one
function and as `40.0 * 2.54` in the other, which are two different doubles -/
theorem C12_gen_roundtrip (amb : Nat) (s : String) (v : Rat) (u : List Char)
    (hp : parseLength (some s.toList) = some (.fin v, u)) :
    (u ≠ ['Q'] → u ≠ ['%'] → ∀ ref,
      Gen.userUnitToUnits Rounding.exact amb (Gen.unitsToUserUnits Rounding.exact amb (.str s) ref) (Py.ofL u) = .flt v) ∧
    (u = ['%'] →
      Gen.userUnitToUnits Rounding.exact amb (Gen.unitsToUserUnits Rounding.exact amb (.str s) .none_) (Py.ofL u) = .flt v) ∧
    (u = ['Q'] → ∀ ref, ∃ v',
      Gen.userUnitToUnits Rounding.exact amb (Gen.unitsToUserUnits Rounding.exact amb (.str s) ref) (Py.ofL u) = .flt v' ∧
      |v' - v| ≤ |v| / 2 ^ 52) := by
  refine ⟨fun hQ hpct ref => ?_, fun hpct => ?_, fun hQ ref => ?_⟩
  · obtain ⟨f, hf0, h1, h2⟩ := ((gen_factors _ _ u hp).resolve_left hpct).resolve_left hQ
    rw [uu_tables amb s ref v f u hp h1, back_tables amb _ (v * f) f u (Or.inl rfl) h2, mul_div_cancel_right₀ v hf0]
  · subst hpct
    rw [(uu_percent amb s v hp).1, back_percent amb _ (v / 100) (Or.inl rfl)]
    exact congrArg Py.Val.flt (by field_simp)
  · subst hQ
    refine ⟨v * (96 / lit101_6) / (96 / (40 * lit2_54)), ?_, ?_⟩
    · rw [uu_tables amb s ref v (96 / lit101_6) _ hp (by decide +kernel),
        back_tables amb _ (v * (96 / lit101_6)) (96 / (40 * lit2_54)) _ (Or.inl rfl) (by decide +kernel)]
    · have e : v * (96 / lit101_6) / (96 / (40 * lit2_54)) = v * ((40 * lit2_54) / lit101_6) := by
        unfold lit101_6 lit2_54; field_simp
      rw [e]
      exact rel_close v _ q_lits.1

/-- `C12_reject` for the regenerated code (every rounding mode): rejected text, `None` input and unsupported unit
strings give `None` -/
theorem C12_gen_reject (R : Rounding) (amb : Nat) :
    (∀ ref, Gen.unitsToUserUnits R amb .none_ ref = .none_) ∧
    (∀ (s : String) ref, parseLength (some s.toList) = none → Gen.unitsToUserUnits R amb (.str s) ref = .none_) ∧
    (∀ uv, Gen.userUnitToUnits R amb .none_ uv = .none_) ∧
    (∀ (dv : Py.Val) (u : List Char),
      u ∉ [[], ['p','x'], ['i','n'], ['m','m'], ['c','m'], ['p','t'], ['p','c'], ['Q'], ['q'], ['%']] →
      Gen.userUnitToUnits R amb dv (Py.ofL u) = .none_) :=
  ⟨fun ref => (uu_none R amb ref).1, fun s ref h => (uu_none R amb ref).2 s h, (back_none R amb).1, (back_none R amb).2⟩

/-! ### the document-attribute readers, regenerated

`Gen.getLength R amb attr_name default` / `Gen.getLengthInches R amb attr_name` are regenerated from
`plot_utils.getLength` / `getLengthInches`; the translator replaces the opaque lookup
`altself.document.getroot().get(name)` by the parameter `attr_name` — the attribute text `.str s`, or `.none_` for an
absent attribute (recorded as `abstracted` in `Gen/report.json`; that the document returns that text is outside the
model). -/

/-- `C12_tables_getLength` for the regenerated code: value × factor whatever the default, the factor being the SVG
factor up to the representation error of the source's float literals (relative `2^-52`) -/
theorem C12_gen_tables_getLength (amb : Nat) (s : String) (dv : Py.Val) (v f : Rat) (u : List Char)
    (hp : parseLength (some s.toList) = some (.fin v, u)) (hf : svgFactor u = some f) :
    ∃ g, genBackFactor u = some g ∧ |g - f| ≤ f / 2 ^ 52 ∧
      Gen.getLength Rounding.exact amb (.str s) dv = .flt (v * g) := by
  obtain ⟨g, h1, h2⟩ := genBackFactor_close u f hf
  exact ⟨g, h1, h2, len_tables amb s dv v g u hp h1⟩

/-- `C12_tables_getLengthInches` for the regenerated code: value × that same factor ÷ 96 -/
theorem C12_gen_tables_getLengthInches (amb : Nat) (s : String) (v f : Rat) (u : List Char)
    (hp : parseLength (some s.toList) = some (.fin v, u)) (hf : svgFactor u = some f) :
    ∃ g, genBackFactor u = some g ∧ |g - f| ≤ f / 2 ^ 52 ∧
      Gen.getLengthInches Rounding.exact amb (.str s) = .flt (v * g / 96) := by
  obtain ⟨g, h1, h2⟩ := genBackFactor_close u f hf
  exact ⟨g, h1, h2, inch_tables amb s v g u hp h1⟩

/-- `C12_attr` for the regenerated readers (exact arithmetic), for every attribute text the parser reads as `v` with
unit `u`: pixels = 96 × inches *exactly* on every unit both accept, whatever the default; a percentage is taken of the
supplied default — **every** number, 0 included — by `getLength` and by `unitsToUserUnits` alike, and is `None` in
inches; `getLength` and `unitsToUserUnits` return the same value on the same text and reference for every unit but `Q`,
where the source writes the factor as `40.0 * 2.54` in one and `101.6` in the other (relative deviation ≤ `2^-52`) -/
theorem C12_gen_attr (amb : Nat) (s : String) (v : Rat) (u : List Char)
    (hp : parseLength (some s.toList) = some (.fin v, u)) :
    (u ≠ ['%'] → ∀ dv : Py.Val, ∃ px inch, Gen.getLength Rounding.exact amb (.str s) dv = .flt px ∧
        Gen.getLengthInches Rounding.exact amb (.str s) = .flt inch ∧ px = 96 * inch) ∧
    (u = ['%'] → ∀ (rv : Py.Val) (r : Rat), Py.IsNum rv r →
        Gen.getLength Rounding.exact amb (.str s) rv = .flt (r * v / 100) ∧
        Gen.unitsToUserUnits Rounding.exact amb (.str s) rv = .flt (v * r / 100) ∧
        Gen.getLengthInches Rounding.exact amb (.str s) = .none_) ∧
    (u ≠ ['Q'] → ∀ (rv : Py.Val) (r : Rat), Py.IsNum rv r →
        Gen.getLength Rounding.exact amb (.str s) rv = Gen.unitsToUserUnits Rounding.exact amb (.str s) rv) ∧
    (u = ['Q'] → ∀ rv : Py.Val, ∃ a b, Gen.getLength Rounding.exact amb (.str s) rv = .flt a ∧
        Gen.unitsToUserUnits Rounding.exact amb (.str s) rv = .flt b ∧ |a - b| ≤ |b| / 2 ^ 52) := by
  refine ⟨fun hu dv => gen_attr_px_inch amb s dv v u hp hu, ?_, fun hQ rv r hr => len_eq_uu amb s v u hp hQ rv r hr, ?_⟩
  · rintro rfl rv r hr
    exact ⟨len_percent amb s v hp rv r hr, (uu_percent amb s v hp).2 rv r hr, inch_percent _ amb s v hp⟩
  · rintro rfl rv
    exact len_uu_Q amb s v hp rv

/-- absent attribute (`None`), empty text, and text the parser rejects (every rounding mode): `getLength` returns
`float(default)` for the first two and `None` for rejected text; `getLengthInches` returns `None` in all three -/
theorem C12_gen_attr_absent (R : Rounding) (amb : Nat) :
    (∀ dv, Gen.getLength R amb .none_ dv = Py.float_ R dv ∧ Gen.getLength R amb (.str "") dv = Py.float_ R dv) ∧
    Gen.getLengthInches R amb .none_ = .none_ ∧ Gen.getLengthInches R amb (.str "") = .none_ ∧
    (∀ (s : String) dv, s ≠ "" → parseLength (some s.toList) = none → Gen.getLength R amb (.str s) dv = .none_) ∧
    (∀ s : String, parseLength (some s.toList) = none → Gen.getLengthInches R amb (.str s) = .none_) :=
  ⟨fun dv => len_absent R amb dv, (inch_absent R amb).1, (inch_absent R amb).2,
    fun s dv hs h => len_reject R amb s dv hs h, fun s h => inch_reject R amb s h⟩

/-- non-vacuity: `"0"` reads as the value 0 in px (so `getLength` returns `0.0`, not `None`), `"50%"` as 50 percent -/
example : Gen.getLength Rounding.exact 53 (.str "0") (.int 321) = .flt 0 ∧
    Gen.getLengthInches Rounding.exact 53 (.str "0") = .flt 0 := by
  have hp : parseLength (some ("0" : String).toList) = some (.fin 0, ['p', 'x']) := by decide +kernel
  refine ⟨?_, ?_⟩
  · rw [len_tables 53 "0" _ 0 1 _ hp (by decide +kernel)]; norm_num
  · rw [inch_tables 53 "0" 0 1 _ hp (by decide +kernel)]; norm_num
example : Gen.getLength Rounding.exact 53 (.str "50%") (.int 0) = .flt 0 := by
  have hp : parseLength (some ("50%" : String).toList) = some (.fin 50, ['%']) := by decide +kernel
  rw [((C12_gen_attr 53 "50%" 50 ['%'] hp).2.1 rfl (.int 0) 0 (Or.inr ⟨0, rfl, by norm_num⟩)).1]; norm_num

/-- non-vacuity: `" 25.4mm"` meets the hypotheses; the regenerated converter returns `25.4 × 96 / (the double 25.4)` -/
example : parseLength (some (" 25.4mm" : String).toList) = some (.fin (127 / 5), ['m', 'm']) ∧
    svgFactor ['m', 'm'] = some (96 / (254 / 10)) := ⟨by decide +kernel, by decide +kernel⟩
example : Gen.unitsToUserUnits Rounding.exact 53 (.str " 25.4mm") .none_ = .flt (127 / 5 * (96 / lit25_4)) :=
  uu_tables 53 " 25.4mm" .none_ (127 / 5) _ ['m', 'm'] (by decide +kernel) (by decide +kernel)

end Plotink
