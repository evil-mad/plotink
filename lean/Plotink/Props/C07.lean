import Plotink.Proofs.C07
import Plotink.Proofs.C07Gen

/-! # C07 — legacy serial primitives: one write, aligned replies, no exception on faults

Theorems about the hand-written model `Plotink.C07.query` / `command` / `call`
(`Model/C07.lean`, tied to `plotink/ebb_serial.py` by the correspondence run of `harness/c07.py`).

Domain: request texts are ASCII `str` (or `None`); the lines a board sends are ASCII bytes.  The
read script ranges over `line b | empty | raise c`, the write script over `ok | raise c` (every `raise` a serial
I/O exception that the handler contains); error replies are lines.  `P : Params` is arbitrary (any retry
limit, any no-OK list) except that the retry loop of `query` decodes what it reads (`P.decodeRetry = true`;
`C07_decode_needed` shows that the hypothesis cannot be dropped). -/

namespace Plotink
open C07

/-- **Exactly one write.**  With a port and a text, the call appends exactly the request to the
write log — for every read script, every write script, every parameter set; with no port or no
text nothing is touched and `None` is returned. -/
theorem C07_one_write (P : Params) (r : Req) (port : Option Port) :
    (∀ p c, port = some p → r.cmd = some c → isAscii c = true →
      ∃ p', (call P r port).2 = some p' ∧ p'.log = p.log ++ [c]) ∧
    ((port = none ∨ r.cmd = none) → call P r port = (.ok .none, port)) := by
  constructor
  · intro p c hp hcmd hc
    subst hp
    unfold call
    simp only [hcmd]
    refine ⟨_, rfl, ?_⟩
    cases r.isQuery
    · exact command_log P c p hc
    · exact query_log P c p hc
  · intro h
    unfold call
    rcases h with h | h
    · subst h; rfl
    · rw [h]; cases port <;> rfl

/-- **Never raises.**  For every read script over {ASCII line, empty, I/O exception} and every write
script, a call returns normally; what is left of the script is again such a script (so the statement
applies to every later call as well). -/
theorem C07_no_raise (P : Params) (hdec : P.decodeRetry = true) (r : Req) (port : Option Port)
    (hc : ∀ c, r.cmd = some c → isAscii c = true)
    (hp : ∀ p, port = some p → allAscii p.reads = true) :
    (∃ v, (call P r port).1 = .ok v) ∧
    (∀ p', (call P r port).2 = some p' → allAscii p'.reads = true) := by
  unfold call
  cases port with
  | none => exact ⟨⟨_, rfl⟩, by intro p' h; cases h⟩
  | some p =>
    cases hcmd : r.cmd with
    | none => exact ⟨⟨_, rfl⟩, by intro p' h; cases h; exact hp p rfl⟩
    | some c =>
      have hc' := hc c hcmd
      have hp' := hp p rfl
      simp only
      cases r.isQuery
      · have := command_ok P c p hc' hp'
        exact ⟨⟨_, this.1⟩, by intro p' h; cases h; exact this.2⟩
      · have := query_text P c p hdec hc' hp'
        exact ⟨⟨_, this.1⟩, by intro p' h; cases h; exact this.2⟩

/-- **`query` returns text**: a `str`, namely what arrived within the first `retry + 1` reads (the
first non-empty line, no read before it having raised), and `''` when the write failed. -/
theorem C07_text (P : Params) (hdec : P.decodeRetry = true) (c : Str) (p : Port)
    (hc : isAscii c = true) (hp : allAscii p.reads = true) :
    (call P ⟨true, some c⟩ (some p)).1 =
      .ok (.str (if firstWriteOk p = true then arrived (P.retry + 1) p.reads else [])) := by
  unfold call
  exact (query_text P c p hdec hc hp).1

/-- `arrived`, spelled out (1): a non-empty line preceded by at most `retry` empty reads is what arrived -/
theorem C07_text_data (k d : Nat) (data : Bytes) (rest : List Rd) (hd : d ≤ k) (hn : data ≠ []) :
    arrived (k + 1) (List.replicate d .empty ++ .line data :: rest) = data := by
  obtain ⟨m, hm⟩ : ∃ m, k + 1 - d = m + 1 := ⟨k - d, by omega⟩
  rw [arrived_empties, hm]
  exact if_neg hn

/-- `arrived`, spelled out (2): silence (only empty reads, then nothing), or an I/O exception before any
line, means that nothing arrived -/
theorem C07_text_silence (k d : Nat) (tail : List Rd) (ht : tail = [] ∨ ∃ c t, tail = .raise c :: t) :
    arrived k (List.replicate d .empty ++ tail) = [] := by
  rw [arrived_empties]
  rcases ht with rfl | ⟨c, t, rfl⟩
  · exact arrived_nil _
  · cases k - d <;> rfl

/-- **Reads consumed.**  With the request written: an ordinary query consumes exactly the data line
and the trailing line, each with the (at most `retry`) empty reads before it; a query of the no-OK
list and a command consume exactly one line with its empties; nothing after that is touched.  And for
*every* script an ordinary query makes at most `2·(retry+1)` reads, the others at most `retry+1`. -/
theorem C07_reads (P : Params) (hdec : P.decodeRetry = true) (c : Str) (hc : isAscii c = true)
    (d1 d2 : Nat) (data trail : Bytes) (rest : List Rd) (writes : List Wr) (log : List Bytes) (nread : Nat)
    (h1 : d1 ≤ P.retry) (h2 : d2 ≤ P.retry) (hd : data ≠ []) (ht : trail ≠ [])
    (ha : isAscii data = true) (hat : isAscii trail = true)
    (hw : ∀ w, writes.head? = some w → w = .ok) :
    (P.noOK.contains (reqName c) = false →
      query P c ⟨List.replicate d1 .empty ++ .line data :: (List.replicate d2 .empty ++ .line trail :: rest),
          writes, log, nread⟩
        = (.ok (.str data), ⟨rest, writes.tail, log ++ [c], nread + d1 + d2 + 2⟩)) ∧
    (P.noOK.contains (reqName c) = true →
      query P c ⟨List.replicate d1 .empty ++ .line data :: rest, writes, log, nread⟩
        = (.ok (.str data), ⟨rest, writes.tail, log ++ [c], nread + d1 + 1⟩)) ∧
    command P c ⟨List.replicate d1 .empty ++ .line trail :: rest, writes, log, nread⟩
        = (.ok .none, ⟨rest, writes.tail, log ++ [c], nread + d1 + 1⟩) ∧
    (∀ p : Port, (query P c p).2.nread ≤ p.nread +
        (if P.noOK.contains (reqName c) then P.retry + 1 else 2 * (P.retry + 1))) ∧
    (∀ p : Port, (command P c p).2.nread ≤ p.nread + (P.retry + 1)) := by
  exact ⟨fun hno => query_reads_ordinary hdec hc hno h1 h2 hd ht ha hw,
    fun hno => query_reads_noOK hdec hc hno h1 hd ha hw,
    command_reads hc h1 ht hat hw, query_nread P c, command_nread P c⟩

/-- what `runSeq` must produce against a conforming board: per call the expected value and an
empty device queue -/
def C07.alignedTrace (es : List Exch) : List (Except PyExc Val × List Rd) :=
  es.map (fun e => (e.expected, []))

/-- **Alignment.**  For every list of requests against a conforming legacy board (reply queued when
the request is written; data line then `OK` for ordinary queries, one line for no-OK queries, `OK`
for commands, each line preceded by at most `retry` empty reads), starting from an empty device
queue and with writes that succeed: the `k`-th call returns the data line of the `k`-th request
(`None` for a command) and the device queue is empty after every call. -/
theorem C07_aligned (P : Params) (hdec : P.decodeRetry = true) (es : List Exch)
    (hconf : ∀ e ∈ es, e.Conforms P) (p : Port) (hq : p.reads = [])
    (hw : ∀ w ∈ p.writes, w = .ok) :
    runSeq P es p = C07.alignedTrace es := by
  induction es generalizing p with
  | nil => rfl
  | cons e es ih =>
    obtain ⟨reads, writes, log, nread⟩ := p
    simp only at hq hw
    subst hq
    obtain ⟨n', key⟩ := exch_step P hdec e (hconf e List.mem_cons_self) writes log nread hw
    unfold runSeq
    simp only [key, C07.alignedTrace, List.map_cons, List.cons.injEq, true_and]
    exact ih (fun e' he' => hconf e' (List.mem_cons_of_mem _ he')) _ rfl fun w h => hw w (List.mem_of_mem_tail h)

/-- **The decode in the retry loop is needed** (defect F5 of the unchanged tree, stated on the model):
if the retry loop of `query` does not decode, then after an empty first read — unless the very next
read raises — `query` raises `TypeError` (`'Err:' in <bytes>`). -/
theorem C07_decode_needed (P : Params) (hdec : P.decodeRetry = false) (hr : 1 ≤ P.retry) (c : Str)
    (hc : isAscii c = true) (r : Rd) (rest : List Rd) (writes : List Wr) (log : List Bytes) (nread : Nat)
    (hw : firstWriteOk ⟨.empty :: r :: rest, writes, log, nread⟩ = true) (hne : ∀ c, r ≠ .raise c) :
    (query P c ⟨.empty :: r :: rest, writes, log, nread⟩).1 = .error .typeError := by
  obtain ⟨m, hm⟩ : ∃ m, P.retry = m + 1 := ⟨P.retry - 1, by omega⟩
  obtain ⟨b, h2⟩ : ∃ b, readline ⟨r :: rest, writes.tail, log ++ [c], nread + 1⟩
      = (some b, ⟨rest, writes.tail, log ++ [c], nread + 1 + 1⟩) := by
    cases r with
    | raise c => exact absurd rfl (hne c)
    | empty => exact ⟨[], rfl⟩
    | line b => exact ⟨b, rfl⟩
  obtain ⟨f, b', q', e1, hf⟩ := retryResp_bytes m b ⟨rest, writes.tail, log ++ [c], nread + 1 + 1⟩
  have h3 : sendRecv false P.retry c ⟨.empty :: r :: rest, writes, log, nread⟩ = (f, .bytes b', q') := by
    rw [sendRecv, write_eq, hw, hm]
    simp only [readline, decode, isAscii_nil, ↓reduceIte]
    rw [retryResp_succ false m _ rfl, h2]
    exact e1
  unfold query
  rw [queryBody_eq P c _ hc, hdec, h3]
  rcases hf with rfl | rfl
  · obtain ⟨f2, q2, e2, hf2⟩ := queryTrail_val P c (.bytes b') q'
    simp only [e2]
    rcases hf2 with rfl | rfl <;> rfl
  · rfl

/-! ## The same statements about the SOURCE-REGENERATED code

`Gen.ebb_serial_query` / `Gen.ebb_serial_command` are regenerated from `plotink/ebb_serial.py` on every run
(`translator/pyio2lean.py`, combinators and exception semantics of `Plotink/PyIO.lean`).  `C07_gen_bridge` connects
them to the hand model with the parameters `std` — the retry bound 100, the no-OK list and the decode in the retry
loop are thereby read off the regenerated code by the proof (a source with other values does not satisfy the
bridge and the build fails).  Domain of the bridge: the port object and a `str` text are passed (any `verbose`),
fuel ≥ 101 (the loops make at most 100 passes), and every scripted fault is of a class the handlers name
(`C07Gen.IoScript`: `SerialException` and subclasses, `OSError`/`IOError`, `RuntimeError`). -/

/-- where a call of a regenerated function leaves the port -/
def C07.outPort : PyIO.Out → Option Port
  | .val _ p => some p
  | .exc _ p => some p
  | .fuelOut => none

/-- **Bridge.**  The regenerated `query` and `command` compute exactly what the hand model computes: same value
and type, same escaping exception, same script left, same write log and read count. -/
theorem C07_gen_bridge (fuel : Nat) (hf : 101 ≤ fuel) (c : Str) (vb : PyIO.Val) (p : Port)
    (hio : C07Gen.IoScript p) :
    Gen.ebb_serial_query fuel .port (.str c) vb p = C07Gen.encOut (query std c p) ∧
    Gen.ebb_serial_command fuel .port (.str c) vb p = C07Gen.encOut (command std c p) :=
  ⟨C07Gen.query_bridge fuel hf c vb p hio, C07Gen.command_bridge fuel hf c vb p hio⟩

/-- **Exactly one write** (regenerated code): with a port and an ASCII text the call ends (value or escaping
exception, never out of fuel) with exactly the request appended to the write log; with no port (`None`) or no text
nothing is touched and `None` is returned. -/
theorem C07_gen_one_write (fuel : Nat) (hf : 101 ≤ fuel) (c : Str) (hc : isAscii c = true) (vb : PyIO.Val)
    (p : Port) (hio : C07Gen.IoScript p) :
    (∃ p', C07.outPort (Gen.ebb_serial_query fuel .port (.str c) vb p) = some p' ∧ p'.log = p.log ++ [c]) ∧
    (∃ p', C07.outPort (Gen.ebb_serial_command fuel .port (.str c) vb p) = some p' ∧ p'.log = p.log ++ [c]) ∧
    (∀ cmd, Gen.ebb_serial_query fuel .none cmd vb p = .val .none p ∧
            Gen.ebb_serial_command fuel .none cmd vb p = .val .none p) ∧
    Gen.ebb_serial_query fuel .port .none vb p = .val .none p ∧
    Gen.ebb_serial_command fuel .port .none vb p = .val .none p := by
  obtain ⟨hq, hcm⟩ := C07_gen_bridge fuel hf c vb p hio
  refine ⟨⟨(query std c p).2, ?_, query_log std c p hc⟩, ⟨(command std c p).2, ?_, command_log std c p hc⟩,
    fun cmd => ⟨C07Gen.query_noop fuel .none cmd vb p (Or.inl rfl), C07Gen.command_noop fuel .none cmd vb p (Or.inl rfl)⟩,
    C07Gen.query_noop fuel .port .none vb p (Or.inr ⟨Or.inl rfl, rfl⟩),
    C07Gen.command_noop fuel .port .none vb p (Or.inr ⟨Or.inl rfl, rfl⟩)⟩
  · rw [hq]
    rcases query std c p with ⟨r, p'⟩
    cases r <;> rfl
  · rw [hcm]
    rcases command std c p with ⟨r, p'⟩
    cases r <;> rfl

/-- **Never raises** (regenerated code): on every script over {ASCII line, empty, serial I/O exception} the
regenerated functions return a value; `query` returns a `str`, `command` returns `None`. -/
theorem C07_gen_no_raise (fuel : Nat) (hf : 101 ≤ fuel) (c : Str) (hc : isAscii c = true) (vb : PyIO.Val)
    (p : Port) (hio : C07Gen.IoScript p) (hp : allAscii p.reads = true) :
    (∃ s p', Gen.ebb_serial_query fuel .port (.str c) vb p = .val (.str s) p') ∧
    (∃ p', Gen.ebb_serial_command fuel .port (.str c) vb p = .val .none p') := by
  obtain ⟨hq, hcm⟩ := C07_gen_bridge fuel hf c vb p hio
  exact ⟨⟨_, _, by rw [hq, C07Gen.encOut_ok (query_text std c p rfl hc hp).1]; rfl⟩,
    ⟨_, by rw [hcm, C07Gen.encOut_ok (command_ok std c p hc hp).1]; rfl⟩⟩

/-- **`query` returns text** (regenerated code): the `str` that arrived within the first 101 reads, `''` when
nothing arrived or the write failed. -/
theorem C07_gen_text (fuel : Nat) (hf : 101 ≤ fuel) (c : Str) (hc : isAscii c = true) (vb : PyIO.Val)
    (p : Port) (hio : C07Gen.IoScript p) (hp : allAscii p.reads = true) :
    ∃ p', Gen.ebb_serial_query fuel .port (.str c) vb p =
      .val (.str (if firstWriteOk p = true then arrived 101 p.reads else [])) p' := by
  exact ⟨_, by rw [(C07_gen_bridge fuel hf c vb p hio).1, C07Gen.encOut_ok (query_text std c p rfl hc hp).1]; rfl⟩

/-- **Reads consumed** (regenerated code): on a well-formed reply (each line after at most 100 empty reads) an
ordinary query consumes exactly data line and trailing line, a no-OK query and a command exactly one line, and
nothing of what follows (`rest`). -/
theorem C07_gen_reads (fuel : Nat) (hf : 101 ≤ fuel) (c : Str) (hc : isAscii c = true) (vb : PyIO.Val)
    (d1 d2 : Nat) (data trail : Bytes) (rest : List Rd) (writes : List Wr) (log : List Bytes) (nread : Nat)
    (h1 : d1 ≤ 100) (h2 : d2 ≤ 100) (hd : data ≠ []) (ht : trail ≠ [])
    (ha : isAscii data = true) (hat : isAscii trail = true)
    (hw : ∀ w, writes.head? = some w → w = .ok) (hws : C07Gen.IoWrites writes) (hrest : C07Gen.IoReads rest) :
    (std.noOK.contains (reqName c) = false →
      Gen.ebb_serial_query fuel .port (.str c) vb
          ⟨List.replicate d1 .empty ++ .line data :: (List.replicate d2 .empty ++ .line trail :: rest), writes, log, nread⟩
        = .val (.str data) ⟨rest, writes.tail, log ++ [c], nread + d1 + d2 + 2⟩) ∧
    (std.noOK.contains (reqName c) = true →
      Gen.ebb_serial_query fuel .port (.str c) vb ⟨List.replicate d1 .empty ++ .line data :: rest, writes, log, nread⟩
        = .val (.str data) ⟨rest, writes.tail, log ++ [c], nread + d1 + 1⟩) ∧
    Gen.ebb_serial_command fuel .port (.str c) vb ⟨List.replicate d1 .empty ++ .line trail :: rest, writes, log, nread⟩
        = .val .none ⟨rest, writes.tail, log ++ [c], nread + d1 + 1⟩ := by
  obtain ⟨r1, r2, r3, _, _⟩ := C07_reads std rfl c hc d1 d2 data trail rest writes log nread h1 h2 hd ht ha hat hw
  refine ⟨fun hno => ?_, fun hno => ?_, ?_⟩
  · rw [(C07_gen_bridge fuel hf c vb _ ⟨hrest.skip.skip, hws⟩).1, r1 hno]
    rfl
  · rw [(C07_gen_bridge fuel hf c vb _ ⟨hrest.skip, hws⟩).1, r2 hno]
    rfl
  · rw [(C07_gen_bridge fuel hf c vb _ ⟨hrest.skip, hws⟩).2, r3]
    rfl

/-- a list of exchanges run on the regenerated functions (the board queues its reply when the request is
written); the run stops at a call that runs out of fuel -/
def C07.genRunSeq (fuel : Nat) (vb : PyIO.Val) : List Exch → Port → List PyIO.Out
  | [], _ => []
  | e :: es, p =>
    let out := (if e.isQuery then Gen.ebb_serial_query fuel .port (.str e.cmd) vb
                else Gen.ebb_serial_command fuel .port (.str e.cmd) vb) { p with reads := p.reads ++ e.reply std }
    match C07.outPort out with
    | some p' => out :: C07.genRunSeq fuel vb es p'
    | none => [out]

/-- what is observed of one call: the value returned (`none` = an exception escaped or the fuel ran out), the
device queue and the write log afterwards -/
def C07.outView : PyIO.Out → Option PyIO.Val × List Rd × List Bytes
  | .val v p => (some v, p.reads, p.log)
  | .exc _ p => (Option.none, p.reads, p.log)
  | .fuelOut => (Option.none, [], [])

/-- what a conforming board requires: the data line of each request (`None` for a command), the queue empty after
every call, exactly the requests so far in the write log -/
def C07.genAlignedTrace : List Exch → List Bytes → List (Option PyIO.Val × List Rd × List Bytes)
  | [], _ => []
  | e :: es, lg =>
    (some (if e.isQuery then .str e.data else .none), [], lg ++ [e.cmd]) :: C07.genAlignedTrace es (lg ++ [e.cmd])

/-- **Alignment** (regenerated code): against a conforming legacy board, from an empty device queue and with
writes that succeed, the `k`-th call of the regenerated functions returns the data line of the `k`-th request
(`None` for a command), leaves the device queue empty, and the write log holds exactly the requests so far. -/
theorem C07_gen_aligned (fuel : Nat) (hf : 101 ≤ fuel) (vb : PyIO.Val) (es : List Exch)
    (hconf : ∀ e ∈ es, e.Conforms std) (p : Port) (hq : p.reads = []) (hw : ∀ w ∈ p.writes, w = .ok) :
    (C07.genRunSeq fuel vb es p).map C07.outView = C07.genAlignedTrace es p.log := by
  induction es generalizing p with
  | nil => rfl
  | cons e es ih =>
    obtain ⟨reads, writes, log, nread⟩ := p
    simp only at hq hw
    subst hq
    obtain ⟨n', hstep⟩ := exch_step std rfl e (hconf e List.mem_cons_self) writes log nread hw
    have hio : C07Gen.IoScript ⟨[] ++ e.reply std, writes, log, nread⟩ :=
      ⟨fun cl hm => absurd (by simpa using hm) (reply_no_raise std e cl), fun cl hm => by cases hw _ hm⟩
    obtain ⟨bq, bc⟩ := C07_gen_bridge fuel hf e.cmd vb _ hio
    have hout : (if e.isQuery then Gen.ebb_serial_query fuel .port (.str e.cmd) vb
                else Gen.ebb_serial_command fuel .port (.str e.cmd) vb) ⟨[] ++ e.reply std, writes, log, nread⟩
        = .val (if e.isQuery then .str e.data else .none) ⟨[], writes.tail, log ++ [e.cmd], n'⟩ := by
      revert hstep
      unfold Exch.expected
      cases e.isQuery <;> intro hstep
      · exact bc.trans (congrArg C07Gen.encOut hstep)
      · exact bq.trans (congrArg C07Gen.encOut hstep)
    unfold C07.genRunSeq
    simp only [hout, C07.outPort, List.map_cons, C07.outView, C07.genAlignedTrace, List.cons.injEq, true_and]
    exact ih (fun e' he' => hconf e' (List.mem_cons_of_mem _ he')) ⟨[], writes.tail, log ++ [e.cmd], n'⟩ rfl
      fun w h => hw w (List.mem_of_mem_tail h)

/-! ## Non-vacuity: the hypotheses are met by concrete instances, and the model computes the
expected answers on them (kernel evaluation). -/

/-- `std` satisfies the parameter hypothesis -/
example : std.decodeRetry = true := rfl

/-- scripts of the fault alphabet satisfy the hypotheses of `C07_no_raise` / `C07_text`: an error line,
timeouts, an I/O exception, a fragment without terminator -/
example : isAscii "QS\r".toList = true ∧
    allAscii [.line "!8 Err: Unknown command\r\n".toList, .empty, .raise .serialException, .line "3,".toList] = true := by
  decide

/-- the hypotheses of `C07_reads` are satisfiable at the boundary: exactly `retry` empties before each line -/
example : (query std "QS\r".toList
    ⟨List.replicate 100 .empty ++ .line "3,4\r\n".toList :: (List.replicate 100 .empty ++ .line "OK\r\n".toList :: [.line "next".toList]),
      [], [], 0⟩) = (.ok (.str "3,4\r\n".toList), ⟨[.line "next".toList], [], [] ++ ["QS\r".toList], 0 + 100 + 100 + 2⟩) :=
  (C07_reads std rfl "QS\r".toList (by decide) 100 100 "3,4\r\n".toList "OK\r\n".toList [.line "next".toList] [] [] 0
    (by decide) (by decide) (by decide) (by decide) (by decide) (by decide) (by intro w h; cases h)).1 (by decide)

/-- one empty read more than the limit: nothing arrived in time, and the reply is left behind (why the
conformance bound of `C07_aligned` is `retry`; here with `retry = 3`) -/
example : (query { std with retry := 3 } "V\r".toList ⟨List.replicate 4 .empty ++ [.line "EBB\r\n".toList], [], [], 0⟩)
    = (.ok (.str []), ⟨[.line "EBB\r\n".toList], [], ["V\r".toList], 4⟩) := by
  decide

/-- the fault hypothesis of the bridge is met by the exception classes pyserial and the OS raise; an exception
of another class (`ValueError`) is not a serial I/O exception -/
example : C07Gen.IoClass .serialException ∧ C07Gen.IoClass .serialTimeoutException ∧ C07Gen.IoClass .portNotOpenError ∧
    C07Gen.IoClass .osError ∧ C07Gen.IoClass .runtimeError ∧ ¬ C07Gen.IoClass .valueError := by
  refine ⟨rfl, rfl, rfl, rfl, rfl, ?_⟩
  intro h
  cases h

example : C07Gen.IoScript ⟨[.empty, .raise .serialTimeoutException, .line "1\r\n".toList], [.raise .osError], [], 0⟩ := by
  constructor
  · intro c hc
    simp only [List.mem_cons, List.mem_nil_iff, or_false, reduceCtorEq, false_or, PyIO.Rd.raise.injEq] at hc
    subst hc
    rfl
  · intro c hc
    simp only [List.mem_cons, List.mem_nil_iff, or_false, PyIO.Wr.raise.injEq] at hc
    subst hc
    rfl

/-- the regenerated `query`, evaluated by the kernel: a timeout, the data line, the trailing `OK` -/
example : Gen.ebb_serial_query 101 .port (.str "QS\r".toList) (.bool true)
    ⟨[.empty, .line "3,4\r\n".toList, .line "OK\r\n".toList, .line "next".toList], [], [], 0⟩
    = .val (.str "3,4\r\n".toList) ⟨[.line "next".toList], [], ["QS\r".toList], 3⟩ := by
  rfl

/-- … and an `OSError` on a retry read: contained by the handler, `''` is returned -/
example : Gen.ebb_serial_query 101 .port (.str "QS\r".toList) (.bool false)
    ⟨[.empty, .raise .osError, .line "3,4\r\n".toList], [], [], 0⟩
    = .val (.str []) ⟨[.line "3,4\r\n".toList], [], ["QS\r".toList], 2⟩ := by
  rfl

/-- an ordinary query after one timeout, then a no-OK query, then a command: a conforming history -/
def C07.demo : List Exch :=
  [⟨true, "QS\r".toList, 1, "3,4\r\n".toList, 0, "OK\r\n".toList⟩,
   ⟨true, "V\r".toList, 0, "EBBv13\r\n".toList, 0, "OK\r\n".toList⟩,
   ⟨false, "EM,1,1\r".toList, 2, [], 0, "OK\r\n".toList⟩]

example : ∀ e ∈ C07.demo, e.Conforms std := by
  decide

example : runSeq std C07.demo ⟨[], [], [], 0⟩ =
    [(.ok (.str "3,4\r\n".toList), []), (.ok (.str "EBBv13\r\n".toList), []), (.ok .none, [])] := by
  decide

/-- a fault history: write raises / read raises / silence — `''`, never an exception -/
example : (call std ⟨true, some "QS\r".toList⟩ (some ⟨[.line "1\r\n".toList], [.raise .serialException], [], 0⟩)).1
    = .ok (.str []) := by decide
example : (call std ⟨true, some "QS\r".toList⟩ (some ⟨[.empty, .raise .serialException, .line "1\r\n".toList], [], [], 0⟩)).1
    = .ok (.str []) := by decide
/-- the unrepaired retry loop on the same kind of history -/
example : (query { std with decodeRetry := false } "QS\r".toList ⟨[.empty, .line "1\r\n".toList], [], [], 0⟩).1
    = .error .typeError := by decide

end Plotink
