import Plotink.Proofs.C13Gen
import Plotink.Proofs.C13GenInit
import Plotink.Model.C13
import Plotink.Proofs.C13Answer
import Plotink.Proofs.C13Build
import Plotink.Proofs.C13Witness

/-! # C13 — grid index: `nearest()` returns a live path end that no neighbouring end beats

`C13.build / nearest / remove` (Model/C13.lean) mirror `spatial_grid.Index.__init__ / nearest /
remove_path`; the correspondence with the real class is checked by execution (harness/c13.py).
`Inv g live` is the state invariant (every end of a live path occurs exactly once, in cell
`lookup[id]`, which is the clamped cell of that end; nothing else is in the cells).

Spec vocabulary (independent of cells/lookup/adjacency): `endPoint verts rev id` (the end that an
identifier names), `LiveEnd verts rev live id p`, `cellOf G p` (clamped column and row), `Near`
(same cell or one of the eight neighbours), `sqDist` (squared distance, as the code compares). -/

namespace Plotink
open C13

/-! ## core: the query, from the invariant -/

/-- `nearest` returns `None` exactly when no path remains. -/
theorem C13_none_iff {g : Grid} {live : List Nat} (h : Inv g live) (q : Pt) :
    nearest g q = none ↔ live = [] :=
  (h.answer q).1

/-- non-vacuity: an index built by `build` and reduced by `remove`, with a path still live -/
example : ∃ (g : Grid) (live : List Nat), Inv g live ∧ live ≠ [] := by
  obtain ⟨g, live, _, h, hne, _⟩ := witness_far
  exact ⟨g, live, h, hne⟩

/-- The result names an end of a path that has not been removed: a start (`r < n`, path `r`), or an
end (`n ≤ r < 2n`, path `r - n`) only when reversal is enabled. -/
theorem C13_live {g : Grid} {live : List Nat} (h : Inv g live) (q : Pt) {r : Nat}
    (hr : nearest g q = some r) :
    (∃ p, LiveEnd g.verts g.rev live r p) ∧
    ((r < g.n ∧ r ∈ live) ∨ (g.rev = true ∧ g.n ≤ r ∧ r < 2 * g.n ∧ r - g.n ∈ live)) := by
  obtain ⟨pr, hpr, -⟩ := (h.answer q).2 r hr
  exact ⟨⟨pr, hpr⟩, ((liveEnd_iff h r pr).mp hpr).1.cases⟩

/-- non-vacuity: a query that returns an identifier -/
example : ∃ (g : Grid) (live : List Nat) (q : Pt) (r : Nat), Inv g live ∧ nearest g q = some r := by
  obtain ⟨g, live, q, h, hne, _⟩ := witness_far
  obtain ⟨r, hn⟩ := exists_nearest h hne q
  exact ⟨g, live, q, r, h, hn⟩

/-- The result is at least as close to the query as every remaining end in the query's grid cell
and its eight neighbours (squared distances, as the code compares).  This covers the index-0
fall-through: when the best neighbourhood end has identifier 0 the code goes on to scan the other
cells *with the running best*, so whatever it returns is still no farther than every neighbour. -/
theorem C13_local {g : Grid} {live : List Nat} (h : Inv g live) (q : Pt) {r : Nat} {pr : Pt}
    (hr : nearest g q = some r) (hpr : endPoint g.verts g.rev r = some pr)
    {id : Nat} {p : Pt} (hp : LiveEnd g.verts g.rev live id p)
    (hnear : Near (cellOf g.toGeo q) (cellOf g.toGeo p)) :
    sqDist q pr ≤ sqDist q p :=
  ((h.answer q).at hr hpr hp).1 hnear

/-- non-vacuity: a query with a live end in its own cell -/
example : ∃ (g : Grid) (live : List Nat) (q : Pt) (r : Nat) (pr : Pt) (id : Nat) (p : Pt), Inv g live ∧
    nearest g q = some r ∧ endPoint g.verts g.rev r = some pr ∧ LiveEnd g.verts g.rev live id p ∧
    Near (cellOf g.toGeo q) (cellOf g.toGeo p) := by
  obtain ⟨g, live, _, h, hne, _⟩ := witness_far
  obtain ⟨q, id, p, hp, hn, _⟩ := witness_near h hne
  obtain ⟨r, hq⟩ := exists_nearest h hne q
  obtain ⟨⟨pr, hpr⟩, _⟩ := C13_live h q hq
  exact ⟨g, live, q, r, pr, id, p, h, hq, hpr.1, hp, hn⟩

/-- When no remaining end lies in the query's cell or its eight neighbours, the result is a
globally closest remaining end. -/
theorem C13_global_when_empty {g : Grid} {live : List Nat} (h : Inv g live) (q : Pt) {r : Nat} {pr : Pt}
    (hr : nearest g q = some r) (hpr : endPoint g.verts g.rev r = some pr)
    (hempty : ∀ id p, LiveEnd g.verts g.rev live id p → ¬ Near (cellOf g.toGeo q) (cellOf g.toGeo p))
    {id : Nat} {p : Pt} (hp : LiveEnd g.verts g.rev live id p) :
    sqDist q pr ≤ sqDist q p :=
  ((h.answer q).at hr hpr hp).2.1 hempty

/-- non-vacuity: the index of (0,0)→·, (200,0)→· with 3 bins after removing path 1, queried at
(300,0): the remaining end is two columns away from the query's cell, and a result is returned -/
example : ∃ (g : Grid) (live : List Nat) (q : Pt) (r : Nat) (pr : Pt), Inv g live ∧
    nearest g q = some r ∧ endPoint g.verts g.rev r = some pr ∧
    (∀ id p, LiveEnd g.verts g.rev live id p → ¬ Near (cellOf g.toGeo q) (cellOf g.toGeo p)) := by
  obtain ⟨g, live, q, h, hne, hemp⟩ := witness_far
  obtain ⟨r, hq⟩ := exists_nearest h hne q
  obtain ⟨⟨pr, hpr⟩, _⟩ := C13_live h q hq
  exact ⟨g, live, q, r, pr, h, hq, hpr.1, hemp⟩

/-! ## complete: true nearest -/

/-- Exact arithmetic: when some remaining end lies within one cell width (the smaller of the two
bin sizes) of the query, the result is a globally closest remaining end.  (The property asks this
only for in-grid queries; it holds for every query, because clamping never separates two bins.) -/
theorem C13_true_nearest {g : Grid} {live : List Nat} (h : Inv g live) (q : Pt) {r : Nat} {pr : Pt}
    (hr : nearest g q = some r) (hpr : endPoint g.verts g.rev r = some pr)
    (hclose : ∃ id p, LiveEnd g.verts g.rev live id p ∧ sqDist q p ≤ min g.bx g.by_ * min g.bx g.by_)
    {id : Nat} {p : Pt} (hp : LiveEnd g.verts g.rev live id p) :
    sqDist q pr ≤ sqDist q p :=
  ((h.answer q).at hr hpr hp).2.2 hclose

/-- non-vacuity: a query with a live end within one cell width -/
example : ∃ (g : Grid) (live : List Nat) (q : Pt) (r : Nat) (pr : Pt), Inv g live ∧
    nearest g q = some r ∧ endPoint g.verts g.rev r = some pr ∧
    ∃ id p, LiveEnd g.verts g.rev live id p ∧ sqDist q p ≤ min g.bx g.by_ * min g.bx g.by_ := by
  obtain ⟨g, live, _, h, hne, _⟩ := witness_far
  obtain ⟨q, id, p, hp, _, hd⟩ := witness_near h hne
  obtain ⟨r, hq⟩ := exists_nearest h hne q
  obtain ⟨⟨pr, hpr⟩, _⟩ := C13_live h q hq
  exact ⟨g, live, q, r, pr, h, hq, hpr.1, id, p, hp, hd⟩


/-! ## complete: the invariant is established by `__init__` and preserved by `remove_path` -/

/-- "Paths with non-zero extent" (two indexed vertices differ; the ends count only when reversal
is enabled) and `bins ≥ 1`: the constructor does not raise. -/
theorem C13_build_total {verts : List Path} {bins : Nat} {rev : Bool} (hb : 0 < bins)
    (hext : ∃ a ∈ points verts rev, ∃ b ∈ points verts rev, a ≠ b) :
    ∃ g, build verts bins rev = some g :=
  build_total hb hext

/-- non-vacuity: one path from (0,0) to (1,1) with reversal enabled has non-zero extent -/
example : (0 : Nat) < 2 ∧ ∃ a ∈ points [((0, 0), (1, 1))] true, ∃ b ∈ points [((0, 0), (1, 1))] true, a ≠ b := by
  refine ⟨by omega, (0, 0), by simp [points], (1, 1), by simp [points], by simp⟩

/-- The domain boundary of the model: with zero extent (all indexed vertices coincide, or there is no path)
`build` answers `none`.  When the vertices coincide the constructor raises `ZeroDivisionError`; for an empty
vertex list Python does not raise (it builds an index with infinite bin sizes), which the model leaves out. -/
theorem C13_build_none_of_zero_extent {verts : List Path} {bins : Nat} {rev : Bool}
    (hz : ∀ a ∈ points verts rev, ∀ b ∈ points verts rev, a = b) : build verts bins rev = none :=
  build_none_of_zero_extent hz

/-- non-vacuity: one path, reversal disabled — only the start is indexed -/
example : ∀ a ∈ points [((0, 0), (1, 1))] false, ∀ b ∈ points [((0, 0), (1, 1))] false, a = b := by
  simp [points]

/-- `__init__` establishes the invariant with every path live. -/
theorem C13_inv_build {verts : List Path} {bins : Nat} {rev : Bool} {g : Grid}
    (h : build verts bins rev = some g) :
    Inv g (List.range verts.length) ∧ g.verts = verts ∧ g.rev = rev ∧ g.n = verts.length ∧ g.bins = bins :=
  inv_build h

/-- non-vacuity: `build` succeeds on that input -/
example : ∃ g, build [((0, 0), (1, 1))] 2 true = some g :=
  C13_build_total (by omega) ⟨(0, 0), by simp [points], (1, 1), by simp [points], by simp⟩

/-- `remove_path(p)` for a path that is still present does not raise, re-establishes the invariant
for the remaining paths (both ends of `p` are gone when reversal is enabled), and changes nothing
but the cells. -/
theorem C13_inv_remove {g : Grid} {live : List Nat} (h : Inv g live) {p : Nat} (hp : p ∈ live) :
    ∃ g', remove g p = some g' ∧ Inv g' (live.filter (· ≠ p)) ∧
      g'.toGeo = g.toGeo ∧ g'.rev = g.rev ∧ g'.n = g.n ∧ g'.verts = g.verts :=
  inv_remove h hp

/-- non-vacuity: a live path in a consistent index -/
example : ∃ (g : Grid) (live : List Nat) (p : Nat), Inv g live ∧ p ∈ live := by
  obtain ⟨g, live, _, h, hne, _⟩ := witness_far
  cases live with
  | nil => exact absurd rfl hne
  | cons k t => exact ⟨g, k :: t, k, h, by simp⟩

/-- Every sequence of removals of distinct paths that are present (induction over the sequence). -/
theorem C13_inv_history {g : Grid} {live : List Nat} (h : Inv g live) (ps : List Nat) (hnd : ps.Nodup)
    (hsub : ∀ p ∈ ps, p ∈ live) :
    ∃ g', removeAll g ps = some g' ∧ Inv g' (live.filter (fun k => k ∉ ps)) ∧
      g'.toGeo = g.toGeo ∧ g'.rev = g.rev ∧ g'.n = g.n ∧ g'.verts = g.verts :=
  inv_removeAll ps h hnd hsub

/-- non-vacuity: removing both paths of a two-path index, path 1 first -/
example : ∃ (g : Grid) (live : List Nat) (ps : List Nat), Inv g live ∧ ps.Nodup ∧ ps ≠ [] ∧ ∀ p ∈ ps, p ∈ live := by
  obtain ⟨g, hg⟩ := C13_build_total (verts := [((0, 0), (1, 1)), ((1, 0), (0, 1))]) (bins := 2) (rev := false)
    (by omega) ⟨(0, 0), by simp [points], (1, 0), by simp [points], by simp⟩
  exact ⟨g, _, [1, 0], (C13_inv_build hg).1, by simp, by simp, by simp⟩

/-- `find_adjacents`: the list of cell `(x, y)` (index `x + y·bins`) has no duplicates and consists
of exactly the in-grid cells `(x', y')` with `|x - x'| ≤ 1` and `|y - y'| ≤ 1`. -/
theorem C13_adjacents_spec {bins x y : Nat} (hx : x < bins) (hy : y < bins) :
    (adjacents bins).length = bins * bins ∧
    ((adjacents bins).getD (x + y * bins) []).Nodup ∧
    ∀ c, c ∈ (adjacents bins).getD (x + y * bins) [] ↔
      ∃ x' y', x' < bins ∧ y' < bins ∧ c = x' + y' * bins ∧
        x' ≤ x + 1 ∧ x ≤ x' + 1 ∧ y' ≤ y + 1 ∧ y ≤ y' + 1 := by
  rw [adjacents_getD hx hy]
  exact ⟨adjacents_length bins, nodup_adjOf hx, mem_adjOf hx hy⟩

/-- non-vacuity: the centre cell of a 3×3 grid -/
example : (1 : Nat) < 3 ∧ (1 : Nat) < 3 := by omega


/-! ## the property, end to end -/

/-- For every set of paths with non-zero extent, every `bins ≥ 1`, both reversal settings and every
sequence `ps` of removals of distinct paths: construction and the removals succeed, the resulting index satisfies
the invariant for the paths not in `ps`, and every query on it is answered as the property asks (`C13.Answers`: the
five clauses, stated about the original vertex list). -/
theorem C13_history {verts : List Path} {bins : Nat} {rev : Bool} (hb : 0 < bins)
    (hext : ∃ a ∈ points verts rev, ∃ b ∈ points verts rev, a ≠ b)
    (ps : List Nat) (hnd : ps.Nodup) (hlt : ∀ p ∈ ps, p < verts.length) :
    ∃ g0 g, build verts bins rev = some g0 ∧ removeAll g0 ps = some g ∧ g.toGeo = g0.toGeo ∧ g.bins = bins ∧
      Inv g ((List.range verts.length).filter (fun k => k ∉ ps)) ∧
      ∀ q : Pt, Answers verts rev ((List.range verts.length).filter (fun k => k ∉ ps)) g.toGeo q (nearest g q) := by
  obtain ⟨g0, hg0⟩ := build_total hb hext
  obtain ⟨hinv0, e1, e2, -, e4⟩ := inv_build hg0
  obtain ⟨g, hg, hinv, f1, f2, -, f4⟩ :=
    inv_removeAll ps hinv0 hnd (fun p hp => List.mem_range.mpr (hlt p hp))
  obtain rfl : g.verts = verts := f4.trans e1
  obtain rfl : g.rev = rev := f2.trans e2
  exact ⟨g0, g, hg0, hg, f1, (congrArg Geo.bins f1).trans e4, hinv, hinv.answer⟩

/-- non-vacuity: two crossing paths, reversal enabled, removal order 1 then 0 -/
example : (0 : Nat) < 4 ∧
    (∃ a ∈ points [((0, 0), (1, 1)), ((1, 0), (0, 1))] true, ∃ b ∈ points [((0, 0), (1, 1)), ((1, 0), (0, 1))] true, a ≠ b) ∧
    [1, 0].Nodup ∧ ∀ p ∈ [1, 0], p < [((0, 0), (1, 1)), ((1, 0), (0, 1))].length := by
  refine ⟨by omega, ⟨(0, 0), by simp [points], (1, 1), by simp [points], by simp⟩, by simp, by simp⟩

/-! ## The same statements about the SOURCE-REGENERATED methods

`Gen.grid_Index_init` / `_find_adjacents` / `_nearest` / `_remove_path` are regenerated from `plotink/spatial_grid.py` on
every run (`lean/Plotink/Gen/grid_Index.lean`).  Exact arithmetic (`Rounding.exact`); an `Index` instance in state `g` is
the field tuple `C13.encGrid g`, a query point `C13.encPt q`, the vertex list `C13.encPaths verts`; `nearest` returns `None`
(`.none_`) or an identifier (`.int r`).  The per-method statements are for every state that satisfies the invariant
`Inv g live` — which the regenerated `__init__` establishes (`C13_gen_build` with `C13_inv_build`) and the regenerated
`remove_path` preserves (`C13_gen_remove`); `C13_gen_history` is the property end to end about the regenerated class alone. -/

/-- **bridge** (`find_adjacents`): on an instance with `bins_per_side = bins` it returns `None` and sets `self.adjacents` to
the model's table (whose content is `C13_adjacents_spec`); no other field changes -/
theorem C13_gen_find_adjacents (amb : Nat) (f1 f3 f4 f5 f6 f7 f8 f9 f10 : Py.Val) (bins : Nat) (A : List (List Nat)) :
    Gen.grid_Index_find_adjacents Rounding.exact amb (instA f1 A f3 f4 f5 f6 f7 f8 f9 f10 bins) =
      .tup [.none_, instA f1 (adjacents bins) f3 f4 f5 f6 f7 f8 f9 f10 bins] :=
  find_adjacents_inst (adjInst_instA f1 f3 f4 f5 f6 f7 f8 f9 f10 bins) amb A

/-- **bridge** (`__init__`): whenever the model's construction succeeds (`C13_build_total`: `bins ≥ 1` and non-zero extent),
the regenerated constructor returns exactly that state — grid, adjacents, lookup, path_count, vertices, reverse, bin
sizes, xmin, ymin, bins_per_side -/
theorem C13_gen_build (amb : Nat) {verts : List Path} {bins : Nat} {rev : Bool} {g : Grid}
    (h : build verts bins rev = some g) :
    Gen.grid_Index_init Rounding.exact amb (encPaths verts) (.int (bins : Int)) (.bool_ rev) = encGrid g :=
  init_bridge amb verts bins rev g h

/-- the regenerated constructor establishes the invariant -/
theorem C13_gen_inv_build (amb : Nat) {verts : List Path} {bins : Nat} {rev : Bool} (hb : 0 < bins)
    (hext : ∃ a ∈ points verts rev, ∃ b ∈ points verts rev, a ≠ b) :
    ∃ g, Gen.grid_Index_init Rounding.exact amb (encPaths verts) (.int (bins : Int)) (.bool_ rev) = encGrid g ∧
      Inv g (List.range verts.length) ∧ g.verts = verts ∧ g.rev = rev ∧ g.n = verts.length ∧ g.bins = bins := by
  obtain ⟨g, hg⟩ := C13_build_total (rev := rev) hb hext
  exact ⟨g, init_bridge amb verts bins rev g hg, C13_inv_build hg⟩

/-- **bridge** (`nearest`) -/
theorem C13_gen_nearest (amb : Nat) {g : Grid} {live : List Nat} (h : Inv g live) (q : Pt) :
    Gen.grid_Index_nearest Rounding.exact amb (encGrid g) (encPt q) = encOptNat (nearest g q) :=
  nearest_bridge amb g live h q

/-- **bridge** (`remove_path`) for a path that is still present: returns `None` and the updated instance, whose state
again satisfies the invariant -/
theorem C13_gen_remove (amb : Nat) {g : Grid} {live : List Nat} (h : Inv g live) {p : Nat} (hp : p ∈ live) :
    ∃ g', Gen.grid_Index_remove_path Rounding.exact amb (encGrid g) (encNat p) = .tup [.none_, encGrid g'] ∧
      Inv g' (live.filter (· ≠ p)) ∧ g'.toGeo = g.toGeo ∧ g'.rev = g.rev ∧ g'.n = g.n ∧ g'.verts = g.verts := by
  obtain ⟨g', hr, hi, rest⟩ := C13_inv_remove h hp
  exact ⟨g', remove_bridge amb g g' p hr, hi, rest⟩

/-- every sequence of removals of distinct present paths, threaded through the regenerated method -/
theorem C13_gen_inv_history (amb : Nat) {g : Grid} {live : List Nat} (h : Inv g live) (ps : List Nat) (hnd : ps.Nodup)
    (hsub : ∀ p ∈ ps, p ∈ live) :
    ∃ g', genRemoveAll amb (encGrid g) ps = encGrid g' ∧ Inv g' (live.filter (fun k => k ∉ ps)) ∧
      g'.toGeo = g.toGeo ∧ g'.rev = g.rev ∧ g'.n = g.n ∧ g'.verts = g.verts := by
  obtain ⟨g', hr, hi, rest⟩ := C13_inv_history h ps hnd hsub
  exact ⟨g', removeAll_bridge amb ps g g' hr, hi, rest⟩

/-- `C13_none_iff`: the regenerated `nearest` returns `None` exactly when no path remains -/
theorem C13_gen_none_iff (amb : Nat) {g : Grid} {live : List Nat} (h : Inv g live) (q : Pt) :
    Gen.grid_Index_nearest Rounding.exact amb (encGrid g) (encPt q) = .none_ ↔ live = [] :=
  (gen_nearest_none_iff amb h q).trans (C13_none_iff h q)

/-- `C13_live`: an identifier it returns names an end of a path that has not been removed -/
theorem C13_gen_live (amb : Nat) {g : Grid} {live : List Nat} (h : Inv g live) (q : Pt) {r : Nat}
    (hr : Gen.grid_Index_nearest Rounding.exact amb (encGrid g) (encPt q) = .int (r : Int)) :
    (∃ p, LiveEnd g.verts g.rev live r p) ∧
    ((r < g.n ∧ r ∈ live) ∨ (g.rev = true ∧ g.n ≤ r ∧ r < 2 * g.n ∧ r - g.n ∈ live)) :=
  C13_live h q (nearest_of_gen h hr)

/-- `C13_local`: no live end in the query's cell or one of its eight neighbours is strictly closer -/
theorem C13_gen_local (amb : Nat) {g : Grid} {live : List Nat} (h : Inv g live) (q : Pt) {r : Nat} {pr : Pt}
    (hr : Gen.grid_Index_nearest Rounding.exact amb (encGrid g) (encPt q) = .int (r : Int))
    (hpr : endPoint g.verts g.rev r = some pr) {id : Nat} {p : Pt} (hp : LiveEnd g.verts g.rev live id p)
    (hnear : Near (cellOf g.toGeo q) (cellOf g.toGeo p)) : sqDist q pr ≤ sqDist q p :=
  C13_local h q (nearest_of_gen h hr) hpr hp hnear

/-- `C13_global_when_empty`: when no live end lies in those cells the result is a globally closest live end -/
theorem C13_gen_global_when_empty (amb : Nat) {g : Grid} {live : List Nat} (h : Inv g live) (q : Pt) {r : Nat} {pr : Pt}
    (hr : Gen.grid_Index_nearest Rounding.exact amb (encGrid g) (encPt q) = .int (r : Int))
    (hpr : endPoint g.verts g.rev r = some pr)
    (hempty : ∀ id p, LiveEnd g.verts g.rev live id p → ¬ Near (cellOf g.toGeo q) (cellOf g.toGeo p))
    {id : Nat} {p : Pt} (hp : LiveEnd g.verts g.rev live id p) : sqDist q pr ≤ sqDist q p :=
  C13_global_when_empty h q (nearest_of_gen h hr) hpr hempty hp

/-- `C13_true_nearest`: when some live end is within one cell width of the query, the result is a globally closest one -/
theorem C13_gen_true_nearest (amb : Nat) {g : Grid} {live : List Nat} (h : Inv g live) (q : Pt) {r : Nat} {pr : Pt}
    (hr : Gen.grid_Index_nearest Rounding.exact amb (encGrid g) (encPt q) = .int (r : Int))
    (hpr : endPoint g.verts g.rev r = some pr)
    (hclose : ∃ id p, LiveEnd g.verts g.rev live id p ∧ sqDist q p ≤ min g.bx g.by_ * min g.bx g.by_)
    {id : Nat} {p : Pt} (hp : LiveEnd g.verts g.rev live id p) : sqDist q pr ≤ sqDist q p :=
  C13_true_nearest h q (nearest_of_gen h hr) hpr hclose hp

/-- **the property end to end, about the regenerated class alone**: construct with the regenerated `__init__`, remove the
distinct paths `ps` with the regenerated `remove_path`; every answer of the regenerated `nearest` on the resulting
instance satisfies the five clauses of the property, stated about the original vertex list -/
theorem C13_gen_history (amb : Nat) {verts : List Path} {bins : Nat} {rev : Bool} (hb : 0 < bins)
    (hext : ∃ a ∈ points verts rev, ∃ b ∈ points verts rev, a ≠ b)
    (ps : List Nat) (hnd : ps.Nodup) (hlt : ∀ p ∈ ps, p < verts.length) :
    ∃ g, genRemoveAll amb (Gen.grid_Index_init Rounding.exact amb (encPaths verts) (.int (bins : Int)) (.bool_ rev)) ps = encGrid g ∧
      g.bins = bins ∧
      ∀ live, live = (List.range verts.length).filter (fun k => k ∉ ps) → ∀ q : Pt,
        (Gen.grid_Index_nearest Rounding.exact amb (encGrid g) (encPt q) = .none_ ↔ live = []) ∧
        ∀ r : Nat, Gen.grid_Index_nearest Rounding.exact amb (encGrid g) (encPt q) = .int (r : Int) →
          ∃ pr, LiveEnd verts rev live r pr ∧
            ∀ id p, LiveEnd verts rev live id p →
              (Near (cellOf g.toGeo q) (cellOf g.toGeo p) → sqDist q pr ≤ sqDist q p) ∧
              ((∀ id' p', LiveEnd verts rev live id' p' → ¬ Near (cellOf g.toGeo q) (cellOf g.toGeo p')) →
                sqDist q pr ≤ sqDist q p) ∧
              ((∃ id' p', LiveEnd verts rev live id' p' ∧ sqDist q p' ≤ min g.bx g.by_ * min g.bx g.by_) →
                sqDist q pr ≤ sqDist q p) := by
  obtain ⟨g0, g, hg0, hg, -, hbins, hinv, hans⟩ := C13_history (rev := rev) hb hext ps hnd hlt
  refine ⟨g, by rw [init_bridge amb verts bins rev g0 hg0]; exact removeAll_bridge amb ps g0 g hg, hbins, ?_⟩
  rintro live rfl q
  exact ⟨(gen_nearest_none_iff amb hinv q).trans (hans q).1, fun r hr => (hans q).2 r (nearest_of_gen hinv hr)⟩

/-- non-vacuity: a consistent index state with a live path exists (so the regenerated `nearest` returns an identifier) -/
example (amb : Nat) : ∃ (g : Grid) (live : List Nat) (q : Pt) (r : Nat), Inv g live ∧
    Gen.grid_Index_nearest Rounding.exact amb (encGrid g) (encPt q) = .int (r : Int) := by
  obtain ⟨g, live, q, h, hne, _⟩ := witness_far
  obtain ⟨r, hn⟩ := exists_nearest h hne q
  exact ⟨g, live, q, r, h, by rw [C13_gen_nearest amb h q, hn]; rfl⟩

end Plotink
