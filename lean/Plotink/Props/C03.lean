import Plotink.Proofs.C03Sim
import Plotink.Proofs.C03Bridge
import Plotink.Proofs.ContractSqrtIeee
/-! # C03 — step-limited (LM) move duration is the first tick that exhausts the step budget

Spec: `Fw.lmSpec` (`Model/C03.lean`, built from the firmware recurrence of `Model/Firmware.lean`).
Model: `C03.calculate_lm` — exact integer model of the (repaired) `ebb_calc.calculate_lm`, same branch
structure as the code, tied to the source by the correspondence run (implementation = `Gen(ieee)` = model
on every generated input). `C03_degenerate`, `C03_legacy_mirror` and `C03_alias` are stated directly about
the generated definitions `Gen.calculate_lm` / `Gen.moveTimeLM` (regenerated from the source on every run).

The theorems come in the order of the layers of DESIGN §7 C03. -/
namespace Plotink
open Fw C03

/-- the number of motor steps taken never decreases -/
theorem C03_taken_monotone (rate accel a0 : Int) (s t : Nat) (h : s ≤ t) :
    ltTaken rate accel a0 s ≤ ltTaken rate accel a0 t :=
  ltTaken_mono rate accel a0 h

/-- the Spec's search returns `t` exactly when the budget is reached at `t` and not one tick earlier -/
theorem C03_firstTick_iff (rate accel a0 n : Int) (hn : 1 ≤ n) (fuel t : Nat) :
    lmFirstTick rate accel a0 n fuel = some t ↔
      (1 ≤ t ∧ t ≤ fuel ∧ n ≤ ltTaken rate accel a0 t ∧ ltTaken rate accel a0 (t - 1) < n) := by
  rw [lmFirstTick_eq_some_iff rate accel a0 n hn, isFirst_iff]
  exact ⟨fun ⟨⟨a, b, c⟩, d⟩ => ⟨a, d, b, c⟩, fun ⟨a, d, b, c⟩ => ⟨⟨a, b, c⟩, d⟩⟩

example : lmFirstTick 10 (-8) 0 1 5 = some 3 := by decide

/-- the linear-time simulation the driver runs for `c03 spec` is the Spec's first-tick search -/
theorem C03_spec_sim (n rate accel : Int) (acc : Option Int) (fuel : Nat) :
    lmSim n rate accel (lmStart rate accel acc) fuel = lmSpecPos n rate accel acc fuel :=
  lmSim_eq n rate accel acc fuel

/-- backward until tick `τ`, forward afterwards -/
theorem C03_taken_closed_form (rate accel a0 : Int) (τ t : Nat)
    (h1 : ∀ k : Nat, 1 ≤ k → k ≤ τ → ltRate rate accel k ≤ 0)
    (h2 : ∀ k : Nat, τ < k → 0 ≤ ltRate rate accel k) :
    ltTaken rate accel a0 t =
      ((ltPos rate accel a0 (min t τ) - ltPos rate accel a0 0).natAbs : Int) +
      ((ltPos rate accel a0 t - ltPos rate accel a0 (min t τ)).natAbs : Int) := by
  have hd : ∀ s : Nat, s ≤ τ → ltTaken rate accel a0 s = ltPos rate accel a0 0 - ltPos rate accel a0 s := by
    intro s hs
    have := ltTaken_down rate accel a0 0 s (Nat.zero_le _) (fun k hk hk' => h1 k hk (by omega))
    rw [this, ltTaken_zero]; ring
  rcases Nat.le_total t τ with h | h
  · rw [Nat.min_eq_left h]
    have a := hd t h
    have b := ltTaken_nonneg rate accel a0 t
    omega
  · rw [Nat.min_eq_right h]
    have a := hd τ (le_refl _)
    have b := ltTaken_nonneg rate accel a0 τ
    have c := ltTaken_up rate accel a0 τ t h (fun k hk _ => h2 k hk)
    have d := ltTaken_mono rate accel a0 h
    omega

/-- forward until tick `τ`, backward afterwards -/
theorem C03_taken_closed_form_mirror (rate accel a0 : Int) (τ t : Nat)
    (h1 : ∀ k : Nat, 1 ≤ k → k ≤ τ → 0 ≤ ltRate rate accel k)
    (h2 : ∀ k : Nat, τ < k → ltRate rate accel k ≤ 0) :
    ltTaken rate accel a0 t =
      ((ltPos rate accel a0 (min t τ) - ltPos rate accel a0 0).natAbs : Int) +
      ((ltPos rate accel a0 t - ltPos rate accel a0 (min t τ)).natAbs : Int) := by
  -- the mirrored move runs backward first; its positions are the negated ones and it takes the same steps
  have h := C03_taken_closed_form (-rate) (-accel) (two31 - 1 - a0) τ t
    (fun k hk hk' => by rw [ltRate_neg]; have := h1 k hk hk'; omega)
    (fun k hk => by rw [ltRate_neg]; have := h2 k hk; omega)
  simp only [ltTaken_mirror, ltPos_mirror] at h
  omega

/-- the moves of the two closed forms exist: `rate = -802, accel = 4` runs backward up to tick 201 -/
example : (∀ k : Nat, 1 ≤ k → k ≤ 201 → ltRate (-802) 4 k ≤ 0) ∧ (∀ k : Nat, 201 < k → 0 ≤ ltRate (-802) 4 k) := by
  constructor <;> intro k <;> rw [ltRate_closed] <;> simp only [tdiv] <;> omega

/-- for `a > 0` the ceiled larger root `⌈(⌈√D⌉ − k)/(2a)⌉` is the least integer `t` at/after the vertex with
`a·t² + k·t + 2c ≥ 0` -/
theorem C03_ceilRoot_spec (a k c : Int) (ha : 0 < a) (hD : 0 ≤ k * k - 8 * a * c) (t : Int) :
    cdiv (csqrt (k * k - 8 * a * c) - k) (2 * a) ≤ t ↔
      (0 ≤ 2 * a * t + k ∧ 0 ≤ a * t * t + k * t + 2 * c) :=
  big_root_spec a k c ha hD t

/-- for `a > 0` the ceiled smaller root `⌈(−⌊√D⌋ − k)/(2a)⌉` is the least integer `t` that is at/after the
vertex or has `a·t² + k·t + 2c ≤ 0` -/
theorem C03_ceilRoot_small_spec (a k c : Int) (ha : 0 < a) (hD : 0 ≤ k * k - 8 * a * c) (t : Int) :
    cdiv (-fsqrt (k * k - 8 * a * c) - k) (2 * a) ≤ t ↔
      (0 ≤ 2 * a * t + k ∨ a * t * t + k * t + 2 * c ≤ 0) :=
  small_root_spec a k c ha hD t

example : (0 : Int) < 2 ∧ (0 : Int) ≤ 3 * 3 - 8 * 2 * (-5) := by decide

/-- the model agrees on the requests that cannot move -/
theorem C03_degenerate_model (steps rate accel : Int) (acc : Option Int)
    (h : lmDegenerate steps rate accel) : C03.calculate_lm steps rate accel acc = (0, 0, 0) := by
  rw [calculate_lm_eq, if_pos h]

/-- **C03 (model).** For every request inside the property's domain — a given accumulator in `[0, 2^31)`,
the budget reached (the Spec, searched with any fuel, returns a result) and every per-tick rate up to the
reported tick within `±(2^31 − 1)` — the exact integer model of `calculate_lm` returns exactly the Spec's
`(first tick, position, accumulator)`; requests that cannot move give `(0, 0, 0)`; the legacy negative-step
form is the mirrored move. All branches: constant rate; no reversal; reversal before the first tick;
budget used up before the reversal; reversal before the first step; steps in both directions. -/
theorem C03_model (steps rate accel : Int) (acc : Option Int) (fuel : Nat) (res : Int × Int × Int)
    (hspec : lmSpec steps rate accel acc fuel = some res)
    (hv : ValidLM steps rate accel acc res.1) :
    C03.calculate_lm steps rate accel acc = res := by
  unfold lmSpec at hspec
  rw [calculate_lm_eq]
  by_cases hd : lmDegenerate steps rate accel
  · rw [if_pos hd] at hspec ⊢
    exact Option.some.inj hspec
  · rw [if_neg hd] at hspec ⊢
    unfold lmDegenerate at hd
    have hR := hv.rates
    have hacc := lmStart_range steps rate accel acc res.1 hv
    unfold eff at hR
    split_ifs at hspec hR ⊢
    · exact lmPos_correct (-steps) (-rate) (-accel) acc fuel res (by omega) (by omega) (hacc _ _) hspec hR
    · exact lmPos_correct steps rate accel acc fuel res (by omega) (by omega) (hacc _ _) hspec hR

/-- non-vacuity, and the first of the two defect witnesses of the unrepaired code (F1, F2 of DESIGN §9). F1, a
reversal right after the first tick, `(1, 10, −8, clear)`: Spec and model give `(3, −1, 2^31 − 6)` (the unrepaired
code returned `(0, 1, −2^31)`). -/
example : lmSpec 1 10 (-8) none 4 = some (3, -1, 2147483642) ∧
    C03.calculate_lm 1 10 (-8) none = (3, -1, 2147483642) ∧
    ValidLM 1 10 (-8) none 3 := by
  refine ⟨by decide +kernel, by decide +kernel, ⟨(fun a h => by cases h), (fun k hk hk' => ?_)⟩⟩
  rw [ltRate_closed]; simp only [eff, tdiv, two31]; norm_num; omega

/-- F2: the symmetric reversal `(1, −802, 4, clear)`: Spec and model give `(402, 1, 803)` (the unrepaired code
returned `(401, 1, −1)`); the Spec is evaluated through the proved-equal linear simulation -/
example : lmSpecPos 1 (-802) 4 none 500 = some (402, 1, 803) ∧
    C03.calculate_lm 1 (-802) 4 none = (402, 1, 803) := by
  rw [← C03_spec_sim]
  exact ⟨by decide +kernel, by decide +kernel⟩

/-- **Accumulator range** -/
theorem C03_acc_range (steps rate accel : Int) (acc : Option Int) (fuel : Nat) (res : Int × Int × Int)
    (hspec : lmSpec steps rate accel acc fuel = some res)
    (hv : ValidLM steps rate accel acc res.1) :
    0 ≤ (C03.calculate_lm steps rate accel acc).2.2 ∧ (C03.calculate_lm steps rate accel acc).2.2 < two31 := by
  rw [C03_model steps rate accel acc fuel res hspec hv]
  unfold lmSpec at hspec
  split_ifs at hspec
  · cases hspec; decide
  all_goals
    obtain ⟨T, _, rfl⟩ := (lmSpecPos_eq_some ..).mp hspec
    exact ⟨Int.emod_nonneg _ (by decide), Int.emod_lt_of_pos _ (by decide)⟩

/-- **Feeding the duration to the timed-move predictor**: the C01 Spec (`Fw.ltSpec`) for the (mirrored)
rate and acceleration, the same accumulator argument and the reported duration gives the reported position
and accumulator. -/
theorem C03_feeds_lt (steps rate accel : Int) (acc : Option Int) (fuel : Nat) (res : Int × Int × Int)
    (hspec : lmSpec steps rate accel acc fuel = some res)
    (hv : ValidLM steps rate accel acc res.1)
    (hnd : ¬ lmDegenerate steps rate accel) :
    ltSpec (eff steps rate) (eff steps accel) (C03.calculate_lm steps rate accel acc).1.toNat acc
      = ((C03.calculate_lm steps rate accel acc).2.1, (C03.calculate_lm steps rate accel acc).2.2) := by
  rw [C03_model steps rate accel acc fuel res hspec hv]
  unfold lmSpec at hspec
  rw [if_neg hnd] at hspec
  have key : ∀ n r a : Int, lmSpecPos n r a acc fuel = some res →
      ltSpec r a res.1.toNat acc = (res.2.1, res.2.2) := by
    intro n r a h
    obtain ⟨T, _, rfl⟩ := (lmSpecPos_eq_some ..).mp h
    obtain ⟨h0, h1⟩ := lmStart_range steps rate accel acc _ hv r a
    simp only [target, Int.toNat_natCast, pos0 r a _ h0 h1]
    cases acc <;> simp [ltSpec, lmStart, ltPos]
  unfold eff
  split_ifs at hspec ⊢ <;> exact key _ _ _ hspec

open Py Py.Val in
/-- **Requests that cannot move** report `(0, 0, 0)` — generated `calculate_lm`, any rounding, any ambient
precision, any accumulator argument. -/
theorem C03_degenerate (R : Rounding) (amb : Nat) (steps rate accel : Int) (acc : Py.Val)
    (h : lmDegenerate steps rate accel) :
    Gen.calculate_lm R amb (.int steps) (.int rate) (.int accel) acc = .tup [.int 0, .int 0, .int 0] := by
  unfold Gen.calculate_lm
  exact (early_exits steps rate accel _ _ _).trans (if_pos h)

example : lmDegenerate (-3) (-1) 7 := by decide

open Py Py.Val in
/-- **Legacy negative-step form mirrors the move** — generated `calculate_lm`: a negative step count with a
non-negative rate is the request `(n, −rate, −accel)` with the same accumulator argument. -/
theorem C03_legacy_mirror (R : Rounding) (amb : Nat) (n rate accel : Int) (acc : Py.Val)
    (hn : 0 < n) (hr : 0 ≤ rate) :
    Gen.calculate_lm R amb (.int (-n)) (.int rate) (.int accel) acc
      = Gen.calculate_lm R amb (.int n) (.int (-rate)) (.int (-accel)) acc := by
  by_cases hnz : rate = 0 ∧ accel = 0
  · rw [C03_degenerate R amb (-n) rate accel acc (Or.inr (Or.inl hnz)),
      C03_degenerate R amb n (-rate) (-accel) acc (Or.inr (Or.inl (by omega)))]
  · -- past the early exits both sides are the staged continuation at `(n, −rate, −accel)`, by `rfl`
    have hl : Gen.calculate_lm R amb (.int (-n)) (.int rate) (.int accel) acc
        = C03.G.staged R (.int (- -n)) (.int (-rate)) (.int (-accel)) acc := by
      unfold Gen.calculate_lm
      refine (early_exits (-n) rate accel _ _ _).trans ?_
      rw [if_neg (by unfold lmDegenerate; omega), if_pos (by omega)]
      rfl
    have hr : Gen.calculate_lm R amb (.int n) (.int (-rate)) (.int (-accel)) acc
        = C03.G.staged R (.int n) (.int (-rate)) (.int (-accel)) acc := by
      unfold Gen.calculate_lm
      refine (early_exits n (-rate) (-accel) _ _ _).trans ?_
      rw [if_neg (by unfold lmDegenerate; omega), if_neg (by omega)]
      rfl
    rw [hl, hr, neg_neg]

example : (0 : Int) < 5 ∧ (0 : Int) ≤ 3 := by decide

/-- the same for the model and for the Spec -/
theorem C03_legacy_mirror_model (n rate accel : Int) (acc : Option Int) (fuel : Nat) (hn : 0 < n) (hr : 0 ≤ rate) :
    C03.calculate_lm (-n) rate accel acc = C03.calculate_lm n (-rate) (-accel) acc ∧
    lmSpec (-n) rate accel acc fuel = lmSpec n (-rate) (-accel) acc fuel := by
  have d : lmDegenerate (-n) rate accel ↔ lmDegenerate n (-rate) (-accel) := by
    unfold lmDegenerate; omega
  rw [calculate_lm_eq, calculate_lm_eq]
  unfold lmSpec
  by_cases h : lmDegenerate n (-rate) (-accel)
  · simp only [if_pos h, if_pos (d.mpr h), and_self]
  · simp only [if_neg h, if_neg (mt d.mp h), if_pos (show -n < 0 by omega), if_neg (show ¬ n < 0 by omega), neg_neg,
      and_self]

open Py Py.Val in
/-- **Deprecated wrapper**: `moveTimeLM(rate, steps, accel)` is the first component of
`calculate_lm(steps, rate, accel, "clear")` — generated definitions. -/
theorem C03_alias (R : Rounding) (amb : Nat) (rate steps accel t p c : Py.Val)
    (h : Gen.calculate_lm R amb steps rate accel (.str "clear") = .tup [t, p, c]) :
    Gen.moveTimeLM R amb rate steps accel = t := by
  unfold Gen.moveTimeLM
  simp only [h, Py.unpackN_tup3, Py.getItem_cons_zero]

example : ∃ t p c, Gen.calculate_lm Rounding.exact 15 (.int 0) (.int 1) (.int 1) (.str "clear") = .tup [t, p, c] :=
  ⟨_, _, _, C03_degenerate Rounding.exact 15 0 1 1 _ (Or.inl rfl)⟩

/-! ## Layer 5: the numeric bridge — the generated code computes the exact integer model

Under the rounding contract (`Proofs/Contract.lean`: exactness, round-to-nearest error bound and monotonicity
for binary64 and `mp`, and `sqrt_sq`/`sqrt_exact` for the square root) the definition the translator
regenerates from `ebb_calc.calculate_lm` on every run returns exactly the triple of the exact integer model,
for every request in the magnitude envelope `BridgeDom` (|rate|, |accel| ≤ 2^32, |steps| ≤ 2^31, a given
accumulator in [0, 2^31)), whatever the ambient `mp.dps`. No reachability or rate-range hypothesis is needed. -/

open C03 in
/-- **C03 bridge (every branch).** -/
theorem C03_bridge {R : Rounding} (hR : Contract R) (amb : Nat) (steps rate accel : Int) (acc : Option Int)
    (hd : BridgeDom steps rate accel acc) :
    Gen.calculate_lm R amb (.int steps) (.int rate) (.int accel) (accArg acc)
      = tupOf (C03.calculate_lm steps rate accel acc) := by
  -- after the early exits the generated function is the staged composition of its blocks: definitional
  have gen_staged : ∀ (n r a : Int) (av : Py.Val), 0 < n → ¬ (a = 0 ∧ r = 0) →
      Gen.calculate_lm R amb (.int n) (.int r) (.int a) av = G.staged R (.int n) (.int r) (.int a) av := by
    intro n r a av hn hnz
    unfold Gen.calculate_lm
    refine (early_exits n r a _ _ _).trans ?_
    rw [if_neg (by unfold lmDegenerate; omega), if_neg (by omega)]
    rfl
  obtain ⟨hs, hr, ha, hacc⟩ := hd
  rw [calculate_lm_eq]
  by_cases hdeg : lmDegenerate steps rate accel
  · rw [C03_degenerate R amb steps rate accel _ hdeg, if_pos hdeg]; rfl
  · rw [if_neg hdeg]
    unfold lmDegenerate at hdeg
    rw [abs_le] at hs
    by_cases hneg : steps < 0
    · have hm := C03_legacy_mirror R amb (-steps) rate accel (accArg acc) (by omega) (by omega)
      rw [neg_neg] at hm
      rw [if_pos hneg, hm, gen_staged (-steps) (-rate) (-accel) _ (by omega) (by omega)]
      exact bridge_pos hR (-steps) (-rate) (-accel) acc (by omega) (by omega) (by omega)
        (by rwa [abs_neg]) (by rwa [abs_neg]) hacc
    · rw [if_neg hneg, gen_staged steps rate accel _ (by omega) (by omega)]
      exact bridge_pos hR steps rate accel acc (by omega) (by omega) (by omega) hr ha hacc

example : BridgeDom 1 (-802) 4 none := ⟨by norm_num, by norm_num, by norm_num, fun a h => by cases h⟩

open C03 in
/-- `C03_bridge` at `accel = 0`, the constant-rate branch: one `mp` division, `ceil`, and the final accumulator -/
theorem C03_bridge_linear {R : Rounding} (hR : Contract R) (amb : Nat) (steps rate : Int) (acc : Option Int)
    (hd : BridgeDom steps rate 0 acc) :
    Gen.calculate_lm R amb (.int steps) (.int rate) (.int 0) (accArg acc)
      = tupOf (C03.calculate_lm steps rate 0 acc) := C03_bridge hR amb steps rate 0 acc hd

example : BridgeDom 5 300 0 (some 7) :=
  ⟨by norm_num, by norm_num, by norm_num, fun a h => by cases h; norm_num⟩

open C03 in
/-- `C03_bridge` read for accelerated moves without a reversal in play (the model's "no reversal" test holds): square
root via the contract, ceil-no-flip. The hypotheses that name the branch are not used. -/
theorem C03_bridge_noreversal {R : Rounding} (hR : Contract R) (amb : Nat) (steps rate accel : Int)
    (acc : Option Int) (hd : BridgeDom steps rate accel acc) (_ha : accel ≠ 0) (_hs : 0 < steps)
    (_hnr : noRev steps rate accel (startAcc rate accel acc)) :
    Gen.calculate_lm R amb (.int steps) (.int rate) (.int accel) (accArg acc)
      = tupOf (C03.calculate_lm steps rate accel acc) := C03_bridge hR amb steps rate accel acc hd

example : BridgeDom 3 100 7 none ∧ (7 : Int) ≠ 0 ∧ noRev 3 100 7 (startAcc 100 7 none) :=
  ⟨⟨by norm_num, by norm_num, by norm_num, fun a h => by cases h⟩, by decide, by decide⟩

open C03 in
/-- `C03_bridge` read for moves with a reversal in play (reversal before the first step, or steps in both directions),
including the binary64 `t_rev = floor(0.5 − rate/accel)`. The hypotheses that name the branch are not used. -/
theorem C03_bridge_reversal {R : Rounding} (hR : Contract R) (amb : Nat) (steps rate accel : Int)
    (acc : Option Int) (hd : BridgeDom steps rate accel acc) (_hs : 0 < steps)
    (_hrev : ¬ noRev steps rate accel (startAcc rate accel acc)) :
    Gen.calculate_lm R amb (.int steps) (.int rate) (.int accel) (accArg acc)
      = tupOf (C03.calculate_lm steps rate accel acc) := C03_bridge hR amb steps rate accel acc hd

example : BridgeDom 1 (-802) 4 none ∧ ¬ noRev 1 (-802) 4 (startAcc (-802) 4 none) :=
  ⟨⟨by norm_num, by norm_num, by norm_num, fun a h => by cases h⟩, by decide⟩

open C03 in
/-- **C03 for the source-regenerated code.** On the property's domain (Spec result exists, rates in range up to
it) and inside the envelope, the generated `calculate_lm` returns the Spec's
`(first tick, position, accumulator)`. -/
theorem C03_main {R : Rounding} (hR : Contract R) (amb : Nat) (steps rate accel : Int) (acc : Option Int)
    (fuel : Nat) (res : Int × Int × Int)
    (hd : BridgeDom steps rate accel acc)
    (hspec : lmSpec steps rate accel acc fuel = some res)
    (hv : ValidLM steps rate accel acc res.1) :
    Gen.calculate_lm R amb (.int steps) (.int rate) (.int accel) (accArg acc) = tupOf res := by
  rw [C03_bridge hR amb steps rate accel acc hd, C03_model steps rate accel acc fuel res hspec hv]

open C03 in
/-- the deprecated wrapper, source-regenerated: `moveTimeLM` returns the Spec's first tick -/
theorem C03_main_moveTimeLM {R : Rounding} (hR : Contract R) (amb : Nat) (steps rate accel : Int)
    (fuel : Nat) (res : Int × Int × Int)
    (hd : BridgeDom steps rate accel none)
    (hspec : lmSpec steps rate accel none fuel = some res)
    (hv : ValidLM steps rate accel none res.1) :
    Gen.moveTimeLM R amb (.int rate) (.int steps) (.int accel) = .int res.1 :=
  C03_alias R amb _ _ _ _ _ _ (C03_main hR amb steps rate accel none fuel res hd hspec hv)

/-- and the model's wrapper -/
theorem C03_alias_model (rate steps accel : Int) :
    C03.moveTimeLM rate steps accel = (C03.calculate_lm steps rate accel none).1 := rfl

/-- non-vacuity of the rounding hypothesis `Contract R` of `C03_bridge` / `C03_main`: the concrete
IEEE / mpmath round-to-nearest instance (including its correctly rounded square root), which the driver
executes and every run compares with CPython/mpmath, satisfies the full contract -/
theorem C03_contract_ieee : Contract Rounding.ieee := contract_ieee

/-- **argument type of the start accumulator, regenerated code**: a float start accumulator is the integer `int()` makes
of it, never `"clear"` (`rfl` on the regenerated definition). -/
theorem C03_gen_acc_float (R : Rounding) (amb : Nat) (steps rate accel : Py.Val) (q : Rat) :
    Gen.calculate_lm R amb steps rate accel (.flt q) = Gen.calculate_lm R amb steps rate accel (.int (Py.intOfRat q)) := by rfl

end Plotink
