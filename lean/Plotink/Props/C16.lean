import Plotink.Proofs.C16Spec
import Plotink.Proofs.C16GenBridge
/-! # C16 — board-state round trips through the EBB3 layer are faithful

`World` = the `EBB3` object's relevant fields + the board (`Model/C16.lean`); the methods are the statement-by-statement
models of `var_write_int32`, `var_read_int32`, `write_nickname`, `query_nickname`, `motors_enable`,
`motors_query_enabled` over a conforming link to the documented board `boardStep`.
`Ready w` = connected, no recorded error; `Board.WF` = 32 slots of 0..255, mode 1..5;
`Inv w` = `Ready w` ∧ `w.board.WF` ∧ the stored name does not contain `Err:` (it may have edge blanks);
`OpOK` = arguments inside the property's quantifier (int32 × slot 0..28, byte × slot 0..31, any integer resolutions,
`NickOK` nicknames). All definitions are in `Model/C16.lean`. -/
namespace Plotink
open C16

/-- **int32 round trip.** Every signed 32-bit value written at any slot 0..28 of any well-formed board: the write
succeeds, the four slots hold the big-endian two's-complement bytes (each 0..255), every other slot, the name and the
motor state are unchanged, and reading it back returns the value. -/
theorem C16_int32 (w : World) (hr : Ready w) (hwf : w.board.WF) (v i : Int) (hv : IsInt32 v) (hi : 0 ≤ i ∧ i ≤ 28) :
    ∃ w1 w2,
      var_write_int32 w v i = .ok (.bool true, w1) ∧
      (∀ k, k < 4 → w1.board.vars[i.toNat + k]? = some (Spec.beByte v k) ∧ Spec.beByte v k ≤ 255) ∧
      (∀ j, (j < i.toNat ∨ i.toNat + 4 ≤ j) → w1.board.vars[j]? = w.board.vars[j]?) ∧
      w1.board.name = w.board.name ∧ w1.board.m1 = w.board.m1 ∧ w1.board.m2 = w.board.m2 ∧
      w1.board.mode = w.board.mode ∧ w1.py = w.py ∧
      var_read_int32 w1 i = .ok (.int v, w2) ∧ w2.board = w1.board ∧ w2.py = w1.py := by
  obtain ⟨n, rfl⟩ := Int.eq_ofNat_of_zero_le hi.1
  have hn : n ≤ 28 := by omega
  have hlen : n + 3 < w.board.vars.length := by rw [hwf.len]; omega
  have hw1 := boardAfter_wf hwf (w32Reqs v n)
  have hb1 : (w.after (w32Reqs v n)).board = { w.board with vars := Spec.setBytes w.board.vars n v } :=
    after_opReqs hwf none (.writeInt32 v n) ⟨hv, hi⟩
  have hb : ∀ k, k < 4 → (w.after (w32Reqs v n)).board.vars[n + k]? = some (Spec.beByte v k) :=
    fun k hk => by rw [hb1]; exact setBytes_in v hlen hk
  have h2 := var_read_int32_after (w := w.after (w32Reqs v n)) hr hw1 hn
  have e := spec_readInt32 (s := ⟨boardAfter w.board (w32Reqs v n), none⟩) (i := n) hv hb
  refine ⟨_, _, var_write_int32_after hr hwf hv hn, fun k hk => ⟨hb k hk, beByte_le _ _⟩, ?_, ?_, ?_, ?_, ?_, rfl,
    h2.trans (congrArg (fun x => Except.ok (x, _)) (congrArg Prod.fst e)),
    after_opReqs hw1 none (.readInt32 n) hi, rfl⟩
  all_goals rw [hb1]
  · exact fun j hj => setBytes_out v hj
  all_goals rfl

example :=
  C16_int32 exampleWorld exampleWorld_inv.1 exampleWorld_inv.2.1 (-2) 5 (by unfold IsInt32; omega) (by omega)

/-- **int32 round trip under interleaving.** After the write, any sequence of in-domain operations that do not write
the four slots (single-slot writes and int32 writes elsewhere, any reads, motor requests, nickname operations) leaves
the value readable: the final read returns `v` and the four slots still hold its bytes. -/
theorem C16_int32_frame (w : World) (hinv : Inv w) (v i : Int) (hv : IsInt32 v) (hi : 0 ≤ i ∧ i ≤ 28)
    (ops : List Op) (hops : ∀ op ∈ ops, OpOK op ∧ Disjoint i.toNat op) :
    ∃ vals w',
      runOps w (.writeInt32 v i :: ops ++ [.readInt32 i]) = .ok (vals, w') ∧
      vals.head? = some (.bool true) ∧ vals.getLast? = some (.int v) ∧
      (∀ k, k < 4 → w'.board.vars[i.toNat + k]? = some (Spec.beByte v k)) ∧ Inv w' := by
  obtain ⟨w', h1, e1, i1⟩ := runOps_refines _ w hinv (opOK_int32_frame hv hi hops)
  have hlen : i.toNat + 3 < w.board.vars.length := by rw [hinv.2.1.len]; omega
  obtain ⟨hhead, hlast, hslots⟩ := spec_int32_frame ⟨w.board, w.py.name⟩ hv hlen (fun o ho => (hops o ho).2)
  rw [← e1] at hslots
  exact ⟨_, w', h1, hhead, hlast, hslots, i1⟩

example :=
  C16_int32_frame exampleWorld exampleWorld_inv (-2147483648) 28 (by unfold IsInt32; omega) (by omega)
    [.varWrite 255 27, .writeInt32 7 0, .motorsEnable 0 3, .writeNick ['a']] (by
    intro op hop
    simp only [List.mem_cons, List.not_mem_nil, or_false] at hop
    rcases hop with rfl | rfl | rfl | rfl
    · exact ⟨⟨by omega, by omega⟩, by simp [Disjoint]⟩
    · exact ⟨⟨by unfold IsInt32; omega, by omega⟩, by simp [Disjoint]⟩
    · exact ⟨trivial, trivial⟩
    · exact ⟨⟨by decide, by decide, by decide⟩, trivial⟩)

/-- **nickname round trip.** For a nickname inside `NickOK` (a condition on the TRIMMED name `strip s` only: ≤ 16
characters, printable ASCII, no `Err:` — the raw argument may have any amount of leading/trailing whitespace)
the write succeeds, the board stores the trimmed name, nothing else on the board changes, and a following
`query_nickname` sets `self.name` to the trimmed name whatever `self.name` was before the query. -/
theorem C16_nick (w : World) (hr : Ready w) (s : Str) (hs : NickOK s) :
    ∃ w1,
      write_nickname w s = .ok (.bool true, w1) ∧
      w1.board.name = strip s ∧ w1.py.name = some (strip s) ∧ w1.py.err = false ∧
      w1.board.vars = w.board.vars ∧ w1.board.m1 = w.board.m1 ∧ w1.board.m2 = w.board.m2 ∧
      w1.board.mode = w.board.mode ∧
      ∀ nm : Option Str, ∃ w2,
        query_nickname ⟨{ w1.py with name := nm }, w1.board, w1.sent⟩ = .ok (.none, w2) ∧
        w2.py.name = some (strip s) ∧ w2.py.err = false ∧ w2.board = w1.board := by
  have h1 := write_nickname_after hr hs
  rw [World.after, (exch_ST _ hs).after, boardAfter_nil] at h1
  refine ⟨_, h1, rfl, rfl, hr.2, rfl, rfl, rfl, rfl, fun nm => ?_⟩
  have h2 := query_nickname_after
    (w := ⟨⟨w.py.connected, w.py.err, nm⟩, { w.board with name := strip s }, (cST ++ ',' :: strip s) :: w.sent⟩) hr hs.2.2
  rw [World.after, after_QT, boardAfter_nil, strip_strip] at h2
  exact ⟨_, h2, rfl, hr.2, rfl⟩

example :=
  C16_nick exampleWorld exampleWorld_inv.1 [' ', 'A', 'x', ' ', '1', '\n'] ⟨by decide, by decide, by decide⟩

/-- raw length 18 > 16 is inside `NickOK`: only the trimmed name (16 characters here) is constrained -/
example :=
  C16_nick exampleWorld exampleWorld_inv.1
    [' ', ' ', 'A', 'B', 'C', 'D', 'E', 'F', 'G', 'H', 'I', 'J', 'K', 'L', 'M', 'N', 'O', 'P']
    ⟨by decide, by decide, by decide⟩

/-- **motor enables.** From every prior board state (any enables, any mode 1..5) and for all integers `r1 r2`:
motor 1 is enabled iff `clamp r1 ≠ 0`, motor 2 iff `clamp r2 ≠ 0`; the global mode is the requested non-zero resolution
(motor 1's when given, else motor 2's — also when only motor 2 is enabled), unchanged when both are off; variables and
name are untouched; and `motors_query_enabled` reports exactly that. -/
theorem C16_motors (w : World) (hr : Ready w) (hm : 1 ≤ w.board.mode ∧ w.board.mode ≤ 5) (r1 r2 : Int) :
    ∃ w1 w2,
      motors_enable w r1 r2 = .ok (.none, w1) ∧
      (w1.board.m1 = true ↔ Spec.clamp r1 ≠ 0) ∧ (w1.board.m2 = true ↔ Spec.clamp r2 ≠ 0) ∧
      (Spec.clamp r1 ≠ 0 → (w1.board.mode : Int) = Spec.clamp r1) ∧
      (Spec.clamp r1 = 0 → Spec.clamp r2 ≠ 0 → (w1.board.mode : Int) = Spec.clamp r2) ∧
      (Spec.clamp r1 = 0 → Spec.clamp r2 = 0 → w1.board.mode = w.board.mode) ∧
      w1.board.vars = w.board.vars ∧ w1.board.name = w.board.name ∧ w1.py = w.py ∧
      motors_query_enabled w1 = .ok (some ((if Spec.clamp r1 ≠ 0 then (w1.board.mode : Int) else 0),
        (if Spec.clamp r2 ≠ 0 then (w1.board.mode : Int) else 0)), w2) ∧
      w2.board = w1.board ∧ w2.py = w1.py := by
  have hc1 := clamp_range r1
  have hc2 := clamp_range r2
  obtain ⟨hm1, hm2, hm0, hmode⟩ := meBoard_mode w.board hm hc1 hc2
  obtain ⟨w1, h1, hb, hp⟩ : ∃ w1, motors_enable w r1 r2 = .ok (.none, w1) ∧
      w1.board = meBoard w.board (Spec.clamp r1) (Spec.clamp r2) ∧ w1.py = w.py :=
    ⟨_, motors_enable_after hr hm r1 r2, after_meReqs _ hc1 hc2, rfl⟩
  have h2 : motors_query_enabled w1 = .ok (some (qeRes w1.board), w1.after [cQE]) :=
    motors_query_enabled_after (by rw [Ready, hp]; exact hr) [] (hb ▸ hmode)
  rw [hb] at h2
  refine ⟨w1, w1.after [cQE], h1, ?_, ?_, ?_, ?_, ?_, ?_, ?_, hp, ?_, (exch_QE _).after [], rfl⟩
  all_goals rw [hb]
  exact decide_eq_true_iff
  exact decide_eq_true_iff
  exact hm1
  exact hm2
  exact hm0
  rfl
  rfl
  exact h2.trans (by simp only [qeRes, meBoard_m1, meBoard_m2, decide_eq_true_eq])

example :=
  C16_motors exampleWorld exampleWorld_inv.1 (by decide) 0 9

/-- **arbitrary sequences.** Any sequence of in-domain operations, from any world satisfying `Inv`: no exception, no
recorded error, the returned values and the final board / `self.name` are those of the specification `Spec.steps`
(the abstract semantics written from the property statement), and `Inv` holds again. -/
theorem C16_sequences (w : World) (hinv : Inv w) (ops : List Op) (hops : ∀ op ∈ ops, OpOK op) :
    ∃ w', runOps w ops = .ok ((Spec.steps ⟨w.board, w.py.name⟩ ops).1, w') ∧
      (⟨w'.board, w'.py.name⟩ : Spec.Abs) = (Spec.steps ⟨w.board, w.py.name⟩ ops).2 ∧ Inv w' :=
  runOps_refines ops w hinv hops

example :=
  C16_sequences exampleWorld exampleWorld_inv [.motorsEnable 7 (-1), .motorsQuery, .queryNick] (by
    intro op hop
    simp only [List.mem_cons, List.not_mem_nil, or_false] at hop
    rcases hop with rfl | rfl | rfl <;> trivial)



section Regenerated
open PyObj Gen

/-! ## The same properties about the REGENERATED methods

`Gen.EBB3_var_write_int32`, `Gen.EBB3_var_read_int32`, `Gen.EBB3_var_write`, `Gen.EBB3_var_read`,
`Gen.EBB3_write_nickname`, `Gen.EBB3_query_nickname`, `Gen.EBBMotionWrap_motors_enable`,
`Gen.EBBMotionWrap_motors_query_enabled` are regenerated from `plotink/ebb3_serial.py` / `ebb3_motion.py` on every run
(`translator/pyio2lean.py`, runtime `PyObj.lean`). They talk to a port SCRIPT; the script-producing device is defined
from the trusted board: `boardReads b reqs` = the reply lines of `boardRecv` to the request lines `reqs` in order,
`boardAfter b reqs` = the board after them (`Proofs/C16Link.lean`). Every theorem below says: on the script the board
produces for `reqs`, the regenerated method writes exactly `reqs` (each with its CR — so the script *is* the board's
answer to what the code wrote), consumes exactly those replies (`tl` is left), returns the required value and leaves the
object as required; the board-state claims are about `boardAfter b reqs`. `ReadyObj obj` = `port` is a port object and
`err is None`; all writes succeed (`writes = []`). Fuel ≥ 1 suffices (no retry is needed on a conforming link). -/

/-- **int32 round trip, regenerated code.** -/
theorem C16_gen_int32 (b : Board) (hwf : b.WF) (obj : EBB3_Obj) (hobj : ReadyObj obj) (v i : Int) (hv : IsInt32 v)
    (hi : 0 ≤ i ∧ i ≤ 28) :
    ∃ reqsW reqsR,
      (∀ (fuel : Nat) (ext : Ext) (tl : List PyIO.Rd) (log : List (List Char)) (n : Nat),
        EBB3_var_write_int32 (fuel + 1) (.int v) (.int i) ⟨obj, ⟨boardReads b reqsW ++ tl, [], log, n⟩, ext⟩ =
          .val (.bool true) ⟨obj, ⟨tl, [], log ++ reqsW.map (· ++ ['\r']), n + reqsW.length⟩, ext⟩) ∧
      (∀ k, k < 4 → (boardAfter b reqsW).vars[i.toNat + k]? = some (Spec.beByte v k) ∧ Spec.beByte v k ≤ 255) ∧
      (∀ j, (j < i.toNat ∨ i.toNat + 4 ≤ j) → (boardAfter b reqsW).vars[j]? = b.vars[j]?) ∧
      (boardAfter b reqsW).name = b.name ∧ (boardAfter b reqsW).m1 = b.m1 ∧ (boardAfter b reqsW).m2 = b.m2 ∧
      (boardAfter b reqsW).mode = b.mode ∧
      (∀ (fuel : Nat) (ext : Ext) (tl : List PyIO.Rd) (log : List (List Char)) (n : Nat),
        EBB3_var_read_int32 (fuel + 1) (.int i) ⟨obj, ⟨boardReads (boardAfter b reqsW) reqsR ++ tl, [], log, n⟩, ext⟩ =
          .val (.int v) ⟨obj, ⟨tl, [], log ++ reqsR.map (· ++ ['\r']), n + reqsR.length⟩, ext⟩) ∧
      boardAfter (boardAfter b reqsW) reqsR = boardAfter b reqsW := by
  obtain ⟨reqsW, hbW, hwfW, hgW⟩ := gen_op_spec b none hwf (.writeInt32 v i) ⟨hv, hi⟩ nofun obj hobj
  obtain ⟨reqsR, hbR, _, hgR⟩ := gen_op_spec (boardAfter b reqsW) none hwfW (.readInt32 i) hi nofun obj hobj
  have hbW : boardAfter b reqsW = { b with vars := Spec.setBytes b.vars i.toNat v } := hbW
  have hlen : i.toNat + 3 < b.vars.length := by rw [hwf.len]; omega
  have hbytes : ∀ k, k < 4 → (boardAfter b reqsW).vars[i.toNat + k]? = some (Spec.beByte v k) :=
    fun k hk => by rw [hbW]; exact setBytes_in v hlen hk
  rw [spec_readInt32 (s := ⟨boardAfter b reqsW, none⟩) hv hbytes] at hbR hgR
  exact ⟨reqsW, reqsR, hgW, fun k hk => ⟨hbytes k hk, beByte_le _ _⟩, fun j hj => by rw [hbW]; exact setBytes_out v hj,
    by rw [hbW], by rw [hbW], by rw [hbW], by rw [hbW], hgR, hbR⟩

/-- **nickname round trip, regenerated code** (the read-back is shown for any ready object `obj2`, whatever its `name`). -/
theorem C16_gen_nick (b : Board) (obj : EBB3_Obj) (hobj : ReadyObj obj) (s : C16.Str) (hs : NickOK s) :
    ∃ reqs,
      (∀ (fuel : Nat) (ext : Ext) (tl : List PyIO.Rd) (log : List (List Char)) (n : Nat),
        EBB3_write_nickname (fuel + 1) (.str s) ⟨obj, ⟨boardReads b reqs ++ tl, [], log, n⟩, ext⟩ =
          .val (.bool true) ⟨{ obj with name := .str (strip s) },
            ⟨tl, [], log ++ reqs.map (· ++ ['\r']), n + reqs.length⟩, ext⟩) ∧
      (boardAfter b reqs).name = strip s ∧ (boardAfter b reqs).vars = b.vars ∧ (boardAfter b reqs).m1 = b.m1 ∧
      (boardAfter b reqs).m2 = b.m2 ∧ (boardAfter b reqs).mode = b.mode ∧
      ∀ (obj2 : EBB3_Obj), ReadyObj obj2 →
        ∀ (fuel : Nat) (ext : Ext) (tl : List PyIO.Rd) (log : List (List Char)) (n : Nat),
          EBB3_query_nickname (fuel + 1) ⟨obj2, ⟨boardReads (boardAfter b reqs) [cQT] ++ tl, [], log, n⟩, ext⟩ =
            .val .none ⟨{ obj2 with name := .str (strip s) }, ⟨tl, [], log ++ [cQT ++ ['\r']], n + 1⟩, ext⟩ ∧
          boardAfter (boardAfter b reqs) [cQT] = boardAfter b reqs := by
  refine ⟨[cST ++ ',' :: strip s], fun fuel ext tl log n => gen_write_nickname fuel ⟨obj, hobj, ext, log, n⟩ b tl hs, ?_⟩
  rw [(exch_ST b hs).after]
  refine ⟨rfl, rfl, rfl, rfl, rfl, fun obj2 hobj2 fuel ext tl log n => ⟨?_, after_QT _ []⟩⟩
  have := gen_query_nickname fuel ⟨obj2, hobj2, ext, log, n⟩ { b with name := strip s } tl
    (isAscii_of_printable hs.2.1) hs.2.2
  rw [strip_strip] at this
  exact this

/-- **motor enables, regenerated code**: for every prior well-formed board and all integers `r1 r2`. -/
theorem C16_gen_motors (b : Board) (hwf : b.WF) (obj : EBB3_Obj) (hobj : ReadyObj obj) (r1 r2 : Int) :
    ∃ reqs,
      (∀ (fuel : Nat) (ext : Ext) (tl : List PyIO.Rd) (log : List (List Char)) (n : Nat),
        EBBMotionWrap_motors_enable (fuel + 1) (.int r1) (.int r2) ⟨obj, ⟨boardReads b reqs ++ tl, [], log, n⟩, ext⟩ =
          .val .none ⟨obj, ⟨tl, [], log ++ reqs.map (· ++ ['\r']), n + reqs.length⟩, ext⟩) ∧
      ((boardAfter b reqs).m1 = true ↔ Spec.clamp r1 ≠ 0) ∧ ((boardAfter b reqs).m2 = true ↔ Spec.clamp r2 ≠ 0) ∧
      (Spec.clamp r1 ≠ 0 → ((boardAfter b reqs).mode : Int) = Spec.clamp r1) ∧
      (Spec.clamp r1 = 0 → Spec.clamp r2 ≠ 0 → ((boardAfter b reqs).mode : Int) = Spec.clamp r2) ∧
      (Spec.clamp r1 = 0 → Spec.clamp r2 = 0 → (boardAfter b reqs).mode = b.mode) ∧
      (boardAfter b reqs).vars = b.vars ∧ (boardAfter b reqs).name = b.name ∧
      (∀ (fuel : Nat) (ext : Ext) (tl : List PyIO.Rd) (log : List (List Char)) (n : Nat),
        EBBMotionWrap_motors_query_enabled (fuel + 1)
            ⟨obj, ⟨boardReads (boardAfter b reqs) [cQE] ++ tl, [], log, n⟩, ext⟩ =
          .val (.tuple [.int (if Spec.clamp r1 ≠ 0 then ((boardAfter b reqs).mode : Int) else 0),
                        .int (if Spec.clamp r2 ≠ 0 then ((boardAfter b reqs).mode : Int) else 0)])
            ⟨obj, ⟨tl, [], log ++ [cQE ++ ['\r']], n + 1⟩, ext⟩) ∧
      boardAfter (boardAfter b reqs) [cQE] = boardAfter b reqs := by
  obtain ⟨hm1, hm2, hm0, hmr⟩ := meBoard_mode b hwf.mode (clamp_range r1) (clamp_range r2)
  refine ⟨meReqs b (Spec.clamp r1) (Spec.clamp r2),
    fun fuel ext tl log n => gen_motors_enable fuel ⟨obj, hobj, ext, log, n⟩ hwf.mode r1 r2 tl, ?_⟩
  rw [after_meReqs b (clamp_range r1) (clamp_range r2)]
  refine ⟨decide_eq_true_iff, decide_eq_true_iff, hm1, hm2, hm0, rfl, rfl, fun fuel ext tl log n => ?_, (exch_QE _).after []⟩
  refine (gen_motors_query_enabled fuel ⟨obj, hobj, ext, log, n⟩ hmr [] tl).trans ?_
  simp only [qeRes, meBoard_m1, meBoard_m2, decide_eq_true_eq]
  rfl


/-- **arbitrary sequences, regenerated code.** A history of in-domain operations on the regenerated methods returns the
values of `Spec.steps`, drives the board to the state of `Spec.steps`, keeps `self.name` as `Spec.steps` says, never raises
and never runs out of fuel (`genRunOps … = some …`). -/
theorem C16_gen_sequences (b : Board) (nm : Option C16.Str) (hwf : b.WF) (herr : isInfix sErr b.name = false)
    (hasc : PyIO.isAscii b.name = true) (ops : List Op) (hops : ∀ op ∈ ops, OpOK op)
    (obj : EBB3_Obj) (hobj : ReadyObj obj) (hname : obj.name = encName nm) :
    ∃ reqs obj',
      (∀ (fuel : Nat) (ext : Ext) (tl : List PyIO.Rd) (log : List (List Char)) (n : Nat),
        genRunOps (fuel + 1) ops ⟨obj, ⟨boardReads b reqs ++ tl, [], log, n⟩, ext⟩ =
          some ((Spec.steps ⟨b, nm⟩ ops).1.map encVal,
            ⟨obj', ⟨tl, [], log ++ reqs.map (· ++ ['\r']), n + reqs.length⟩, ext⟩)) ∧
      boardAfter b reqs = (Spec.steps ⟨b, nm⟩ ops).2.board ∧
      obj'.name = encName (Spec.steps ⟨b, nm⟩ ops).2.pyName ∧ ReadyObj obj' ∧
      (boardAfter b reqs).WF ∧ isInfix sErr (boardAfter b reqs).name = false ∧
      PyIO.isAscii (boardAfter b reqs).name = true := by
  have hinv : InvG (readyWorld b nm) := ⟨⟨⟨rfl, rfl⟩, hwf, herr⟩, hasc⟩
  obtain ⟨reqs, vals, py', obj', hm, ⟨hr', hn'⟩, hinv', hg⟩ := gen_ops_bridge ops (readyWorld b nm) hinv hops obj hobj hname
  obtain ⟨w', hs, es, _⟩ := runOps_refines ops (readyWorld b nm) hinv.1 hops
  cases hm.symm.trans hs
  exact ⟨reqs, obj', hg, congrArg Spec.Abs.board es, hn'.trans (congrArg (encName ·.pyName) es), hr', hinv'.1.2.1,
    hinv'.1.2.2, hinv'.2⟩

/-- **int32 round trip under interleaving, regenerated code.** -/
theorem C16_gen_int32_frame (b : Board) (nm : Option C16.Str) (hwf : b.WF) (herr : isInfix sErr b.name = false)
    (hasc : PyIO.isAscii b.name = true) (v i : Int) (hv : IsInt32 v) (hi : 0 ≤ i ∧ i ≤ 28)
    (ops : List Op) (hops : ∀ op ∈ ops, OpOK op ∧ Disjoint i.toNat op)
    (obj : EBB3_Obj) (hobj : ReadyObj obj) (hname : obj.name = encName nm) :
    ∃ reqs vals obj',
      (∀ (fuel : Nat) (ext : Ext) (tl : List PyIO.Rd) (log : List (List Char)) (n : Nat),
        genRunOps (fuel + 1) (.writeInt32 v i :: ops ++ [.readInt32 i]) ⟨obj, ⟨boardReads b reqs ++ tl, [], log, n⟩, ext⟩ =
          some (vals, ⟨obj', ⟨tl, [], log ++ reqs.map (· ++ ['\r']), n + reqs.length⟩, ext⟩)) ∧
      vals.head? = some (.bool true) ∧ vals.getLast? = some (.int v) ∧
      (∀ k, k < 4 → (boardAfter b reqs).vars[i.toNat + k]? = some (Spec.beByte v k)) := by
  obtain ⟨reqs, obj', hg, hb, _⟩ :=
    C16_gen_sequences b nm hwf herr hasc _ (opOK_int32_frame hv hi hops) obj hobj hname
  have hlen : i.toNat + 3 < b.vars.length := by rw [hwf.len]; omega
  obtain ⟨hhead, hlast, hslots⟩ := spec_int32_frame ⟨b, nm⟩ hv hlen (fun o ho => (hops o ho).2)
  rw [← hb] at hslots
  exact ⟨reqs, _, obj', hg, by rw [List.head?_map, hhead]; rfl, by rw [List.getLast?_map, hlast]; rfl, hslots⟩

/-- the single-call bridge as an obligation of the property (see `C16.gen_op_bridge`) -/
theorem C16_gen_bridge (w : C16.World) (hr : Ready w) (hwf : w.board.WF) (op : Op) (hop : OpOK op) (hnm : NameReq w op)
    (obj : EBB3_Obj) (hready : ReadyObj obj) :
    ∃ reqs v py',
      runOp w op = .ok (v, ⟨py', boardAfter w.board reqs, reqs.reverse ++ w.sent⟩) ∧
      (obj.name = encName w.py.name → (objAfter obj w.board op).name = encName py'.name) ∧
      ∀ (fuel : Nat) (ext : Ext) (tl : List PyIO.Rd) (log : List (List Char)) (n : Nat),
        genOp (fuel + 1) op ⟨obj, ⟨boardReads w.board reqs ++ tl, [], log, n⟩, ext⟩ =
          .val (encVal v) ⟨objAfter obj w.board op, ⟨tl, [], log ++ reqs.map (· ++ ['\r']), n + reqs.length⟩, ext⟩ :=
  gen_op_bridge w hr hwf op hop hnm obj hready


example := C16_gen_int32 exampleWorld.board exampleWorld_inv.2.1 exampleObj exampleObj_ready (-2) 5
  (by unfold IsInt32; omega) (by omega)
example := C16_gen_motors exampleWorld.board exampleWorld_inv.2.1 exampleObj exampleObj_ready 0 9
example := C16_gen_nick exampleWorld.board exampleObj exampleObj_ready
  [' ', ' ', 'A', 'B', 'C', 'D', 'E', 'F', 'G', 'H', 'I', 'J', 'K', 'L', 'M', 'N', 'O', 'P'] ⟨by decide, by decide, by decide⟩
example := C16_gen_sequences exampleWorld.board none exampleWorld_inv.2.1 (by decide) (by decide)
  [.motorsEnable 7 (-1), .motorsQuery, .queryNick] (by
    intro op hop
    simp only [List.mem_cons, List.not_mem_nil, or_false] at hop
    rcases hop with rfl | rfl | rfl <;> trivial) exampleObj exampleObj_ready rfl

end Regenerated

open PyObj Gen in
/-- **request types, regenerated code**: `motors_enable` sees a request only through `int(r)`. Every pair of requests that
`int()` converts — bools, decimal numeral strings, ints — behaves exactly like the pair of integers it stands for (same
value, same bytes written, same reads consumed, same object), so `C16_gen_motors` covers them with `r := int(request)`.
(Seeded change C16_m14 dropped the conversion: equivalent on ints, different on `True`; this theorem is what then stops
checking.) -/
theorem C16_gen_motors_requests (fuel : Nat) (v1 v2 : PyObj.Val) (r1 r2 : Int)
    (h1 : PyObj.b_int v1 = .ok (.int r1)) (h2 : PyObj.b_int v2 = .ok (.int r2)) (w : PyObj.World EBB3_Obj) :
    EBBMotionWrap_motors_enable fuel v1 v2 w = EBBMotionWrap_motors_enable fuel (.int r1) (.int r2) w := by
  have l1 := load_of_int_ok (ω := EBB3_Obj) h1
  have l2 := load_of_int_ok (ω := EBB3_Obj) h2
  unfold EBBMotionWrap_motors_enable EBBMotionWrap_motors_enable_main
  simp only [block_cons2, PyObj.run, seq, EBBMotionWrap_motors_enable_if1, ifte, return_, pass]
  generalize ((or_ (app1 op_is_none (getattr (·.port))) (app1 op_is_not_none (getattr (·.err)))) : Eff EBB3_Obj) w = res
  obtain ⟨res, w'⟩ := res
  cases res with
  | fuelOut => rfl
  | exc c => rfl
  | ok v =>
    cases hv : truthy v
    · have bi : ∀ r : Int, b_int (.int r) = .ok (.int r) := fun _ => rfl
      simp only [hv, Bool.false_eq_true, ↓reduceIte, assign, l1, l2, load_int, app1_ok, app2_ok, h1, h2, bi, ofP_ok, b_max2_int, b_min2_int,
        ok_apply]
    · simp only [hv, ↓reduceIte, ok]

/-- non-vacuity: `True` stands for 1, the numeral `'3'` for 3 -/
example : PyObj.b_int (.bool true) = .ok (.int 1) ∧ PyObj.b_int (.str ['3']) = .ok (.int 3) := by
  constructor <;> rfl

end Plotink
