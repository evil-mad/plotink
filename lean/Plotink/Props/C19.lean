import Plotink.Proofs.C19
import Plotink.Proofs.C19Gen3

/-! # C19 — port discovery: first-board discovery and the listings pick exactly the EiBotBoards, in enumeration order;
a lookup by name returns the first port that matches the key

The lookups (`find_named`, `find_named_ebb`) apply no board test: they return the first enumerated port, of whatever
kind, that matches the key by one of the criteria of `Matches3` / `MatchesL` (with the empty key every port matches, so
the first one is returned).

Model: `Plotink/Model/C19.lean`; `Legacy.*` mirrors `ebb_serial.py` (`findPort`, `listEBBports`,
`list_named_ebbs`, `find_named_ebb`), `Ebb3.*` mirrors `ebb3_serial.py` (`find_first`, `list_ebb_ports`,
`list_named_ebbs`, `find_named`).  A port is `(dev, desc, hwid)`; strings are ASCII `List Char`.
"`key` is a case variant of `t`" is `lower key = lower t`.  `Matches3` / `MatchesL` (Model) state the
lookup criteria as propositions about list structure (`<:+:` infix, `<+:` prefix). -/

namespace Plotink
open C19

/-- **first-board discovery** (both layers): the first port whose description starts with
`EiBotBoard`, otherwise the first whose hardware id starts with `USB VID:PID=04D8:FD92`, otherwise
`none`; the two tests are exactly the prefix relations. -/
theorem C19_first (ports : List Port) :
    Ebb3.findFirst ports = ((ports.find? descMatch).orElse fun _ => ports.find? idMatch).map (·.dev) ∧
    Legacy.findFirst ports = ((ports.find? descMatch).orElse fun _ => ports.find? idMatch).map (·.dev) ∧
    (∀ p : Port, (descMatch p = true ↔ "EiBotBoard".toList <+: p.desc) ∧
                 (idMatch p = true ↔ "USB VID:PID=04D8:FD92".toList <+: p.hwid)) :=
  ⟨findFirst_eq_spec ports, findFirst_eq_spec ports, fun _ => ⟨List.isPrefixOf_iff_prefix, List.isPrefixOf_iff_prefix⟩⟩

/-- **board listing** (both layers): exactly the ports passing either test, in enumeration order,
`none` when there are none; the name list has one entry per listed port. -/
theorem C19_list (ports : List Port) :
    Ebb3.listPorts ports = specList ports ∧ Legacy.listPorts ports = specList ports ∧
    Ebb3.listNamed ports = (specList ports).map (·.map Ebb3.nameOf) ∧
    Legacy.listNamed ports = (specList ports).map (·.map Legacy.nameOf) := by
  have h3 := listPorts_eq_spec ports
  have hL : Legacy.listPorts ports = specList ports := h3
  refine ⟨h3, hL, ?_, ?_⟩
  · rw [Ebb3.listNamed, h3]; cases specList ports <;> rfl
  · rw [Legacy.listNamed, hL]; cases specList ports <;> rfl

/-- **membership**: whatever a discovery or lookup function returns is the device name of a port of
the list (any key, both layers); listed ports are ports of the list. -/
theorem C19_member (ports : List Port) (key : Option Str) (d : Str) :
    (Ebb3.findNamed key ports = some d → ∃ p ∈ ports, p.dev = d) ∧
    (Legacy.findNamed key ports = some d → ∃ p ∈ ports, p.dev = d) ∧
    (Ebb3.findFirst ports = some d → ∃ p ∈ ports, p.dev = d) ∧
    (Legacy.findFirst ports = some d → ∃ p ∈ ports, p.dev = d) ∧
    (∀ l, Ebb3.listPorts ports = some l → ∀ p ∈ l, p ∈ ports) ∧
    (∀ l, Legacy.listPorts ports = some l → ∀ p ∈ l, p ∈ ports) := by
  -- the two `findFirst` and the two `listPorts` are the same text in both layers
  have hf : Ebb3.findFirst ports = some d → ∃ p ∈ ports, p.dev = d := by
    rw [findFirst_eq_spec]; exact specFirst_mem ports d
  have hl : ∀ l, Ebb3.listPorts ports = some l → ∀ p ∈ l, p ∈ ports := by
    rw [listPorts_eq_spec]; exact fun l => specList_mem
  refine ⟨?_, ?_, hf, hf, hl, hl⟩
  · cases key with
    | none => intro h; cases h
    | some k => rw [Ebb3.findNamed_eq]; exact find?_dev_mem _ ports d
  · cases key with
    | none => intro h; cases h
    | some k => rw [Legacy.findNamed_eq]; exact find?_dev_mem _ ports d

/-- **lookup is "first matching port"** (both layers), in terms of the propositional criteria -/
theorem C19_first_match (ports : List Port) (key d : Str) :
    (Ebb3.findNamed (some key) ports = some d ↔
      ∃ pre p post, ports = pre ++ p :: post ∧ p.dev = d ∧ Matches3 key p ∧ ∀ q ∈ pre, ¬ Matches3 key q) ∧
    (Ebb3.findNamed (some key) ports = none ↔ ∀ q ∈ ports, ¬ Matches3 key q) ∧
    (Legacy.findNamed (some key) ports = some d ↔
      ∃ pre p post, ports = pre ++ p :: post ∧ p.dev = d ∧ MatchesL key p ∧ ∀ q ∈ pre, ¬ MatchesL key q) ∧
    (Legacy.findNamed (some key) ports = none ↔ ∀ q ∈ ports, ¬ MatchesL key q) := by
  have g3 := find?_dev_iff (matches3B key) (Matches3 key) (matches3B_iff key) ports d
  have gL := find?_dev_iff (matchesLB key) (MatchesL key) (matchesLB_iff key) ports d
  rw [Ebb3.findNamed_eq, Legacy.findNamed_eq]
  exact ⟨g3.1, g3.2, gL.1, gL.2⟩

/-- **lookup (EBB3 layer)**: for a port `p` at any position, and `key` any case variant of (a) the name
`list_named_ebbs` reports for `p`, (b) its `SER=` tag value when the hardware string has the
`SER=… LOCAT` shape, or (c) its device name: if no earlier port matches `key`, `find_named` returns
`p`'s device. -/
theorem C19_lookup (pre post : List Port) (p : Port) (key : Str)
    (hkey : lower key = lower (Ebb3.nameOf p) ∨ (∃ t, serTag p = some t ∧ lower key = lower t) ∨
            lower key = lower p.dev)
    (hpre : ∀ q ∈ pre, ¬ Matches3 key q) :
    Ebb3.findNamed (some key) (pre ++ p :: post) = some p.dev := by
  have hp : Matches3 key p := by
    rcases hkey with h | ⟨t, ht, h⟩ | h
    · exact matches3_of_name key p h
    · exact matches3_of_serTag key t p ht h
    · exact matches3_of_dev key p h
  exact ((C19_first_match (pre ++ p :: post) key p.dev).1).mpr ⟨pre, p, post, rfl, rfl, hp, hpre⟩

example : Ebb3.nameOf ⟨"COM3".toList, "USB Serial Device (COM3)".toList,
    "USB VID:PID=04D8:FD92 SER=Bob LOCATION=1-2".toList⟩ = "Bob".toList := by
  -- a string literal is `String.ofList` of its characters: `toList_ofList` reads them off without decoding UTF-8
  repeat rw [String.toList_ofList]
  decide +kernel
/- non-vacuity: the hypotheses of `C19_lookup` hold for a foreign port followed by a Windows-style board -/
example : lower "bOB".toList = lower (Ebb3.nameOf ⟨"COM3".toList, "USB Serial Device (COM3)".toList,
    "USB VID:PID=04D8:FD92 SER=Bob LOCATION=1-2".toList⟩) := by
  repeat rw [String.toList_ofList]
  decide +kernel
example : ∀ q ∈ [(⟨"COM9".toList, "Arduino Uno (COM9)".toList, "USB VID:PID=2341:0043".toList⟩ : Port)],
    ¬ Matches3 "bOB".toList q := by
  repeat rw [String.toList_ofList]
  intro q hq; rw [List.mem_singleton.mp hq, ← matches3B_iff]; decide +kernel

/-- **lookup (legacy layer)**: the same with the legacy name (which may come from an `SNR=` tag), and
additionally (d) the `SNR=` tag value. -/
theorem C19_lookup_legacy (pre post : List Port) (p : Port) (key : Str)
    (hkey : lower key = lower (Legacy.nameOf p) ∨ (∃ t, serTag p = some t ∧ lower key = lower t) ∨
            lower key = lower p.dev ∨ (∃ t, snrName p = some t ∧ lower key = lower t))
    (hpre : ∀ q ∈ pre, ¬ MatchesL key q) :
    Legacy.findNamed (some key) (pre ++ p :: post) = some p.dev := by
  have hp : MatchesL key p := by
    rcases hkey with h | ⟨t, ht, h⟩ | h | ⟨t, ht, h⟩
    · exact matchesL_of_name key p h
    · exact Or.inl (matches3_of_serTag key t p ht h)
    · exact Or.inl (matches3_of_dev key p h)
    · exact matchesL_of_snrName key t p ht h
  exact ((C19_first_match (pre ++ p :: post) key p.dev).2.2.1).mpr ⟨pre, p, post, rfl, rfl, hp, hpre⟩

example : Legacy.nameOf ⟨"COM3".toList, "USB Serial Device (COM3)".toList,
    "USB VID:PID=04D8:FD92 SNR=Bob".toList⟩ = "Bob".toList := by
  repeat rw [String.toList_ofList]
  decide +kernel
example : ∀ q ∈ [(⟨"COM9".toList, "Arduino Uno (COM9)".toList, "USB VID:PID=2341:0043".toList⟩ : Port)],
    ¬ MatchesL "bOB".toList q := by
  repeat rw [String.toList_ofList]
  intro q hq; rw [List.mem_singleton.mp hq, ← matchesLB_iff]; decide +kernel

/-- **the layers agree**: first-board discovery and listing always; the reported names when no
hardware string contains `SNR=`; the lookup when no hardware string contains `snr=<key>` (lower-cased)
— and in general the legacy lookup is the EBB3 lookup with the extra `SNR=` criterion (`MatchesL`,
`C19_first_match`). -/
theorem C19_layers (ports : List Port) (key : Option Str) :
    Legacy.findFirst ports = Ebb3.findFirst ports ∧
    Legacy.listPorts ports = Ebb3.listPorts ports ∧
    ((∀ p ∈ ports, ¬ snrK <:+: p.hwid) → Legacy.listNamed ports = Ebb3.listNamed ports) ∧
    ((∀ k, key = some k → ∀ p ∈ ports, ¬ lower (snrK ++ k) <:+: lower p.hwid) →
      Legacy.findNamed key ports = Ebb3.findNamed key ports) := by
  refine ⟨rfl, rfl, ?_, ?_⟩
  · intro h
    rw [(C19_list ports).2.2.1, (C19_list ports).2.2.2]
    cases hl : specList ports with
    | none => rfl
    | some l =>
      exact congrArg some (List.map_congr_left fun p hp => nameOf_eq_of_not_snr p (h p (specList_mem hl p hp)))
  · intro h
    cases key with
    | none => rfl
    | some k =>
      rw [Legacy.findNamed_eq, Ebb3.findNamed_eq]
      congr 1
      apply find?_congr
      intro p hp
      rw [matchesLB, (isInfixB_false_iff _ _).mpr (h k rfl p hp), Bool.or_false]


/-! # The same properties about the REGENERATED discovery code

`Gen/ebb_serial_{findPort,listEBBports,list_named_ebbs,find_named_ebb}.lean`, `Gen/EBB3_find_first.lean` and
`Gen/ebb3_serial_{list_ebb_ports,list_named_ebbs,find_named}.lean` are rewritten from `plotink/ebb_serial.py` /
`plotink/ebb3_serial.py` on every run (`translator/pyio2lean.py`); `comports()` is the input `w.ext.comports`.
`Enumerates w ports` says that input is the encoded port list.  The bridges (`Proofs/C19Gen1-3.lean`) identify each
regenerated function with the hand model of its layer, for every fuel, world and enumeration; the theorems below
restate the property through them.  Values: `encPort p` is the 3-tuple of strings, `encOptStr` maps `none ↦ None`
(`Proofs/LegacyGen.lean`); `encPorts` / `encNames` do the same for an optional list of ports / of names
(`Proofs/C19GenEval.lean`, beside `Enumerates`). -/

open PyObj Gen LegacyGen C19Gen

/-- **first-board discovery, regenerated code** (both layers).  `findPort` returns, and `EBB3.find_first` stores in
`self.port_name` (returning `None`, changing nothing else), the first port whose description starts with `EiBotBoard`,
otherwise the first whose hardware id starts with `USB VID:PID=04D8:FD92`, otherwise `None`
(`specFirst ports = ((ports.find? descMatch).orElse fun _ => ports.find? idMatch).map (·.dev)`) — of the CURRENT
enumeration: the statement about the object holds for every prior object state `w3.obj` (fresh object, or one that
already holds a `port_name` from an earlier discovery). -/
theorem C19_gen_first (fuel : Nat) (ports : List Port) (w : World NoObj) (w3 : World EBB3_Obj)
    (hc : Enumerates w ports) (hc3 : Enumerates w3 ports) :
    ebb_serial_findPort fuel w = .val (encOptStr (specFirst ports)) w ∧
    EBB3_find_first fuel w3 = .val .none { w3 with obj := { w3.obj with port_name := encOptStr (specFirst ports) } } := by
  rw [findPort_bridge fuel ports w hc, find_first_bridge fuel ports w3 hc3, (C19_first ports).1, (C19_first ports).2.1]
  exact ⟨rfl, rfl⟩

/-- the object-state reading spelled out: after `find_first` on ANY object, `port_name` is determined by the current
enumeration alone; in particular with no board in the list it is `None` even if it held a port before -/
theorem C19_gen_first_fresh_and_reused (fuel : Nat) (ports : List Port) (w3 : World EBB3_Obj) (hc3 : Enumerates w3 ports)
    (hnone : ∀ p ∈ ports, descMatch p = false ∧ idMatch p = false) :
    ∃ w', EBB3_find_first fuel w3 = .val .none w' ∧ w'.obj.port_name = .none := by
  refine ⟨_, find_first_bridge fuel ports w3 hc3, ?_⟩
  have h1 : ports.find? descMatch = none := List.find?_eq_none.mpr (fun p hp => by simp [(hnone p hp).1])
  have h2 : ports.find? idMatch = none := List.find?_eq_none.mpr (fun p hp => by simp [(hnone p hp).2])
  simp [(C19_first ports).1, h1, h2, encOptStr]

example : ∀ p ∈ [(⟨"COM9".toList, "Arduino Uno (COM9)".toList, "USB VID:PID=2341:0043".toList⟩ : Port)],
    descMatch p = false ∧ idMatch p = false := by
  repeat rw [String.toList_ofList]
  intro p hp; rw [List.mem_singleton.mp hp, descMatch, idMatch, lit_ebbName, lit_vidpid]; decide +kernel

/-- **board listing, regenerated code** (both layers): exactly the ports passing either test, in enumeration order,
`None` when there are none; `list_named_ebbs` returns one name per listed port (the model's `nameOf`), `None` when
there are none. -/
theorem C19_gen_list (fuel : Nat) (ports : List Port) (w : World NoObj) (hc : Enumerates w ports) :
    ebb_serial_listEBBports fuel w = .val (encPorts (specList ports)) w ∧
    ebb3_serial_list_ebb_ports fuel w = .val (encPorts (specList ports)) w ∧
    ebb3_serial_list_named_ebbs fuel w = .val (encNames ((specList ports).map (·.map C19.Ebb3.nameOf))) w ∧
    ebb_serial_list_named_ebbs fuel w = .val (encNames ((specList ports).map (·.map Legacy.nameOf))) w := by
  rw [ebb_serial_listEBBports_bridge fuel ports w hc, ebb3_serial_list_ebb_ports_bridge fuel ports w hc,
    list_named_ebbs3_bridge fuel ports w hc, list_named_ebbsL_bridge fuel ports w hc,
    (C19_list ports).1, (C19_list ports).2.1, (C19_list ports).2.2.1, (C19_list ports).2.2.2]
  exact ⟨rfl, rfl, rfl, rfl⟩

/-- **membership, regenerated code**: a string returned by a lookup (any key) or by first-board discovery, or stored
in `port_name`, is the device name of a port of the list. -/
theorem C19_gen_member (fuel : Nat) (ports : List Port) (key : Option C19.Str) (d : C19.Str) (w w' : World NoObj)
    (w3 w3' : World EBB3_Obj) (hc : Enumerates w ports) (hc3 : Enumerates w3 ports) :
    (ebb3_serial_find_named fuel (encOptStr key) w = .val (.str d) w' → ∃ p ∈ ports, p.dev = d) ∧
    (ebb_serial_find_named_ebb fuel (encOptStr key) w = .val (.str d) w' → ∃ p ∈ ports, p.dev = d) ∧
    (ebb_serial_findPort fuel w = .val (.str d) w' → ∃ p ∈ ports, p.dev = d) ∧
    (EBB3_find_first fuel w3 = .val .none w3' → w3'.obj.port_name = .str d → ∃ p ∈ ports, p.dev = d) := by
  have hm := C19_member ports key d
  refine ⟨?_, ?_, ?_, ?_⟩
  · rw [find_named_bridge fuel key ports w hc]; exact fun h => hm.1 (encOptStr_inj (Out.val.inj h).1)
  · rw [find_named_ebb_bridge fuel key ports w hc]; exact fun h => hm.2.1 (encOptStr_inj (Out.val.inj h).1)
  · rw [findPort_bridge fuel ports w hc]; exact fun h => hm.2.2.2.1 (encOptStr_inj (Out.val.inj h).1)
  · rw [find_first_bridge fuel ports w3 hc3]
    intro h hp
    rw [← (Out.val.inj h).2] at hp
    exact hm.2.2.1 (encOptStr_inj hp)

/-- **lookup is "first matching port", regenerated code** (both layers) -/
theorem C19_gen_first_match (fuel : Nat) (ports : List Port) (key d : C19.Str) (w : World NoObj) (hc : Enumerates w ports) :
    (ebb3_serial_find_named fuel (.str key) w = .val (.str d) w ↔
      ∃ pre p post, ports = pre ++ p :: post ∧ p.dev = d ∧ Matches3 key p ∧ ∀ q ∈ pre, ¬ Matches3 key q) ∧
    (ebb3_serial_find_named fuel (.str key) w = .val .none w ↔ ∀ q ∈ ports, ¬ Matches3 key q) ∧
    (ebb_serial_find_named_ebb fuel (.str key) w = .val (.str d) w ↔
      ∃ pre p post, ports = pre ++ p :: post ∧ p.dev = d ∧ MatchesL key p ∧ ∀ q ∈ pre, ¬ MatchesL key q) ∧
    (ebb_serial_find_named_ebb fuel (.str key) w = .val .none w ↔ ∀ q ∈ ports, ¬ MatchesL key q) := by
  have h3 : ebb3_serial_find_named fuel (.str key) w = _ := find_named_bridge fuel (some key) ports w hc
  have hL : ebb_serial_find_named_ebb fuel (.str key) w = _ := find_named_ebb_bridge fuel (some key) ports w hc
  have m := C19_first_match ports key d
  rw [h3, hL]
  exact ⟨(val_enc_iff (o' := some d)).trans m.1, (val_enc_iff (o' := none)).trans m.2.1,
    (val_enc_iff (o' := some d)).trans m.2.2.1, (val_enc_iff (o' := none)).trans m.2.2.2⟩

/-- **lookup, regenerated `find_named` (EBB3 layer)**: as `C19_lookup` -/
theorem C19_gen_lookup (fuel : Nat) (pre post : List Port) (p : Port) (key : C19.Str) (w : World NoObj)
    (hc : Enumerates w (pre ++ p :: post))
    (hkey : lower key = lower (C19.Ebb3.nameOf p) ∨ (∃ t, serTag p = some t ∧ lower key = lower t) ∨
            lower key = lower p.dev)
    (hpre : ∀ q ∈ pre, ¬ Matches3 key q) :
    ebb3_serial_find_named fuel (.str key) w = .val (.str p.dev) w := by
  have h := find_named_bridge fuel (some key) (pre ++ p :: post) w hc
  rw [C19_lookup pre post p key hkey hpre] at h
  exact h

/-- **lookup, regenerated `find_named_ebb` (legacy layer)**: as `C19_lookup_legacy` -/
theorem C19_gen_lookup_legacy (fuel : Nat) (pre post : List Port) (p : Port) (key : C19.Str) (w : World NoObj)
    (hc : Enumerates w (pre ++ p :: post))
    (hkey : lower key = lower (Legacy.nameOf p) ∨ (∃ t, serTag p = some t ∧ lower key = lower t) ∨
            lower key = lower p.dev ∨ (∃ t, snrName p = some t ∧ lower key = lower t))
    (hpre : ∀ q ∈ pre, ¬ MatchesL key q) :
    ebb_serial_find_named_ebb fuel (.str key) w = .val (.str p.dev) w := by
  have h := find_named_ebb_bridge fuel (some key) (pre ++ p :: post) w hc
  rw [C19_lookup_legacy pre post p key hkey hpre] at h
  exact h

/-- non-vacuity of `Enumerates`: the world whose enumerator yields the list -/
example (ports : List Port) : Enumerates (⟨NoObj.mk, ⟨[], [], [], 0⟩, { comports := .ok (.list (ports.map encPort)) }⟩ : World NoObj) ports :=
  rfl

/-- **the layers agree, regenerated code**: what `findPort` returns is what `find_first` stores; the listings are
equal; the reported names are equal when no hardware string contains `SNR=`; the lookups are equal when no
lower-cased hardware string contains `snr=<key>`. -/
theorem C19_gen_layers (fuel : Nat) (ports : List Port) (key : Option C19.Str) (w : World NoObj) (w3 : World EBB3_Obj)
    (hc : Enumerates w ports) (hc3 : Enumerates w3 ports) :
    (∃ v, ebb_serial_findPort fuel w = .val v w ∧
          EBB3_find_first fuel w3 = .val .none { w3 with obj := { w3.obj with port_name := v } }) ∧
    ebb_serial_listEBBports fuel w = ebb3_serial_list_ebb_ports fuel w ∧
    ((∀ p ∈ ports, ¬ snrK <:+: p.hwid) → ebb_serial_list_named_ebbs fuel w = ebb3_serial_list_named_ebbs fuel w) ∧
    ((∀ k, key = some k → ∀ p ∈ ports, ¬ lower (snrK ++ k) <:+: lower p.hwid) →
      ebb_serial_find_named_ebb fuel (encOptStr key) w = ebb3_serial_find_named fuel (encOptStr key) w) := by
  have hl := C19_layers ports key
  refine ⟨⟨_, findPort_bridge fuel ports w hc, ?_⟩, ?_, ?_, ?_⟩
  · rw [find_first_bridge fuel ports w3 hc3, hl.1]
  · rw [ebb_serial_listEBBports_bridge fuel ports w hc, ebb3_serial_list_ebb_ports_bridge fuel ports w hc, hl.2.1]
  · intro h
    rw [list_named_ebbsL_bridge fuel ports w hc, list_named_ebbs3_bridge fuel ports w hc, hl.2.2.1 h]
  · intro h
    rw [find_named_ebb_bridge fuel key ports w hc, find_named_bridge fuel key ports w hc, hl.2.2.2 h]

end Plotink
