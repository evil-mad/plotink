import Plotink.Proofs.C06GenGate
import Plotink.Gen.ebb_motion_QueryPenUp
import Plotink.Gen.ebb_motion_QueryPRGButton
import Plotink.Gen.ebb_motion_queryEBBLV
import Plotink.Gen.ebb_motion_query_steps
import Plotink.Gen.ebb_motion_queryVoltage
/-! # C06 over the regenerated code: the legacy helpers that query the board

`QueryPenUp` (QP), `QueryPRGButton` (QB), `queryEBBLV` (QL), `query_steps` (QS), `queryVoltage` (gate `V`, then QC):
in the domain the query text is written exactly once; the post-processing of the reply (indexing, `split`, `int`,
comparisons, `try … except`) is pure, whatever the reply is and whether it raises or not (`C06GenPure`). -/
namespace Plotink
namespace C06Gen
open PyObj Gen

theorem QueryPenUp_bridge (fuel : Nat) (hf : 101 ≤ fuel) (vb : Val) (w : World NoObj) (hd : Dom w.port) :
    Wrote (ebb_motion_QueryPenUp fuel .port vb w) w (C06.legacyEmit true true .queryPenUp) := by
  refine Sent.wrote (ts := [['Q', 'P', '\r']]) _ (by decide) (Sent.then_pure (by fr_walk) ?_)
  rw [ebb_motion_QueryPenUp_if1, ifte_pos rfl rfl, block_cons2]
  refine Sent.query_then_pure hf (by decide) hd rfl ?_
  rw [block_cons2, block_one, ebb_motion_QueryPenUp_if2]
  fr_walk

theorem QueryPRGButton_bridge (fuel : Nat) (hf : 101 ≤ fuel) (vb : Val) (w : World NoObj) (hd : Dom w.port) :
    Wrote (ebb_motion_QueryPRGButton fuel .port vb w) w (C06.legacyEmit true true .queryButton) := by
  refine Sent.wrote (ts := [['Q', 'B', '\r']]) _ (by decide) (Sent.then_pure (by fr_walk) ?_)
  rw [ebb_motion_QueryPRGButton_if1, ifte_pos rfl rfl]
  exact Sent.query_return hf (by decide) hd rfl

theorem queryEBBLV_bridge (fuel : Nat) (hf : 101 ≤ fuel) (vb : Val) (w : World NoObj) (hd : Dom w.port) :
    Wrote (ebb_motion_queryEBBLV fuel .port vb w) w (C06.legacyEmit true true .queryLayer) := by
  refine Sent.wrote (ts := [['Q', 'L', '\r']]) _ (by decide) (Sent.then_pure (by fr_walk) ?_)
  rw [ebb_motion_queryEBBLV_if1, ifte_pos rfl rfl, block_cons2, block_one]
  refine Sent.query_then_pure hf (by decide) hd rfl
    (by unfold ebb_motion_queryEBBLV_try1 ebb_motion_queryEBBLV_handlers1; fr_walk)

theorem query_steps_bridge (fuel : Nat) (hf : 101 ≤ fuel) (vb : Val) (w : World NoObj) (hd : Dom w.port) :
    Wrote (ebb_motion_query_steps fuel .port vb w) w (C06.legacyEmit true true .querySteps) := by
  refine Sent.wrote (ts := [['Q', 'S', '\r']]) _ (by decide)
    (Sent.then_pure (by fr_walk) ?_)
  rw [ebb_motion_query_steps_if1, ifte_pos rfl rfl]
  refine Sent.try_ (List.forall_mem_singleton.mpr (by fr_walk)) ?_
  rw [ebb_motion_query_steps_try1, block_cons2]
  refine Sent.query_then_pure hf (by decide) hd rfl ?_
  rw [block_cons2, block_one]
  fr_walk

theorem legacyEmit_voltage (fwOk : Bool) :
    C06.legacyEmit true fwOk .queryVoltage = some (C06.versionQuery :: (if fwOk then [⟨"QC", []⟩] else [])) := by
  cases fwOk <;> simp [C06.legacyEmit, C06.legacyEmitWith]

theorem qv_tail_pure : PureS (block [
    assign (fun env v => { env with split_string := v }) (fun _ env => app1 (meth_split1_char ',') (load env.raw_string)),
    assign (fun env v => { env with split_len := v }) (fun _ env => app1 op_len (load env.split_string)),
    ebb_motion_queryVoltage_if3, ebb_motion_queryVoltage_if4]) := by
  unfold ebb_motion_queryVoltage_if3 ebb_motion_queryVoltage_if4
  fr_walk

/-- `queryVoltage`: behind the gate `2.2.3`, `QC` -/
theorem queryVoltage_gated (fuel : Nat) (hf : 101 ≤ fuel) (vb : Val) (w : World NoObj) (hd : Dom w.port) :
    ∃ w', outWorld (ebb_motion_queryVoltage fuel .port vb w) = some w' ∧
      Gated fuel ['2', '.', '2', '.', '3'] w w' [['Q', 'C', '\r']] := by
  rw [ebb_motion_queryVoltage, outWorld_run, ebb_motion_queryVoltage_main, block_cons2, block_one]
  refine gate_then_pure (by fr_walk) ?_
  rw [ebb_motion_queryVoltage_if1, ifte_pos rfl rfl, block_cons2, ebb_motion_queryVoltage_if2]
  refine gate_guard hf _ (.bool true) hd rfl fun w1 d1 => ?_
  rw [block_cons2]
  exact Sent.query_then_pure hf (by decide) d1 rfl qv_tail_pure

theorem queryVoltage_bridge (fuel : Nat) (hf : 101 ≤ fuel) (vb : Val) (w : World NoObj) (hd : Dom w.port) :
    ∃ fwOk, Wrote (ebb_motion_queryVoltage fuel .port vb w) w (C06.legacyEmit true fwOk .queryVoltage) :=
  (queryVoltage_gated fuel hf vb w hd).elim fun _ h => h.2.wrote (c := ⟨"QC", []⟩) h.1 legacyEmit_voltage

end C06Gen
end Plotink
