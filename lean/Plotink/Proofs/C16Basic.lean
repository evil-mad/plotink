import Plotink.Model.C16
import Plotink.Proofs.Strip
/-! The Python string primitives of the C16 model: the decimal round trip `parseInt? (showNat n) = n`, `splitOn` on
comma-free fields, `strip` on text without blanks at either end (`NoEdge`; the request lines the methods format are such
text, the reply lines lose their line end only: `strip_data`, `qt_strip`), and the error marker `Err:`. -/
namespace Plotink
namespace C16

theorem isDigit_of_mem_showNat {n : Nat} {c : Char} (h : c ∈ showNat n) : c.isDigit = true :=
  Nat.isDigit_of_mem_toDigits (by decide) (by decide) h

theorem not_mem_showNat {c : Char} (hc : c.isDigit = false) (n : Nat) : c ∉ showNat n :=
  fun h => Bool.false_ne_true (hc ▸ isDigit_of_mem_showNat h)

theorem comma_not_mem_showNat (n : Nat) : ',' ∉ showNat n := not_mem_showNat rfl n

theorem colon_not_mem_showNat (n : Nat) : ':' ∉ showNat n := not_mem_showNat rfl n

theorem showNat_ne_nil (n : Nat) : showNat n ≠ [] := Nat.toDigits_ne_nil

theorem parseNatAux_digits (l : Str) (h : ∀ c ∈ l, c.isDigit = true) (acc : Nat) :
    parseNatAux acc l = some (Nat.ofDigitChars 10 l acc) := by
  induction l generalizing acc with
  | nil => rfl
  | cons c l ih =>
    rw [parseNatAux, if_pos (h c List.mem_cons_self), ih (fun d hd => h d (List.mem_cons_of_mem _ hd)), Nat.mul_comm]
    rfl

theorem parseNatAux_showNat (n : Nat) : parseNatAux 0 (showNat n) = some n := by
  rw [parseNatAux_digits (showNat n) fun _ hc => isDigit_of_mem_showNat hc]
  exact congrArg some Nat.ofDigitChars_ten_toDigits

theorem parseNat?_showNat (n : Nat) : parseNat? (showNat n) = some n := by
  rw [parseNat?, if_neg (mt List.isEmpty_iff.mp (showNat_ne_nil n)), parseNatAux_showNat]

theorem parseInt?_showNat (n : Nat) : parseInt? (showNat n) = some (n : Int) := by
  cases h : showNat n with
  | nil => exact absurd h (showNat_ne_nil n)
  | cons c cs =>
    have hc : c ≠ '-' := fun e => not_mem_showNat (c := '-') rfl n (by rw [h, e]; exact List.mem_cons_self)
    simp only [parseInt?, hc, if_false]
    rw [← h, parseNat?_showNat]; rfl

theorem showInt_nonneg {z : Int} (h : 0 ≤ z) : showInt z = showNat z.toNat :=
  if_neg (Int.not_lt.mpr h)

theorem showInt_ofNat (n : Nat) : showInt (n : Int) = showNat n := showInt_nonneg (Int.natCast_nonneg n)

theorem splitOn_ne_nil (sep : Char) (s : Str) : splitOn sep s ≠ [] := by
  induction s with
  | nil => simp [splitOn]
  | cons c cs ih =>
    simp only [splitOn]
    split
    · simp
    · split <;> simp

theorem splitOn_noSep {sep : Char} {a : Str} (h : sep ∉ a) : splitOn sep a = [a] := by
  induction a with
  | nil => rfl
  | cons c cs ih =>
    have hc : c ≠ sep := fun e => h (by simp [e])
    have hcs : sep ∉ cs := fun e => h (List.mem_cons_of_mem _ e)
    simp [splitOn, hc, ih hcs]

theorem splitOn_append_sep {sep : Char} {a : Str} (rest : Str) (h : sep ∉ a) :
    splitOn sep (a ++ sep :: rest) = a :: splitOn sep rest := by
  induction a with
  | nil => simp [splitOn]
  | cons c cs ih =>
    have hc : c ≠ sep := fun e => h (by simp [e])
    have hcs : sep ∉ cs := fun e => h (List.mem_cons_of_mem _ e)
    simp [splitOn, hc, ih hcs]

def NoEdge (s : Str) : Prop :=
  (∀ c, s.head? = some c → isPySpace c = false) ∧ (∀ c, s.getLast? = some c → isPySpace c = false)

def AllSp (s : Str) : Prop := ∀ c ∈ s, isPySpace c = true

/-! `strip` is `PyFloat.stripBy` of the same blanks (`Proofs/Strip.lean`), `NoEdge` its `Trimmed`. -/

theorem isPySpace_eq : isPySpace = PyFloat.isPySpace := by
  funext c
  rw [Bool.eq_iff_iff]
  simp only [isPySpace, PyFloat.isPySpace, PyFloat.isCSpace, Bool.or_eq_true, Bool.and_eq_true, decide_eq_true_eq,
    beq_iff_eq]
  omega

theorem not_space_of_isDigit {c : Char} (h : c.isDigit = true) : isPySpace c = false :=
  isPySpace_eq ▸ PyFloat.not_space_of_isDigit h

theorem lstrip_eq (s : Str) : lstrip s = s.dropWhile PyFloat.isPySpace := by
  induction s with
  | nil => rfl
  | cons c s ih => rw [lstrip, ih, List.dropWhile_cons, isPySpace_eq]

theorem rstrip_eq (s : Str) : rstrip s = PyFloat.rstripBy PyFloat.isPySpace s := by
  rw [rstrip, lstrip_eq]; rfl

theorem strip_eq (s : Str) : strip s = PyFloat.pyStrip s := by
  rw [strip, rstrip_eq, lstrip_eq]; rfl

theorem noEdge_iff {s : Str} : NoEdge s ↔ PyFloat.Trimmed PyFloat.isPySpace s := by
  unfold NoEdge PyFloat.Trimmed; rw [isPySpace_eq]

theorem allSp_iff {s : Str} : AllSp s ↔ ∀ c ∈ s, PyFloat.isPySpace c = true := by
  unfold AllSp; rw [isPySpace_eq]

theorem allSp_nil : AllSp [] := fun _ h => nomatch h

theorem allSp_append {a b : Str} (ha : AllSp a) (hb : AllSp b) : AllSp (a ++ b) :=
  fun c hc => (List.mem_append.mp hc).elim (ha c) (hb c)

theorem strip_of_noEdge {s : Str} (h : NoEdge s) : strip s = s := by
  rw [strip_eq]; exact PyFloat.stripBy_of_trimmed _ (noEdge_iff.1 h)

theorem noEdge_strip (s : Str) : NoEdge (strip s) := by
  rw [strip_eq]; exact noEdge_iff.2 (PyFloat.trimmed_stripBy _ s)

theorem noEdge_of_strip_eq {s : Str} (h : strip s = s) : NoEdge s := h ▸ noEdge_strip s

theorem strip_strip (s : Str) : strip (strip s) = strip s := strip_of_noEdge (noEdge_strip s)

theorem strip_unique {a m z : Str} (ha : AllSp a) (hz : AllSp z) (hm : NoEdge m) : strip (a ++ m ++ z) = m := by
  rw [strip_eq, List.append_assoc]
  exact PyFloat.stripBy_core _ a m z (allSp_iff.1 ha) (allSp_iff.1 hz) (noEdge_iff.1 hm)

theorem strip_line {s : Str} (h : NoEdge s) : strip (s ++ ['\n']) = s :=
  strip_unique (a := []) allSp_nil (fun c hc => by rw [List.mem_singleton.mp hc]; rfl) h

theorem rstrip_decomp (s : Str) : ∃ z, AllSp z ∧ s = rstrip s ++ z := by
  obtain ⟨z, hz, e⟩ := PyFloat.rstripBy_decomp PyFloat.isPySpace s
  exact ⟨z, allSp_iff.2 hz, by rw [rstrip_eq]; exact e⟩

theorem rstrip_last (s : Str) (c : Char) (hc : (rstrip s).getLast? = some c) : isPySpace c = false := by
  rw [rstrip_eq] at hc; rw [isPySpace_eq]; exact PyFloat.rstripBy_last _ s c hc

theorem strip_rstrip (s : Str) : strip (rstrip s) = strip s := by
  rw [strip_eq, strip_eq, rstrip_eq]; exact PyFloat.stripBy_rstripBy _ s

theorem noEdge_cons_append {c : Char} {n : Str} (hc : isPySpace c = false) (mid : Str) (d : Char)
    (hd : isPySpace d = false) (hn : NoEdge n) : NoEdge (c :: (mid ++ d :: n)) := by
  constructor
  · intro x hx; simp at hx; subst hx; exact hc
  · intro x hx
    cases n with
    | nil =>
      have : (c :: (mid ++ [d])).getLast? = some d := by
        rw [← List.cons_append]
        exact List.getLast?_concat ..
      rw [this] at hx; simp at hx; subst hx; exact hd
    | cons e es =>
      apply hn.2
      have : c :: (mid ++ d :: e :: es) = (c :: mid ++ [d]) ++ (e :: es) := by simp
      rw [this, PyFloat.getLast?_append_ne (by simp)] at hx
      exact hx

theorem noEdge_showNat (n : Nat) : NoEdge (showNat n) := by
  constructor
  · intro c hc
    apply not_space_of_isDigit
    apply isDigit_of_mem_showNat (n := n)
    exact List.mem_of_mem_head? hc
  · intro c hc
    apply not_space_of_isDigit
    apply isDigit_of_mem_showNat (n := n)
    exact List.mem_of_getLast? hc

theorem noEdge_prefixed_last (a b c : Char) {n : Str} (ha : isPySpace a = false) (hc : isPySpace c = false)
    (hn : ∀ x, n.getLast? = some x → isPySpace x = false) : NoEdge (a :: b :: c :: n) := by
  constructor
  · intro x hx; simp at hx; subst hx; exact ha
  · intro x hx
    cases n with
    | nil => simp at hx; subst hx; exact hc
    | cons e es =>
      apply hn
      have : a :: b :: c :: e :: es = [a, b, c] ++ (e :: es) := by simp
      rw [this, PyFloat.getLast?_append_ne (by simp)] at hx
      exact hx

theorem noEdge_prefixed (a b c : Char) {n : Str} (ha : isPySpace a = false) (hc : isPySpace c = false)
    (hn : NoEdge n) : NoEdge (a :: b :: c :: n) := noEdge_prefixed_last a b c ha hc hn.2

theorem noEdge_cmd1 (a b c : Char) (x : Nat) (ha : isPySpace a = false) (hc : isPySpace c = false) :
    NoEdge (a :: b :: c :: showNat x) := noEdge_prefixed a b c ha hc (noEdge_showNat x)

theorem noEdge_cmd2 (a b c : Char) (x y : Nat) (ha : isPySpace a = false) :
    NoEdge (a :: b :: c :: (showNat x ++ ',' :: showNat y)) := by
  have := noEdge_cons_append ha (b :: c :: showNat x) ',' (by decide) (noEdge_showNat y)
  simpa using this

theorem mem_of_startsWith {s p : Str} (h : startsWith s p = true) : ∀ c ∈ p, c ∈ s := by
  induction p generalizing s with
  | nil => intro c hc; simp at hc
  | cons q qs ih =>
    cases s with
    | nil => simp [startsWith] at h
    | cons d ds =>
      simp only [startsWith, Bool.and_eq_true, beq_iff_eq] at h
      intro c hc
      rcases List.mem_cons.mp hc with rfl | hc
      · simp [h.1]
      · exact List.mem_cons_of_mem _ (ih h.2 c hc)

theorem mem_of_isInfix {p s : Str} (h : isInfix p s = true) : ∀ c ∈ p, c ∈ s := by
  induction s with
  | nil =>
    simp only [isInfix, List.isEmpty_iff] at h
    subst h; intro c hc; simp at hc
  | cons d ds ih =>
    simp only [isInfix, Bool.or_eq_true] at h
    intro c hc
    rcases h with h | h
    · exact mem_of_startsWith h c hc
    · exact List.mem_cons_of_mem _ (ih h c hc)

theorem no_err_of_no_colon {s : Str} (h : ':' ∉ s) : isInfix sErr s = false := by
  cases hi : isInfix sErr s with
  | false => rfl
  | true => exact absurd (mem_of_isInfix hi ':' (by simp [sErr])) h

theorem strip_data {name payload : Str} (h : NoEdge (name ++ ',' :: payload)) :
    strip (name ++ ',' :: (payload ++ ['\n'])) = name ++ ',' :: payload := by
  have : name ++ ',' :: (payload ++ ['\n']) = (name ++ ',' :: payload) ++ ['\n'] := by simp
  rw [this, strip_line h]

theorem startsWith_append {s p : Str} (z : Str) (h : startsWith s p = true) : startsWith (s ++ z) p = true := by
  induction p generalizing s with
  | nil => cases s <;> cases z <;> rfl
  | cons q qs ih =>
    cases s with
    | nil => simp [startsWith] at h
    | cons d ds =>
      simp only [startsWith, Bool.and_eq_true] at h
      simp only [List.cons_append, startsWith, Bool.and_eq_true]
      exact ⟨h.1, ih h.2⟩

theorem isInfix_nil (s : Str) : isInfix [] s = true := by
  cases s with
  | nil => rfl
  | cons c cs => simp [isInfix, startsWith]

theorem isInfix_append {p s : Str} (z : Str) (h : isInfix p s = true) : isInfix p (s ++ z) = true := by
  induction s with
  | nil =>
    simp only [isInfix, List.isEmpty_iff] at h
    subst h; exact isInfix_nil _
  | cons c cs ih =>
    simp only [isInfix, Bool.or_eq_true] at h
    simp only [List.cons_append, isInfix, Bool.or_eq_true]
    rcases h with h | h
    · left
      have := startsWith_append z h
      simpa using this
    · right; exact ih h

/-- the `QT` reply line as `query` sees it: only the blanks at the end of the stored name go -/
theorem qt_strip (nm : Str) : strip (cQT ++ ',' :: (nm ++ ['\n'])) = cQT ++ ',' :: rstrip nm := by
  obtain ⟨z, hz, e⟩ := rstrip_decomp nm
  have hne := noEdge_prefixed_last 'Q' 'T' ',' (by decide) (by decide) (rstrip_last nm)
  have hz' : AllSp (z ++ ['\n']) := allSp_append hz (fun c hc => by rw [List.mem_singleton.mp hc]; rfl)
  have := strip_unique (a := []) (m := cQT ++ ',' :: rstrip nm) (z := z ++ ['\n']) allSp_nil hz' hne
  rw [← this]
  congr 1
  rw (occs := [1]) [e]
  simp [cQT]

theorem qt_noErr (nm : Str) (herr : isInfix sErr nm = false) : isInfix sErr (cQT ++ ',' :: rstrip nm) = false := by
  obtain ⟨z, hz, e⟩ := rstrip_decomp nm
  have h0 : isInfix sErr (rstrip nm) = false := by
    cases h : isInfix sErr (rstrip nm) with
    | false => rfl
    | true =>
      have := isInfix_append z h
      rw [← e, herr] at this
      exact absurd this (by simp)
  have h0' : isInfix ['E', 'r', 'r', ':'] (rstrip nm) = false := h0
  simp [isInfix, startsWith, sErr, cQT, h0']

theorem isspace_of_last {s : Str} (h : ∀ c, s.getLast? = some c → isPySpace c = false) : isspace s = false := by
  cases hs : s with
  | nil => rfl
  | cons c cs =>
    have hne : s ≠ [] := by rw [hs]; simp
    have hx := h (s.getLast hne) (List.getLast?_eq_some_getLast hne)
    have hmem : s.getLast hne ∈ s := List.getLast_mem hne
    rw [← hs]
    unfold isspace
    have : s.all isPySpace = false := by
      rw [List.all_eq_false]
      exact ⟨_, hmem, by simp [hx]⟩
    simp [this]

end C16
end Plotink
