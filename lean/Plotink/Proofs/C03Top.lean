import Plotink.Proofs.C03Mirror
import Plotink.Proofs.NumExact
import Plotink.Gen.calculate_lm
import Plotink.Gen.moveTimeLM
/-! # C03 — the domain predicate `ValidLM`; the early exits of the model and of the generated code -/
namespace Plotink
namespace C03
open Fw

/-- effective (mirrored for the legacy negative-step form) parameter -/
def eff (steps x : Int) : Int := if steps < 0 then -x else x

/-- the property's domain for a request whose Spec result has duration `T`: a given accumulator lies in
`[0, 2^31)` and every per-tick rate up to `T` is within `±(2^31 − 1)`. (That the budget is reached is
expressed by the Spec returning a result.) -/
structure ValidLM (steps rate accel : Int) (acc : Option Int) (T : Int) : Prop where
  acc_range : ∀ a, acc = some a → 0 ≤ a ∧ a < two31
  rates : ∀ k : Nat, 1 ≤ k → (k : Int) ≤ T →
    -(two31 - 1) ≤ ltRate (eff steps rate) (eff steps accel) k ∧
      ltRate (eff steps rate) (eff steps accel) k ≤ two31 - 1

theorem lmStart_range (steps rate accel : Int) (acc : Option Int) (T : Int)
    (hv : ValidLM steps rate accel acc T) (r a : Int) :
    0 ≤ lmStart r a acc ∧ lmStart r a acc < two31 :=
  startAcc_eq_lmStart r a acc ▸ startAcc_range r a acc hv.acc_range

theorem lmSpecPos_eq_some (n rate accel : Int) (acc : Option Int) (fuel : Nat) (res : Int × Int × Int) :
    lmSpecPos n rate accel acc fuel = some res ↔
      ∃ T, lmFirstTick rate accel (lmStart rate accel acc) n fuel = some T ∧
        target rate accel (lmStart rate accel acc) T = res := by
  cases h : lmFirstTick rate accel (lmStart rate accel acc) n fuel <;> simp [lmSpecPos, target, h]

theorem lmPos_correct (n rate accel : Int) (acc : Option Int) (fuel : Nat) (res : Int × Int × Int)
    (hn : 1 ≤ n) (hnz : ¬ (rate = 0 ∧ accel = 0))
    (hacc : 0 ≤ lmStart rate accel acc ∧ lmStart rate accel acc < two31)
    (hspec : lmSpecPos n rate accel acc fuel = some res)
    (hR : ∀ k : Nat, 1 ≤ k → (k : Int) ≤ res.1 →
      -(two31 - 1) ≤ ltRate rate accel k ∧ ltRate rate accel k ≤ two31 - 1) :
    lmPos n rate accel acc = res := by
  obtain ⟨T, hft, rfl⟩ := (lmSpecPos_eq_some ..).mp hspec
  obtain ⟨hF, _⟩ := (lmFirstTick_eq_some_iff rate accel _ n hn fuel T).mp hft
  unfold lmPos
  rw [startAcc_eq_lmStart]
  exact lmPosA_correct rate accel _ n T hnz
    ⟨hn, hacc.1, hacc.2, hF, fun k hk hk' => hR k hk (Int.ofNat_le.mpr hk')⟩

open Py Py.Val

/-- the early exits of `calculate_lm`: `z` is returned for the requests that cannot move, `x` continues the legacy
negative-step form, `y` the ordinary one -/
theorem exits_eq {α : Type} (s r a : Int) (z x y : α) :
    (if s = 0 then z else if a = 0 ∧ r = 0 then z else if s < 0 then (if r < 0 then z else x) else y)
      = if lmDegenerate s r a then z else if s < 0 then x else y := by
  have hd : lmDegenerate s r a ↔ s = 0 ∨ (r = 0 ∧ a = 0) ∨ (s < 0 ∧ r < 0) := Iff.rfl
  by_cases h1 : s = 0
  · rw [if_pos h1, if_pos (hd.mpr (Or.inl h1))]
  by_cases h2 : a = 0 ∧ r = 0
  · rw [if_neg h1, if_pos h2, if_pos (hd.mpr (Or.inr (Or.inl h2.symm)))]
  by_cases h3 : s < 0
  · by_cases h4 : r < 0
    · rw [if_neg h1, if_neg h2, if_pos h3, if_pos h4, if_pos (hd.mpr (Or.inr (Or.inr ⟨h3, h4⟩)))]
    · rw [if_neg h1, if_neg h2, if_pos h3, if_neg h4, if_neg (mt hd.mp (by omega)), if_pos h3]
  · rw [if_neg h1, if_neg h2, if_neg h3, if_neg (mt hd.mp (by omega)), if_neg h3]

theorem calculate_lm_eq (steps rate accel : Int) (acc : Option Int) :
    C03.calculate_lm steps rate accel acc = if lmDegenerate steps rate accel then (0, 0, 0)
      else if steps < 0 then lmPos (-steps) (-rate) (-accel) acc else lmPos steps rate accel acc :=
  exits_eq ..

/-- the same exits as the generated `calculate_lm` tests them, on integer arguments -/
theorem early_exits {α : Type} (s r a : Int) (z x y : α) :
    (if Py.eq (Py.int_ (.int s)) (.int 0) = true then z else
      if (Py.eq (Py.int_ (.int a)) (.int 0) && Py.eq (Py.int_ (.int r)) (.int 0)) = true then z else
      if Py.lt (Py.int_ (.int s)) (.int 0) = true then
        (if Py.lt (Py.int_ (.int r)) (.int 0) = true then z else x) else y)
    = if lmDegenerate s r a then z else if s < 0 then x else y := by
  simp only [int_int, eq_int_int, lt_int_int, Bool.and_eq_true, decide_eq_true_eq]
  exact exits_eq ..

end C03
end Plotink
