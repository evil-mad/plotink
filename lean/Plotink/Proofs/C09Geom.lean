import Plotink.Model.C09
import Mathlib.Tactic.Linarith
import Mathlib.Tactic.Ring
import Mathlib.Tactic.SplitIfs
import Mathlib.Tactic.LinearCombination
import Mathlib.Algebra.Order.Field.Basic
import Mathlib.Algebra.Order.Field.Rat

/-! Geometry lemmas for C09: the three-region formula is the minimum squared distance to the segment. -/
namespace Plotink
namespace C09

/-! With `w = p - a`, `d = b - a` the squared distance at parameter `t` is the quadratic `|w|² - 2 t (w·d) + t² |d|²`, and
the three regions of `distSq` are its minimum over `[0, 1]` for the three positions of its vertex `(w·d) / |d|²`. -/

def wSq (a p : Pt) : Rat := (p.1 - a.1) * (p.1 - a.1) + (p.2 - a.2) * (p.2 - a.2)
def dot (a b p : Pt) : Rat := (p.1 - a.1) * (b.1 - a.1) + (p.2 - a.2) * (b.2 - a.2)

theorem wSq_nonneg (a p : Pt) : 0 ≤ wSq a p := add_nonneg (mul_self_nonneg _) (mul_self_nonneg _)

theorem atSq_eq (a b p : Pt) (t : Rat) : atSq a b p t = wSq a p - 2 * t * dot a b p + t * t * wSq a b := by
  unfold atSq wSq dot; ring

/-- third region: Lagrange's identity `(w × d)² = |w|² |d|² - (w·d)²` -/
theorem distSq_eq (a b p : Pt) : distSq a b p =
    if dot a b p ≤ 0 then wSq a p else if wSq a b ≤ dot a b p then wSq a p - 2 * dot a b p + wSq a b
    else (wSq a p * wSq a b - dot a b p * dot a b p) / wSq a b := by
  unfold distSq wSq dot
  simp only
  congr 2 <;> ring

section quadratic
variable {W c1 c2 : Rat}

theorem quad_min {t : Rat} (h0 : 0 ≤ t) (h1 : t ≤ 1) (hc2 : 0 ≤ c2) :
    (if c1 ≤ 0 then W else if c2 ≤ c1 then W - 2 * c1 + c2 else (W * c2 - c1 * c1) / c2)
      ≤ W - 2 * t * c1 + t * t * c2 := by
  split_ifs with hc1 hc
  · -- difference `2 t (-c₁) + t² c₂`
    linarith [mul_nonneg h0 (neg_nonneg.mpr hc1), mul_nonneg (mul_nonneg h0 h0) hc2]
  · -- difference `2 (1 - t) (c₁ - c₂) + (1 - t)² c₂`
    have ht := sub_nonneg.mpr h1
    linarith [mul_nonneg ht (sub_nonneg.mpr hc), mul_nonneg (mul_nonneg ht ht) hc2]
  · -- `c₂ ·` difference `= (t c₂ - c₁)²`
    rw [div_le_iff₀ (lt_trans (not_le.mp hc1) (not_le.mp hc))]
    linarith [mul_self_nonneg (t * c2 - c1)]

theorem quad_attained : ∃ t : Rat, 0 ≤ t ∧ t ≤ 1 ∧ W - 2 * t * c1 + t * t * c2 =
    if c1 ≤ 0 then W else if c2 ≤ c1 then W - 2 * c1 + c2 else (W * c2 - c1 * c1) / c2 := by
  split_ifs with hc1 hc
  · exact ⟨0, le_refl _, zero_le_one, by ring⟩
  · exact ⟨1, zero_le_one, le_refl _, by ring⟩
  · -- the vertex `t = c₁ / c₂`
    have hpos := lt_trans (not_le.mp hc1) (not_le.mp hc)
    have ht : c1 / c2 * c2 = c1 := div_mul_cancel₀ _ hpos.ne'
    refine ⟨c1 / c2, div_nonneg (not_le.mp hc1).le hpos.le, (div_le_one hpos).mpr (not_le.mp hc).le, ?_⟩
    rw [eq_div_iff hpos.ne']
    linear_combination (c1 / c2 * c2 - c1) * ht

end quadratic

theorem distSq_le_atSq (a b p : Pt) (t : Rat) (h0 : 0 ≤ t) (h1 : t ≤ 1) :
    distSq a b p ≤ atSq a b p t := by
  rw [distSq_eq, atSq_eq]
  exact quad_min h0 h1 (wSq_nonneg a b)

theorem distSq_attained (a b p : Pt) :
    ∃ t : Rat, 0 ≤ t ∧ t ≤ 1 ∧ atSq a b p t = distSq a b p := by
  simp only [distSq_eq, atSq_eq]
  exact quad_attained

theorem distSq_nonneg (a b p : Pt) : 0 ≤ distSq a b p := by
  obtain ⟨t, _, _, ht⟩ := distSq_attained a b p
  rw [← ht]; unfold atSq; exact add_nonneg (mul_self_nonneg _) (mul_self_nonneg _)

theorem false_iff_lt {x t : Rat} (h : t ≤ x) : False ↔ x < t :=
  ⟨False.elim, not_lt.mpr h⟩

theorem true_iff_lt {x t : Rat} (h : ¬ t ≤ x) : true = true ↔ x < t :=
  ⟨fun _ => not_le.mp h, fun _ => rfl⟩

/-- the unrolled per-point test of `points_in_tolerance` is "squared distance < tol²" -/
theorem ptOk_iff (s0 s1 : Pt) (tolSq : Rat) (p : Pt) :
    ptOk s0 s1 tolSq p = true ↔ distSq s0 s1 p < tolSq := by
  unfold ptOk distSq
  simp only [ge_iff_le]
  split_ifs with h1 h2 h3 h4 h5 h6
  · exact false_iff_lt h2
  · exact true_iff_lt h2
  · exact false_iff_lt h4
  · exact true_iff_lt h4
  · -- `segLenSq = 0` cannot be reached: `0 < temp1 < segLenSq`
    linarith
  · exact false_iff_lt h6
  · exact true_iff_lt h6

end C09
end Plotink
