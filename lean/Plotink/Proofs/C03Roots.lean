import Plotink.Model.C03
import Mathlib.Tactic.Linarith
import Mathlib.Tactic.Ring
/-! # C03 — ceiling division, integer square roots, and the ceiled roots of the quadratic -/
namespace Plotink
namespace C03

theorem cdiv_le_iff (x y n : Int) (hy : 0 < y) : cdiv x y ≤ n ↔ x ≤ y * n := by
  unfold cdiv
  rw [neg_le, Int.le_ediv_iff_mul_le hy, neg_mul, neg_le_neg_iff, mul_comm]

theorem lt_cdiv_iff (x y n : Int) (hy : 0 < y) : n < cdiv x y ↔ y * n < x := by
  rw [← not_le, cdiv_le_iff x y n hy, not_le]

private theorem fsqrt_bounds (d : Int) (hd : 0 ≤ d) :
    0 ≤ fsqrt d ∧ fsqrt d * fsqrt d ≤ d ∧ d < (fsqrt d + 1) * (fsqrt d + 1) := by
  unfold fsqrt
  have h1 : (Nat.sqrt d.toNat : Int) * (Nat.sqrt d.toNat : Int) ≤ (d.toNat : Int) := by
    exact_mod_cast Nat.sqrt_le d.toNat
  have h2 : ((d.toNat : Nat) : Int) < ((Nat.sqrt d.toNat : Int) + 1) * ((Nat.sqrt d.toNat : Int) + 1) := by
    exact_mod_cast Nat.lt_succ_sqrt d.toNat
  rw [Int.toNat_of_nonneg hd] at h1 h2
  exact ⟨Int.natCast_nonneg _, h1, h2⟩

theorem fsqrt_spec (d : Int) (hd : 0 ≤ d) (m : Int) : m ≤ fsqrt d ↔ (m ≤ 0 ∨ m * m ≤ d) := by
  obtain ⟨h0, h1, h2⟩ := fsqrt_bounds d hd
  constructor
  · intro h
    rcases le_or_gt m 0 with hm | hm
    · exact Or.inl hm
    · exact Or.inr ((mul_self_le_mul_self hm.le h).trans h1)
  · rintro (h | h)
    · exact h.trans h0
    · by_contra hc
      have : fsqrt d + 1 ≤ m := by omega
      exact absurd ((mul_self_le_mul_self (by omega) this).trans h) (not_le.mpr h2)

theorem csqrt_spec (d : Int) (hd : 0 ≤ d) (m : Int) : csqrt d ≤ m ↔ (0 ≤ m ∧ d ≤ m * m) := by
  obtain ⟨h0, h1, h2⟩ := fsqrt_bounds d hd
  have hc : 0 ≤ csqrt d ∧ d ≤ csqrt d * csqrt d ∧ ∀ m, 0 ≤ m → m < csqrt d → m * m < d := by
    unfold csqrt
    split
    · rename_i he
      exact ⟨h0, he.ge, fun m hm hlt => he ▸ mul_self_lt_mul_self hm hlt⟩
    · rename_i hne
      refine ⟨by omega, h2.le, fun m hm hlt => ?_⟩
      exact lt_of_le_of_lt (mul_self_le_mul_self hm (by omega)) (lt_of_le_of_ne h1 hne)
  obtain ⟨c0, c1, c2⟩ := hc
  constructor
  · intro h
    exact ⟨c0.trans h, c1.trans (mul_self_le_mul_self c0 h)⟩
  · rintro ⟨hm, hd'⟩
    by_contra hlt
    exact absurd hd' (not_le.mpr (c2 m hm (not_le.mp hlt)))

theorem disc_identity (a k c t : Int) :
    (2 * a * t + k) * (2 * a * t + k) - (k * k - 8 * a * c) = 4 * a * (a * t * t + k * t + 2 * c) := by ring

theorem disc_le_sq_iff (a k c t : Int) (ha : 0 < a) :
    k * k - 8 * a * c ≤ (2 * a * t + k) * (2 * a * t + k) ↔ 0 ≤ a * t * t + k * t + 2 * c := by
  rw [← sub_nonneg, disc_identity]
  exact mul_nonneg_iff_of_pos_left (by omega)

theorem sq_le_disc_iff (a k c t : Int) (ha : 0 < a) :
    (2 * a * t + k) * (2 * a * t + k) ≤ k * k - 8 * a * c ↔ a * t * t + k * t + 2 * c ≤ 0 := by
  rw [← sub_nonpos, disc_identity, ← not_lt, ← not_lt, mul_pos_iff_of_pos_left (by omega)]

/-- `q(t) = a·t² + k·t + 2c` is an integer, so where it is non-zero `(2at + k)²` and the scaled discriminant
`k² − 8ac` are at least `4a` apart -/
theorem sq_add_le_disc (a k c t : Int) (ha : 0 < a) (hq : a * t * t + k * t + 2 * c < 0) :
    (2 * a * t + k) * (2 * a * t + k) + 4 * a ≤ k * k - 8 * a * c := by
  have := mul_le_mul_of_nonneg_left (Int.add_one_le_of_lt hq) (by omega : 0 ≤ 4 * a)
  linarith [disc_identity a k c t]

theorem disc_add_le_sq (a k c t : Int) (ha : 0 < a) (hq : 0 < a * t * t + k * t + 2 * c) :
    k * k - 8 * a * c + 4 * a ≤ (2 * a * t + k) * (2 * a * t + k) := by
  have := mul_le_mul_of_nonneg_left (Int.add_one_le_of_lt hq) (by omega : 0 ≤ 4 * a)
  linarith [disc_identity a k c t]

theorem big_root_spec (a k c : Int) (ha : 0 < a) (hD : 0 ≤ k * k - 8 * a * c) (t : Int) :
    cdiv (csqrt (k * k - 8 * a * c) - k) (2 * a) ≤ t ↔
      (0 ≤ 2 * a * t + k ∧ 0 ≤ a * t * t + k * t + 2 * c) := by
  rw [cdiv_le_iff _ _ _ (by omega : (0 : Int) < 2 * a), sub_le_iff_le_add, csqrt_spec _ hD,
    disc_le_sq_iff a k c t ha]

theorem small_root_spec (a k c : Int) (ha : 0 < a) (hD : 0 ≤ k * k - 8 * a * c) (t : Int) :
    cdiv (-fsqrt (k * k - 8 * a * c) - k) (2 * a) ≤ t ↔
      (0 ≤ 2 * a * t + k ∨ a * t * t + k * t + 2 * c ≤ 0) := by
  rw [cdiv_le_iff _ _ _ (by omega : (0 : Int) < 2 * a), sub_le_iff_le_add, neg_le, fsqrt_spec _ hD,
    neg_nonpos, neg_mul_neg, sq_le_disc_iff a k c t ha]

theorem small_le_big (a k c : Int) (ha : 0 < a) (hD : 0 ≤ k * k - 8 * a * c) :
    cdiv (-fsqrt (k * k - 8 * a * c) - k) (2 * a) ≤ cdiv (csqrt (k * k - 8 * a * c) - k) (2 * a) :=
  (small_root_spec a k c ha hD _).mpr (Or.inl ((big_root_spec a k c ha hD _).mp le_rfl).1)

end C03
end Plotink
