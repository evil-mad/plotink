import Plotink.Proofs.Ebb3Verdict
/-!
Lemmas behind C05: the read loop on a script equals the list-combinator specification; the specification's
`commandError` / `queryError` / `queryValue` are the verdicts of `Proofs/Ebb3Verdict.lean` on what the script answers, hence
`command` / `query` on a script in closed form.  Core Lean only.
-/
namespace Plotink
namespace Ebb3
open Spec

theorem portRead_script_nil (st : St) (ws : List WriteEv) (out : List Str) (nr : Nat) :
    portRead scriptDev ⟨st, ⟨[], ws⟩, out, nr⟩ = (.ok (some []), ⟨st, ⟨[], ws⟩, out, nr + 1⟩) := rfl

theorem portRead_script_line (st : St) (s : Str) (rs : List ReadEv) (ws : List WriteEv) (out : List Str)
    (nr : Nat) :
    portRead scriptDev ⟨st, ⟨.line s :: rs, ws⟩, out, nr⟩ = (.ok (some s), ⟨st, ⟨rs, ws⟩, out, nr + 1⟩) := rfl

theorem portRead_script_raise (st : St) (rs : List ReadEv) (ws : List WriteEv) (out : List Str)
    (nr : Nat) :
    portRead scriptDev ⟨st, ⟨.raise :: rs, ws⟩, out, nr⟩ = (.ok Option.none, ⟨st, ⟨rs, ws⟩, out, nr + 1⟩) := rfl

/-- `Reply` as the value the loop returns -/
def replyOpt : Reply → Option Str
  | .text t => some t
  | .timeout => some []
  | .ioError => Option.none

theorem firstReply_zero (reads : List ReadEv) : firstReply 0 reads = .timeout := by
  simp [firstReply]

theorem readsUsed_zero (reads : List ReadEv) : readsUsed 0 reads = 0 := by
  simp [readsUsed]

theorem firstReply_nil (n : Nat) : firstReply n [] = .timeout := by
  simp [firstReply]

theorem readsUsed_nil (n : Nat) : readsUsed n [] = n := by
  simp [readsUsed]

theorem firstReply_blank (n : Nat) (r : ReadEv) (rs : List ReadEv) (h : isBlank r = true) :
    firstReply (n + 1) (r :: rs) = firstReply n rs := by
  simp [firstReply, List.take_succ_cons, h]

theorem readsUsed_blank (n : Nat) (r : ReadEv) (rs : List ReadEv) (h : isBlank r = true) :
    readsUsed (n + 1) (r :: rs) = readsUsed n rs + 1 := by
  simp only [readsUsed, List.take_succ_cons, List.takeWhile_cons, h, if_true, List.length_cons]
  split <;> split <;> omega

theorem firstReply_nonblank (n : Nat) (r : ReadEv) (rs : List ReadEv) (h : isBlank r = false) :
    firstReply (n + 1) (r :: rs) = replyOfEv r := by
  simp [firstReply, List.take_succ_cons, h]

theorem readsUsed_nonblank (n : Nat) (r : ReadEv) (rs : List ReadEv) (h : isBlank r = false) :
    readsUsed (n + 1) (r :: rs) = 1 := by
  simp [readsUsed, List.take_succ_cons, h]

theorem readLoop_script (n : Nat) (st : St) (reads : List ReadEv) (ws : List WriteEv) (out : List Str)
    (nr : Nat) :
    readLoop scriptDev n ⟨st, ⟨reads, ws⟩, out, nr⟩ =
      (.ok (replyOpt (firstReply n reads)),
       ⟨st, ⟨reads.drop (readsUsed n reads), ws⟩, out, nr + readsUsed n reads⟩) := by
  induction n generalizing reads nr with
  | zero => simp [readLoop, firstReply_zero, readsUsed_zero, replyOpt]
  | succ n ih =>
    cases reads with
    | nil =>
      rw [readLoop, bind_ok (portRead_script_nil st ws out nr)]
      have hs : (strip ([] : Str)).isEmpty = true := by decide
      simp only [hs, if_true]
      rw [ih [] (nr + 1)]
      simp [firstReply_nil, readsUsed_nil]
      omega
    | cons r rs =>
      cases r with
      | raise =>
        rw [readLoop, bind_ok (portRead_script_raise st rs ws out nr)]
        have hb : isBlank ReadEv.raise = false := rfl
        simp [firstReply_nonblank _ _ _ hb, readsUsed_nonblank _ _ _ hb, replyOpt, replyOfEv]
      | line s =>
        rw [readLoop, bind_ok (portRead_script_line st s rs ws out nr)]
        by_cases hs : (strip s).isEmpty = true
        · have hb : isBlank (ReadEv.line s) = true := hs
          simp only [hs, if_true]
          rw [ih rs (nr + 1), firstReply_blank _ _ _ hb, readsUsed_blank _ _ _ hb]
          simp
          omega
        · have hb : isBlank (ReadEv.line s) = false := by simpa [isBlank] using hs
          simp only [hs]
          simp [firstReply_nonblank _ _ _ hb, readsUsed_nonblank _ _ _ hb, replyOpt, replyOfEv]

theorem readsUsed_le (n : Nat) (reads : List ReadEv) : readsUsed n reads ≤ n := by
  unfold readsUsed
  split
  · have : (List.take n reads).length ≤ n := by simp [List.length_take]; omega
    omega
  · omega

theorem text_nonempty {n : Nat} {reads : List ReadEv} {t : Str} (h : firstReply n reads = .text t) :
    t ≠ [] := by
  unfold firstReply at h
  split at h
  · cases h
  · rename_i ev heq
    have := List.head?_dropWhile_not isBlank (List.take n reads)
    rw [heq] at this
    cases ev with
    | raise => cases h
    | line s =>
      simp only [replyOfEv] at h
      injection h with h
      subst h
      intro h0
      simp [isBlank, h0] at this

theorem queryError_none_iff (P : Params) (q name : Str) (wo : WriteEv) (reads : List ReadEv) :
    queryError P q name wo reads = Option.none ↔
      wo = .ok ∧ accepted name (firstReply (P.retryQry + 1) reads) = true := by
  simp only [queryError]
  cases wo with
  | raise => by_cases hi : lower name ∈ P.ignoreQry <;> simp [hi]
  | ok =>
    cases firstReply (P.retryQry + 1) reads with
    | ioError => by_cases hi : lower name ∈ P.ignoreQry <;> simp [hi, accepted]
    | timeout => simp [accepted]
    | text t =>
      by_cases hp : startsWith name t = true <;> by_cases hx : hasErr t = true <;> simp [hp, hx, accepted]

theorem portWrite_script (st : St) (reads : List ReadEv) (ws : List WriteEv) (out : List Str) (nr : Nat)
    (text : Str) :
    portWrite scriptDev text ⟨st, ⟨reads, ws⟩, out, nr⟩ =
      (.ok (firstWrite ⟨reads, ws⟩ == .ok), ⟨st, ⟨reads, ws.tail⟩, out ++ [text], nr⟩) := by
  cases ws <;> rfl

def usedReads (n : Nat) (wo : WriteEv) (reads : List ReadEv) : Nat :=
  match wo with
  | .ok => readsUsed n reads
  | .raise => 0

theorem usedReads_le (n : Nat) (wo : WriteEv) (reads : List ReadEv) : usedReads n wo reads ≤ n := by
  cases wo
  · exact readsUsed_le n reads
  · exact Nat.zero_le n

def exchangeReply (n : Nat) (wo : WriteEv) (reads : List ReadEv) : Option Str :=
  match wo with
  | .ok => replyOpt (firstReply n reads)
  | .raise => Option.none

theorem exchange_script (retry : Nat) (text : Str) (st : St) (reads : List ReadEv) (ws : List WriteEv)
    (out : List Str) (nr : Nat) :
    exchange scriptDev retry text ⟨st, ⟨reads, ws⟩, out, nr⟩ =
      (.ok (exchangeReply (retry + 1) (firstWrite ⟨reads, ws⟩) reads),
       ⟨st, ⟨reads.drop (usedReads (retry + 1) (firstWrite ⟨reads, ws⟩) reads), ws.tail⟩,
        out ++ [text ++ ['\r']], nr + usedReads (retry + 1) (firstWrite ⟨reads, ws⟩) reads⟩) := by
  unfold exchange
  rw [bind_ok (portWrite_script st reads ws out nr _)]
  cases hw : firstWrite ⟨reads, ws⟩ with
  | ok => simp [readLoop_script, exchangeReply, usedReads]
  | raise => simp [exchangeReply, usedReads]

theorem recordError_apply {σ : Type} (msg : Str) (w : World σ) :
    (recordError msg : M σ Unit) w = (.ok (), { w with st := recordErrorSt msg w.st }) := rfl

theorem recordErrorSt_some (msg : Str) (st : St) (e : Str) (h : st.err = some e) :
    recordErrorSt msg st = st := by
  simp [recordErrorSt, h]

theorem commandError_eq (P : Params) (cmd : Str) {name : Str} (hne : name ≠ []) (wo : WriteEv) (reads : List ReadEv) :
    commandError P cmd name wo reads = cmdVerdict P cmd name (exchangeReply (P.retryCmd + 1) wo reads) := by
  unfold commandError exchangeReply
  cases wo with
  | raise => rfl
  | ok =>
    dsimp only
    cases hr : firstReply (P.retryCmd + 1) reads with
    | ioError => rfl
    | timeout => simp [replyOpt, cmdVerdict, startsWith_nil_right hne]
    | text t =>
      have ht : t.isEmpty = false := by cases t with | nil => exact absurd rfl (text_nonempty hr) | cons _ _ => rfl
      cases hs : startsWith name t <;> simp [replyOpt, cmdVerdict, hs, ht]

theorem queryError_eq (P : Params) (q : Str) {name : Str} (hne : name ≠ []) (wo : WriteEv) (reads : List ReadEv) :
    queryError P q name wo reads = qryVerdictX P q name (exchangeReply (P.retryQry + 1) wo reads) := by
  have usb : (if P.ignoreQry.contains (lower name) then some (Msg.qryTimeout q) else some (Msg.qryUsb q))
      = qryVerdictX P q name .none := by
    unfold qryVerdictX; rw [qryVerdict_nil q hne]
  unfold queryError exchangeReply
  cases wo with
  | raise => exact usb
  | ok =>
    dsimp only
    cases hr : firstReply (P.retryQry + 1) reads with
    | ioError => exact usb
    | timeout => exact (qryVerdict_nil q hne).symm
    | text t =>
      have ht : t.isEmpty = false := by cases t with | nil => exact absurd rfl (text_nonempty hr) | cons _ _ => rfl
      simp [replyOpt, qryVerdictX, qryVerdict, ht]

theorem queryValue_eq (P : Params) (q : Str) {name : Str} (hne : name ≠ []) (wo : WriteEv) (reads : List ReadEv) :
    queryValue P q name wo reads = qryVal P q name (exchangeReply (P.retryQry + 1) wo reads) := by
  obtain ⟨m, hm⟩ := qryVerdictX_none P q hne
  unfold queryValue qryVal
  rw [queryError_eq P q hne]
  unfold exchangeReply
  cases wo with
  | raise => simp only [hm]
  | ok =>
    dsimp only
    cases hr : firstReply (P.retryQry + 1) reads with
    | ioError => simp only [replyOpt, hm]
    | timeout => rw [show replyOpt Reply.timeout = some [] from rfl, qryVerdictX, qryVerdict_nil q hne]
    | text t => cases qryVerdictX P q name (replyOpt (.text t)) <;> rfl

theorem commandCore_script (P : Params) (cmd name : Str) (hn : cmdName cmd = .ok name)
    (st : St) (herr : st.err = Option.none) (reads : List ReadEv) (ws : List WriteEv) (out : List Str) (nr : Nat) :
    commandCore P scriptDev cmd ⟨st, ⟨reads, ws⟩, out, nr⟩ =
      (.ok (.bool (commandError P cmd name (firstWrite ⟨reads, ws⟩) reads).isNone),
       ⟨{ st with err := commandError P cmd name (firstWrite ⟨reads, ws⟩) reads },
        ⟨reads.drop (usedReads (P.retryCmd + 1) (firstWrite ⟨reads, ws⟩) reads), ws.tail⟩,
        out ++ [cmd ++ ['\r']],
        nr + usedReads (P.retryCmd + 1) (firstWrite ⟨reads, ws⟩) reads⟩) := by
  rw [commandCore_of_exchange P scriptDev hn (exchange_script _ _ _ _ _ _ _), ← commandError_eq P cmd (cmdName_ne hn),
    recordOpt_of_none herr]

theorem queryCore_script (P : Params) (q name : Str) (hn : cmdName q = .ok name)
    (st : St) (herr : st.err = Option.none) (reads : List ReadEv) (ws : List WriteEv) (out : List Str) (nr : Nat) :
    queryCore P scriptDev q ⟨st, ⟨reads, ws⟩, out, nr⟩ =
      (.ok (queryValue P q name (firstWrite ⟨reads, ws⟩) reads),
       ⟨{ st with err := queryError P q name (firstWrite ⟨reads, ws⟩) reads },
        ⟨reads.drop (usedReads (P.retryQry + 1) (firstWrite ⟨reads, ws⟩) reads), ws.tail⟩,
        out ++ [q ++ ['\r']],
        nr + usedReads (P.retryQry + 1) (firstWrite ⟨reads, ws⟩) reads⟩) := by
  rw [queryCore_of_exchange P scriptDev hn (exchange_script _ _ _ _ _ _ _), ← queryError_eq P q (cmdName_ne hn),
    ← queryValue_eq P q (cmdName_ne hn), recordOpt_of_none herr]

def Ready {σ : Type} (w : World σ) : Prop := w.st.port = true ∧ w.st.err = Option.none

theorem Ready.not_blocked {σ : Type} {w : World σ} (h : Ready w) : w.st.blocked = false :=
  blocked_false_iff.mpr h

theorem run_command_ready {σ : Type} (P : Params) (D : Device σ) (req : Str) (w : World σ) (h : Ready w) :
    run P D (.command (some req)) w = commandCore P D (strip req) w :=
  Prog.run_open (commandP P D (some req)) _ rfl w h.not_blocked

theorem run_query_ready {σ : Type} (P : Params) (D : Device σ) (req : Str) (w : World σ) (h : Ready w) :
    run P D (.query (some req)) w = queryCore P D (strip req) w :=
  Prog.run_open (queryP P D (some req)) _ rfl w h.not_blocked

theorem window_cases (n : Nat) (reads : List ReadEv) :
    (∃ j ev, j < n ∧ reads[j]? = some ev ∧ isBlank ev = false ∧ (∀ e ∈ reads.take j, isBlank e = true) ∧
        readsUsed n reads = j + 1 ∧
        firstReply n reads = replyOfEv ev)
    ∨ ((∀ e ∈ reads.take n, isBlank e = true) ∧ readsUsed n reads = n ∧ firstReply n reads = .timeout) := by
  induction n generalizing reads with
  | zero => right; simp [readsUsed_zero, firstReply_zero]
  | succ n ih =>
    cases reads with
    | nil => right; simp [readsUsed_nil, firstReply_nil]
    | cons r rs =>
      by_cases hb : isBlank r = true
      · have hcons : ∀ k, (∀ e ∈ rs.take k, isBlank e = true) → ∀ e ∈ (r :: rs).take (k + 1), isBlank e = true := by
          intro k hall e he
          simp only [List.take_succ_cons, List.mem_cons] at he
          rcases he with rfl | he
          · exact hb
          · exact hall e he
        rw [readsUsed_blank _ _ _ hb, firstReply_blank _ _ _ hb]
        rcases ih rs with ⟨j, ev, hj, hget, hnb, hall, hu, hf⟩ | ⟨hall, hu, hf⟩
        · exact Or.inl ⟨j + 1, ev, by omega, by simpa using hget, hnb, hcons j hall, by rw [hu], hf⟩
        · exact Or.inr ⟨hcons n hall, by rw [hu], hf⟩
      · have hb' : isBlank r = false := by simpa using hb
        left
        exact ⟨0, r, by omega, by simp, hb', by simp, readsUsed_nonblank _ _ _ hb',
          firstReply_nonblank _ _ _ hb'⟩

theorem startsWith_split {name t : Str} (h : startsWith name t = true) : ∃ rest, t = name ++ rest :=
  let ⟨rest, hr⟩ := List.isPrefixOf_iff_prefix.mp h
  ⟨rest, hr.symm⟩

theorem stripHeader_append (name rest : Str) : stripHeader name (name ++ rest) = dropComma rest := by
  unfold stripHeader dropComma
  simp only [List.drop_left]
  cases rest <;> rfl

end Ebb3
end Plotink
