import Plotink.Proofs.Ebb3GenDecode

/-! # Bridge: `motors_enable`, with the rule for `if <test>: self.command(text)` (`SimK.optCmd`) -/

namespace Plotink
namespace Ebb3Gen
open PyObj Gen

theorem mqe_res {σ : Type} (P : Ebb3.Params) (D : Ebb3.Device σ) {w w' : Ebb3.World σ} {v : Ebb3.Val}
    (h : (Ebb3.motorsQueryEnabledP P D).run w = (.ok v, w')) :
    v = .none ∨ ∃ m0 m1, v = .pair (.int m0) (.int m1) := by
  by_cases hb : w.st.blocked = true
  · rw [Ebb3.Prog.run_blocked _ _ rfl w hb] at h
    injection h with h1 _; injection h1 with h1
    exact Or.inl h1.symm
  · rw [Ebb3.Prog.run_open _ _ rfl w (by simpa using hb)] at h
    change ((Ebb3.queryP P D (some "QE".toList)).run >>= fun r => match r with
      | .str resp => Ebb3.qeDecode (Ebb3.splitOn ',' resp) | _ => pure Ebb3.Val.none) w = _ at h
    obtain ⟨r, w1, -, h⟩ := Ebb3.bind_inv h
    cases r with
    | str resp =>
      simp only at h
      generalize Ebb3.splitOn ',' resp = l at h
      unfold Ebb3.qeDecode at h
      obtain ⟨a, w2, -, h⟩ := Ebb3.bind_inv h
      obtain ⟨ra, w3, -, h⟩ := Ebb3.bind_inv h
      rcases l with _ | ⟨x, _ | ⟨y, r⟩⟩
      · cases h
      · cases h
      · simp only at h
        obtain ⟨b, w4, -, h⟩ := Ebb3.bind_inv h
        obtain ⟨rb, w5, -, h⟩ := Ebb3.bind_inv h
        injection h with h1 _; injection h1 with h1
        exact Or.inr ⟨ra, rb, h1.symm⟩
    | none | bool _ | int _ | pair _ _ => injection h with h1 _; injection h1 with h1; exact Or.inl h1.symm

theorem emText_ascii (x y : Int) : PyIO.isAscii (Ebb3.emText x y) = true := by
  unfold Ebb3.emText; exact isAscii_lit_comma _ _ (by decide)

/-- `if <cond>: self.command(text)` against `if P then cmd_ text else pure ()` -/
theorem SimK.optCmd {σ : Type} {fuel : Nat} {fs : List (Frame EBB3_Obj σ)} (hf : 26 ≤ fuel) {w : World EBB3_Obj} (hg : Good w)
    {env : σ} {c e : Expr EBB3_Obj σ} {text : List Char} {P : Prop} [Decidable P] {k : Ebb3.M Ebb3.Script Ebb3.Val}
    (hc : c fuel env = ok (.bool (decide P))) (he : e fuel env = ok (.str text)) (hasc : PyIO.isAscii text = true)
    (hk : ∀ w1, Good w1 → SimK Sim fuel fs (.norm env w1) (k (absWorld w1))) (hfs : noCatch fs = true := by rfl) :
    SimK Sim fuel fs (ifte c (expr (fun fuel env => mcall1 (EBB3_command fuel) (e fuel env))) pass fuel env w)
      (((if P then Ebb3.cmd_ Ebb3.srcParams Ebb3.scriptDev text else pure ()) >>= fun _ => k) (absWorld w)) := by
  rw [ifte_of (congrFun hc w), truthy_bool]
  by_cases hP : P
  · rw [if_pos hP, decide_eq_true hP, if_pos rfl, expr_onRes]
    exact SimK.cmd hf hg he hasc (fun _ => hk) hfs
  · rw [if_neg hP, decide_eq_false hP, if_neg Bool.false_ne_true]
    exact hk w hg

/-- the last statement `self.command(f'EM,{r1},{r2}')` and falling off the end -/
theorem me_final (fuel : Nat) (hf : 26 ≤ fuel) (a b : Int) (o m : Val) (w : World EBB3_Obj) (hg : Good w) :
    SimK Sim fuel [] (expr (fun (fuel : Nat) (env : EBBMotionWrap_motors_enable_Env) => mcall1 (EBB3_command fuel)
        (fstr [ok (.str ['E', 'M', ',']), load env.resolution_1, ok (.str [',']), load env.resolution_2])) fuel
        ⟨.int a, .int b, o, m⟩ w)
      ((Ebb3.cmd_ Ebb3.srcParams Ebb3.scriptDev (Ebb3.emText a b) >>= fun _ => pure Ebb3.Val.none) (absWorld w)) := by
  rw [expr_onRes]
  exact SimK.cmd hf hg (by unfold Ebb3.emText; simp only [load_int]; fstr_eval) (emText_ascii a b) fun _ w1 hg1 => SimK.fellOff hg1

theorem motors_enable_bridge (fuel : Nat) (hf : 26 ≤ fuel) (r1 r2 : Int) (w : World EBB3_Obj) (hg : Good w) :
    Sim (EBBMotionWrap_motors_enable fuel (.int r1) (.int r2) w)
      (Ebb3.run Ebb3.srcParams Ebb3.scriptDev (.motors_enable r1 r2) (absWorld w)) := by
  refine SimK.guarded .none hg fun _ => ?_
  show SimK _ _ _ _ (Ebb3.motorsEnableCore Ebb3.srcParams Ebb3.scriptDev (Ebb3.clampRes r1) (Ebb3.clampRes r2) (absWorld w))
  rw [block_cons2, seq_assign_of (v := .int (max r1 0)) (w' := w) (by simp only [load_int, app1_ok, b_int, ofP_ok, app2_ok, b_max2_int, ok_apply]),
    block_cons2, seq_assign_of (v := .int (Ebb3.clampRes r1)) (w' := w) (by simp only [load_int, app2_ok, b_min2_int, ofP_ok, Ebb3.clampRes, ok_apply]),
    block_cons2, seq_assign_of (v := .int (max r2 0)) (w' := w) (by simp only [load_int, app1_ok, b_int, ofP_ok, app2_ok, b_max2_int, ok_apply]),
    block_cons2, seq_assign_of (v := .int (Ebb3.clampRes r2)) (w' := w) (by simp only [load_int, app2_ok, b_min2_int, ofP_ok, Ebb3.clampRes, ok_apply])]
  simp only []
  generalize Ebb3.clampRes r1 = a
  generalize Ebb3.clampRes r2 = b
  unfold Ebb3.motorsEnableCore EBBMotionWrap_motors_enable_if2
  rw [lit_CU500]
  refine SimK.block (SimK.optCmd hf hg (P := a ≠ b ∧ a * b = 0) ?_ rfl (by decide) fun w1 hg1 => SimK.next (SimK.block ?_))
  · simp only [load_int, app2_ok, op_ne, op_eq, op_mul, intOf, pyEq, ofP_ok, and_ok, truthy_bool]
    by_cases h1 : a = b <;> by_cases h2 : a * b = 0 <;> simp [Bool.beq_eq_decide_eq, h1, h2]
  unfold EBBMotionWrap_motors_enable_if3
  refine SimK.iteP ?_ (fun hc => ?_) fun _ => SimK.next (me_final fuel hf a b _ _ w1 hg1)
  · simp only [load_int, app2_ok, op_ne, op_eq, pyEq, ofP_ok, and_ok, truthy_bool]
    by_cases h1 : a = 0 <;> by_cases h2 : b = 0 <;> simp [Bool.beq_eq_decide_eq, h1, h2]
  rw [block_cons2, seq_assign_of (v := .int 0) (w' := w1) rfl]
  refine SimK.block ?_
  rw [assign_onRes]
  refine SimK.call (motors_query_enabled_bridge fuel hf w1 hg1) (mcall0_apply _ w1) fun v w2 hg2 hv _ => SimK.next (SimK.block ?_)
  unfold EBBMotionWrap_motors_enable_if4
  rcases mqe_res _ _ hv with rfl | ⟨m0, m1, rfl⟩
  · exact SimK.ifT rfl (SimK.ret (v := .none) hg2 rfl)
  · refine SimK.ifF rfl (SimK.next ?_)
    have h5 : EBBMotionWrap_motors_enable_if5 fuel ⟨.int a, .int b, .int 0, .tuple [.int m0, .int m1]⟩ w2
        = .norm ⟨.int a, .int b, .int (if m1 ≠ 0 then m1 else 0), .tuple [.int m0, .int m1]⟩ w2 := by
      unfold EBBMotionWrap_motors_enable_if5
      simp only [ifte, load_tuple, app2_ok, show op_getitem (.tuple [.int m0, .int m1]) (.int 1) = .ok (.int m1) from rfl,
        op_ne, pyEq, ofP_ok, ok_apply, truthy_bool, assign, pass]
      by_cases h : m1 = 0 <;> simp [Bool.beq_eq_decide_eq, h]
    have h6 : ∀ x : Int, EBBMotionWrap_motors_enable_if6 fuel ⟨.int a, .int b, .int x, .tuple [.int m0, .int m1]⟩ w2
        = .norm ⟨.int a, .int b, .int (if m0 ≠ 0 then m0 else x), .tuple [.int m0, .int m1]⟩ w2 := by
      intro x
      unfold EBBMotionWrap_motors_enable_if6
      simp only [ifte, load_tuple, app2_ok, show op_getitem (.tuple [.int m0, .int m1]) (.int 0) = .ok (.int m0) from rfl,
        op_ne, pyEq, ofP_ok, ok_apply, truthy_bool, assign, pass]
      by_cases h : m0 = 0 <;> simp [Bool.beq_eq_decide_eq, h]
    simp only [encVal]
    rw [block_cons2, seq_norm h5, block_cons2, seq_norm (h6 _), block_one]
    unfold EBBMotionWrap_motors_enable_if7
    refine SimK.optCmd hf hg2 (P := Ebb3.oldRes m0 m1 ≠ b) ?_ ?_ (emText_ascii b b)
      fun w3 hg3 => SimK.next (me_final fuel hf a b _ _ w3 hg3)
    · simp only [load_int, app2_ok, op_ne, pyEq, ofP_ok]
      rw [show (if m0 ≠ 0 then m0 else if m1 ≠ 0 then m1 else 0) = Ebb3.oldRes m0 m1 from rfl]
      by_cases h : Ebb3.oldRes m0 m1 = b <;> simp [Bool.beq_eq_decide_eq, h]
    · unfold Ebb3.emText; simp only [load_int]; fstr_eval
end Ebb3Gen
end Plotink
