import Plotink.Proofs.C15GenPrims
import Plotink.Proofs.C07
import Plotink.Proofs.C06GenQuery
import Plotink.Gen.ebb_serial_reboot
import Plotink.Gen.ebb_serial_write_nickname
import Plotink.Gen.ebb_serial_query_nickname
/-! # C15 (regenerated code) — the legacy gates

First, the two hand models of `ebb_serial.query` return the same text: `C07.query` (to which the regenerated
`ebb_serial.query` is bridged by `C07_gen_bridge`) returns, on ASCII scripts, what `C07.arrived` says arrived within the
first `retry + 1` reads (`C07.query_text`); `C15.lquery` (on which the C15 gate models run) returns the same on the script
behind the port (`lquery_text`); the gates are functions of that text.

Hence the regenerated `ebb_serial.queryVersion` / `min_version` return what `C15.lquery` / `C15.lminVersion` return on the
same script; the parsing agreement holds for texts without a leading `v` (`NoV`, `NoVScript`).
What a gated feature leaves is `C06Gen.Gated`, settled in `C06GenGate` for both forms in which the gate call stands in a
feature.  Here "returned `True`" is read in the model, the board's reply passes the gate (`gateOk_of_true`), which turns
`Gated` into `GenGate`. -/
namespace Plotink.C15Gen

def absRd : PyIO.Rd → C15.Rd
  | .line b => .line b
  | .empty => .empty
  | .raise _ => .raise
def absWr : PyIO.Wr → C15.Wr
  | .ok => .ok
  | .raise _ => .raise

/-- the `C15` script behind a runtime port: same outcome lists (exception classes forgotten), fresh log; the two write
logs follow different conventions (`PyIO` records an attempted write that raises, `C15.Io` does not) -/
def absIo (p : PyIO.Port) : C15.Io := ⟨[], p.reads.map absRd, p.writes.map absWr, []⟩

/-- the parameters of the `C15` legacy model that the regenerated `ebb_serial.query` / `command` realise (they are
the constants `C07_gen_bridge` was proved against) -/
structure GenParams (P : C15.Params) : Prop where
  retry : P.retryL = C07.std.retry
  decode : P.decodeRetry = true

/-- the two models name the query the same way as far as the no-OK list is concerned -/
def SameName (P : C15.Params) (c : List Char) : Prop :=
  P.noOk.contains (C15.lower (C15.strip ((C15.splitOn ',' c).headD []))) = C07.std.noOK.contains (C07.reqName c)

theorem sameName_of (P : C15.Params) (hP : P.noOk = C15.Params.std.noOk) (c : List Char)
    (h : C15.Params.std.noOk.contains (C15.lower (C15.strip ((C15.splitOn ',' c).headD [])))
        = C07.std.noOK.contains (C07.reqName c)) : SameName P c := by
  unfold SameName; rw [hP]; exact h

/-- the loop of `C15.lquery` returns what arrived; no ASCII hypothesis, `C15.Io.read` cannot fail to decode -/
theorem retryL_arrived (k : Nat) (s : List Char) (rs : List PyIO.Rd) (io : C15.Io) (h : io.reads = rs.map absRd) :
    (C15.retryL true k (.str s) io).1 = .str (if s = [] then C07.arrived k rs else s) := by
  induction k generalizing s rs io with
  | zero => cases s <;> rfl
  | succ k ih =>
    cases s with
    | cons x s => rw [C15.retryL_nonempty true _ io (r := .str (x :: s)) nofun]; rfl
    | nil =>
      obtain ⟨o, reads, w, wr⟩ := io
      subst h
      rw [C15.retryL_nil]
      cases rs with
      | nil => exact (ih [] [] _ rfl).trans (by rw [C07.arrived_nil, C07.arrived_nil])
      | cons r rs =>
        cases r with
        | line b => exact ih b rs _ rfl
        | empty => exact ih [] rs _ rfl
        | raise c => rfl

/-- `C15.lquery` on the script behind a port returns what `C07.query` returns on ASCII scripts (`C07.query_text`).
The no-OK list plays no part: it decides only whether the trailing line is read, not the text. -/
theorem lquery_text (P : C15.Params) (hP : GenParams P) (c : List Char) (p : PyIO.Port) :
    (C15.lquery P (absIo p) c).2 = .ok (if C07.firstWriteOk p = true then C07.arrived (C07.std.retry + 1) p.reads else []) := by
  have key : (C15.lqueryTry P (absIo p) c).1
      = .str (if C07.firstWriteOk p = true then C07.arrived (C07.std.retry + 1) p.reads else []) := by
    rw [C15.lqueryTry_fst P hP.decode, hP.retry]
    obtain ⟨reads, writes, log, n⟩ := p
    rcases writes with _ | ⟨_ | cl, ws⟩
    · exact retryL_arrived _ [] reads _ rfl
    · exact retryL_arrived _ [] reads _ rfl
    · rfl
  unfold C15.lquery
  rw [← Prod.eta (C15.lqueryTry P (absIo p) c), key]

open PyObj Gen
open C06Gen hiding PureE

theorem lit_vQuery : C15.vQuery = ['V', '\r'] := String.toList_ofList

theorem ascii_vQuery : PyIO.isAscii ['V', '\r'] = true := by decide +kernel

/-- the script hypotheses that persist from call to call: faults are serial I/O exceptions, lines are ASCII -/
structure PortOk (p : PyIO.Port) : Prop where
  io : C07Gen.IoScript p
  ascii : C07.allAscii p.reads = true

theorem portOk_iff {p : PyIO.Port} : PortOk p ↔ Dom p := ⟨fun h => ⟨h.io, h.ascii⟩, fun h => ⟨h.1, h.2⟩⟩

theorem queryVersion_gen (fuel : Nat) (hf : 101 ≤ fuel) (w : World NoObj) (hp : PortOk w.port)
    (P : C15.Params) (hP : GenParams P) :
    ∃ s p', ebb_serial_queryVersion fuel .port w = .val (.str s) { w with port := p' } ∧
      (C15.lquery P (absIo w.port) C15.vQuery).2 = .ok s := by
  have ht := (C07.query_text C07.std ['V', '\r'] w.port rfl ascii_vQuery hp.ascii).1
  obtain ⟨e, -⟩ := ioQuery_model fuel hf _ ascii_vQuery (.bool true) w (portOk_iff.mp hp) _ ht
  refine ⟨_, (C07.query C07.std ['V', '\r'] w.port).2, ?_, lquery_text P hP C15.vQuery w.port⟩
  unfold ebb_serial_queryVersion ebb_serial_queryVersion_main
  simp only [PyObj.run, return_, e]

/-- the version texts a device sends have no leading `v` (the property's alphabet; the runtime's `parse` rejects one,
`packaging` accepts it) -/
def NoVScript (rs : List C15.Rd) : Prop := ∀ l t, C15.Rd.line l ∈ rs → C15.versionText l = some t → NoV t

/-- **the legacy gate, regenerated code against the model**: on every script whose faults are
serial I/O exceptions and whose lines are ASCII, the regenerated `min_version(port, thr)` returns what
`C15.lminVersion` returns on the script behind the port. -/
theorem min_version_gen (fuel : Nat) (hf : 101 ≤ fuel) (thr : List Char) (hthr : NoV thr)
    (w : World NoObj) (hp : PortOk w.port) (P : C15.Params) (hP : GenParams P) (hnov : NoVScript (absIo w.port).reads) :
    ∃ p', ebb_serial_min_version fuel .port (.str thr) w
        = LegacyGen.encGate { w with port := p' } (C15.lminVersion P (absIo w.port) thr).2 := by
  obtain ⟨s, p', e, em⟩ := queryVersion_gen fuel hf w hp P hP
  refine ⟨p', LegacyGen.min_version_bridge fuel thr s w _ e P _ _ (Prod.ext rfl em) ?_ (parseRelease_agree thr hthr)⟩
  intro t ht
  apply parseRelease_agree
  by_cases hs : s = []
  · subst hs; rw [C15.versionText_nil] at ht; cases ht
  · obtain ⟨pre, post, hreads, _, _⟩ := C15.lquery_reports P _ C15.vQuery s em hs
    exact hnov s t (by rw [hreads]; simp) ht

/-- what reached the port during a gated legacy feature (attempted writes, in order): the version query, or the
version query followed by the feature's command — the latter only if the board's version reply (the first
non-silent read outcome) parses to at least the gate `thr` -/
def GenGate (p p' : PyIO.Port) (thr cmd : List Char) : Prop :=
  p'.log = p.log ++ [C15.vQuery] ∨ (p'.log = p.log ++ [C15.vQuery, cmd] ∧ C15.GateOk (absIo p) thr)

def outPort {ω : Type} : Out ω → Option PyIO.Port
  | .val _ w => some w.port
  | .exc _ w => some w.port
  | .fuelOut => Option.none

section pure
variable {ω σ : Type}

/-- an effect that leaves the world alone and does not run out of fuel; it is `C06Gen.PureE` (`pureE_iff`) -/
def PureE (e : Eff ω) : Prop := ∀ w, ∃ r, e w = (r, w) ∧ r ≠ Res.fuelOut

theorem pureE_iff {e : Eff ω} : PureE e ↔ C06Gen.PureE e := by
  constructor
  · intro h w
    obtain ⟨r, e, hr⟩ := h w
    cases r with
    | ok v => exact Or.inl ⟨v, e⟩
    | exc c => exact Or.inr ⟨c, e⟩
    | fuelOut => exact absurd rfl hr
  · intro h w
    rcases h w with ⟨v, e⟩ | ⟨c, e⟩
    · exact ⟨.ok v, e, nofun⟩
    · exact ⟨.exc c, e, nofun⟩

theorem pureE_app2 (f : Val → Val → P) {a b : Eff ω} (ha : PureE a) (hb : PureE b) : PureE (app2 f a b) :=
  pureE_iff.mpr (pureE_keeps.mpr (.app2 f (pureE_keeps.mp (pureE_iff.mp ha)) (pureE_keeps.mp (pureE_iff.mp hb))))

end pure

section
set_option linter.unusedVariables false
theorem guard_port {σ : Type} (get : σ → Val) (A B : Stmt NoObj σ) (fuel : Nat) (env : σ) (w : World NoObj)
    (h : get env = .port) :
    ifte (fun fuel env => app1 op_is_not_none (ok (get env))) A B fuel env w = A fuel env w := by
  simp only [ifte, h, app1_ok, op_is_not_none, isNone, ofP_ok, ok_apply, truthy_bool, Bool.not_false, ↓reduceIte]
end

theorem outPort_eq {ω : Type} (o : Out ω) : outPort o = (LegacyGen.outWorld o).map (·.port) := by cases o <;> rfl

theorem vq_eq : vq = C15.vQuery := vq_chars.trans lit_vQuery.symm

theorem gateOk_of_true (fuel : Nat) (hf : 101 ≤ fuel) (thr : List Char) (hthr : NoV thr) (w w1 : World NoObj)
    (hp : PortOk w.port) (P : C15.Params) (hP : GenParams P) (hnov : NoVScript (absIo w.port).reads)
    (h : ebb_serial_min_version fuel .port (.str thr) w = .val (.bool true) w1) : C15.GateOk (absIo w.port) thr := by
  obtain ⟨p1, e⟩ := min_version_gen fuel hf thr hthr w hp P hP hnov
  rw [h] at e
  refine (C15.lminVersion_truthy P (absIo w.port) thr (some true) ?_ rfl).1
  rcases hr : (C15.lminVersion P (absIo w.port) thr).2 with ex | _ | b <;> rw [hr] at e
  · cases ex <;> cases e
  · cases e
  · cases b
    · cases e
    · rfl

theorem genGate_of_gated {fuel : Nat} (hf : 101 ≤ fuel) {thr cmd : List Char} (hthr : NoV thr) {w w' : World NoObj}
    {o : Out NoObj} (hp : PortOk w.port) (P : C15.Params) (hP : GenParams P)
    (hnov : NoVScript (absIo w.port).reads) (ho : LegacyGen.outWorld o = some w') (hg : Gated fuel thr w w' [cmd]) :
    ∃ p', outPort o = some p' ∧ GenGate w.port p' thr cmd := by
  refine ⟨w'.port, by rw [outPort_eq, ho]; rfl, ?_⟩
  exact hg.elim (fun hl => .inl (vq_eq ▸ hl)) fun hl ⟨w1, h⟩ =>
    .inr ⟨vq_eq ▸ hl, gateOk_of_true fuel hf thr hthr w w1 hp P hP hnov h⟩

theorem load_falsy (v : Val) (hv : truthy v = false) (w : World NoObj) :
    (load v : Eff NoObj) w = (.ok v, w) ∨ (load v : Eff NoObj) w = (.exc .unboundLocalError, w) := by
  cases v <;> first | exact Or.inl rfl | exact Or.inr rfl

/-- `if version_status: A` on a falsy (or unbound) `version_status` leaves the port alone -/
theorem ifte_load_falsy {σ : Type} (getv : σ → Val) (A : Stmt NoObj σ) (fuel : Nat) (env : σ) (w : World NoObj)
    (hv : truthy (getv env) = false) : flowWorld (ifte (fun _ env => load (getv env)) A pass fuel env w) = some w := by
  rcases load_falsy _ hv w with h | h
  · simp only [ifte, h, hv, Bool.false_eq_true, ↓reduceIte, pass, flowWorld]
  · simp only [ifte, h, flowWorld]

theorem lit_SR : "SR,".toList = ['S', 'R', ','] := String.toList_ofList

def encOptInt : Option Int → Val
  | some z => .int z
  | Option.none => .none

theorem encOptInt_eq : encOptInt = encOpt := by funext o; cases o <;> rfl

theorem srCmd_wire (t : Int) (st : Option Int) : C15.srCmd t st = (C06Gen.srCmd t st).wire.toList := by
  cases st <;>
    simp only [C15.srCmd_none, C15.srCmd_some, lit_SR, C06Gen.srCmd, wire_cr, argsCR, Option.toList, List.cons_append,
      List.nil_append, List.append_assoc, C15.fmtInt, Ebb3.showInt, show "SR".toList = ['S', 'R'] from by decide]

theorem qn_if6_pure : PureS ebb_serial_query_nickname_if6 := by
  unfold ebb_serial_query_nickname_if6 ebb_serial_query_nickname_if7
  fr_walk

theorem servo_timeout_gen (fuel : Nat) (hf : 101 ≤ fuel) (t : Int) (st : Option Int) (vb : Val)
    (w : World NoObj) (hp : PortOk w.port)
    (P : C15.Params) (hP : GenParams P) (hnov : NoVScript (absIo w.port).reads) :
    ∃ p', outPort (ebb_motion_servo_timeout fuel .port (.int t) (encOptInt st) vb w) = some p' ∧
      GenGate w.port p' ['2', '.', '6', '.', '0'] (C15.srCmd t st) := by
  obtain ⟨w', ho, hg⟩ := servo_timeout_gated fuel hf t st vb w (portOk_iff.mp hp)
  rw [encOptInt_eq, srCmd_wire]
  exact genGate_of_gated hf (by decide +kernel) hp P hP hnov ho hg

theorem queryVoltage_gen (fuel : Nat) (hf : 101 ≤ fuel) (vb : Val)
    (w : World NoObj) (hp : PortOk w.port)
    (P : C15.Params) (hP : GenParams P) (hnov : NoVScript (absIo w.port).reads) :
    ∃ p', outPort (ebb_motion_queryVoltage fuel .port vb w) = some p' ∧
      GenGate w.port p' ['2', '.', '2', '.', '3'] ['Q', 'C', '\r'] := by
  obtain ⟨w', ho, hg⟩ := queryVoltage_gated fuel hf vb w (portOk_iff.mp hp)
  exact genGate_of_gated hf (by decide +kernel) hp P hP hnov ho hg

theorem reboot_gen (fuel : Nat) (hf : 101 ≤ fuel) (w : World NoObj) (hp : PortOk w.port)
    (P : C15.Params) (hP : GenParams P) (hnov : NoVScript (absIo w.port).reads) :
    ∃ p', outPort (ebb_serial_reboot fuel .port w) = some p' ∧
      GenGate w.port p' ['2', '.', '5', '.', '5'] ['R', 'B', '\r'] := by
  refine (?_ : ∃ w', outWorld (ebb_serial_reboot fuel .port w) = some w' ∧
    Gated fuel ['2', '.', '5', '.', '5'] w w' [['R', 'B', '\r']]).elim fun w' h =>
      genGate_of_gated hf (by decide +kernel) hp P hP hnov h.1 h.2
  rw [ebb_serial_reboot, outWorld_run, ebb_serial_reboot_main, ebb_serial_reboot_if1, ifte_pos rfl rfl, block_cons2,
    block_one]
  refine gate_assign hf _ (portOk_iff.mp hp) rfl (fun w1 d1 => ?_)
    (fun v w1 hv => ifte_load_falsy ebb_serial_reboot_Env.version_status _ _ _ _ hv)
  rw [ebb_serial_reboot_if2, ifte_pos rfl rfl]
  exact Sent.try_ (List.forall_mem_singleton.mpr (by fr_walk)) (Sent.command hf (by decide +kernel) d1 rfl)

theorem write_nickname_gen (fuel : Nat) (hf : 101 ≤ fuel) (nick : List Char) (hnick : PyIO.isAscii nick = true)
    (w : World NoObj) (hp : PortOk w.port)
    (P : C15.Params) (hP : GenParams P) (hnov : NoVScript (absIo w.port).reads) :
    ∃ p', outPort (ebb_serial_write_nickname fuel .port (.str nick) w) = some p' ∧
      GenGate w.port p' ['2', '.', '5', '.', '5'] (['S', 'T', ','] ++ nick ++ ['\r']) := by
  refine (?_ : ∃ w', outWorld (ebb_serial_write_nickname fuel .port (.str nick) w) = some w' ∧
    Gated fuel ['2', '.', '5', '.', '5'] w w' [['S', 'T', ','] ++ nick ++ ['\r']]).elim fun w' h =>
      genGate_of_gated hf (by decide +kernel) hp P hP hnov h.1 h.2
  rw [ebb_serial_write_nickname, outWorld_run, ebb_serial_write_nickname_main, block_cons2, block_one]
  refine gate_then_pure (by fr_walk) ?_
  rw [ebb_serial_write_nickname_if1, ifte_pos rfl rfl, block_cons2, block_one]
  refine gate_assign hf _ (portOk_iff.mp hp) rfl (fun w1 d1 => ?_)
    (fun v w1 hv => ifte_load_falsy ebb_serial_write_nickname_Env.version_status _ _ _ _ hv)
  rw [ebb_serial_write_nickname_if2, ifte_pos rfl rfl]
  refine Sent.try_ (List.forall_mem_singleton.mpr (by fr_walk)) ?_
  rw [ebb_serial_write_nickname_try1, block_cons2, block_cons2, block_one, ← List.nil_append [_]]
  have hcmd : PyIO.isAscii (['S', 'T', ','] ++ nick ++ ['\r']) = true :=
    isAscii_append_of (isAscii_append_of (by decide +kernel) hnick) (by decide +kernel)
  exact ((Sent.command hf hcmd d1 rfl).then_pure (by fr_walk)).after (assign_of rfl)
    (List.append_nil _).symm

theorem query_nickname_gen (fuel : Nat) (hf : 101 ≤ fuel) (vb : Val)
    (w : World NoObj) (hp : PortOk w.port)
    (P : C15.Params) (hP : GenParams P) (hnov : NoVScript (absIo w.port).reads) :
    ∃ p', outPort (ebb_serial_query_nickname fuel .port vb w) = some p' ∧
      GenGate w.port p' ['2', '.', '5', '.', '5'] ['Q', 'T', '\r'] := by
  refine (?_ : ∃ w', outWorld (ebb_serial_query_nickname fuel .port vb w) = some w' ∧
    Gated fuel ['2', '.', '5', '.', '5'] w w' [['Q', 'T', '\r']]).elim fun w' h =>
      genGate_of_gated hf (by decide +kernel) hp P hP hnov h.1 h.2
  rw [ebb_serial_query_nickname, outWorld_run, ebb_serial_query_nickname_main, block_cons2, block_one]
  refine gate_then_pure (by fr_walk) ?_
  rw [ebb_serial_query_nickname_if1, ifte_pos rfl rfl, block_cons2, block_cons2, block_one]
  refine gate_assign hf _ (portOk_iff.mp hp) rfl (fun w1 d1 => Sent.then_pure qn_if6_pure ?_)
    (fun v w1 hv => flowWorld_seq qn_if6_pure _ _ _ _
      (ifte_load_falsy ebb_serial_query_nickname_Env.version_status _ _ _ _ hv))
  rw [ebb_serial_query_nickname_if2, ifte_pos rfl rfl, block_cons2]
  exact Sent.query_then_pure hf (by decide +kernel) d1 rfl (by
    unfold ebb_serial_query_nickname_if3 ebb_serial_query_nickname_if4 ebb_serial_query_nickname_if5
    fr_walk)

end Plotink.C15Gen
