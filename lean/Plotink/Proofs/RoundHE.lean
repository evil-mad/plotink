import Plotink.Py
import Mathlib.Tactic.Linarith
import Mathlib.Tactic.NormNum
import Mathlib.Data.Rat.Floor
/-! `Py.roundHE` is Python's `round()`: half to even on the exact value. Only `roundHE_spec` (the floor or the next
integer, according to the fractional part) and `roundHE_half` unfold it; the rest follows from the error bound `1/2`. -/
namespace Plotink
open Py

theorem roundHE_spec (q : Rat) :
    (roundHE q = q.floor ∧ q - q.floor ≤ 1/2) ∨ (roundHE q = q.floor + 1 ∧ 1/2 ≤ q - q.floor) := by
  unfold roundHE
  simp only
  by_cases a : q - q.floor < 1/2
  · exact Or.inl ⟨if_pos a, a.le⟩
  rw [if_neg a]
  by_cases b : q - q.floor > 1/2
  · exact Or.inr ⟨if_pos b, b.le⟩
  rw [if_neg b]
  have e : q - q.floor = 1/2 := le_antisymm (not_lt.mp b) (not_lt.mp a)
  split
  · exact Or.inl ⟨rfl, e.le⟩
  · exact Or.inr ⟨rfl, e.ge⟩

theorem roundHE_err (q : Rat) : |((roundHE q : Int) : Rat) - q| ≤ 1 / 2 := by
  have h1 : ((q.floor : Int) : Rat) ≤ q := Rat.floor_le q
  have h2 : q < ((q.floor : Int) : Rat) + 1 := by exact_mod_cast Rat.lt_floor_add_one q
  rcases roundHE_spec q with ⟨e, h⟩ | ⟨e, h⟩
  · rw [e, abs_sub_comm, abs_of_nonneg (sub_nonneg.mpr h1)]; exact h
  · rw [e, Int.cast_add, Int.cast_one, abs_of_nonneg (sub_nonneg.mpr h2.le)]; linarith only [h]

theorem roundHE_unique (q : Rat) (n : Int) (h : |q - (n : Rat)| < 1 / 2) : roundHE q = n := by
  have h1 : |((roundHE q : Int) : Rat) - n| < 1 :=
    ((abs_sub_le _ q _).trans_lt (add_lt_add_of_le_of_lt (roundHE_err q) h)).trans_eq (add_halves 1)
  have h2 : |roundHE q - n| < 1 := by exact_mod_cast h1
  exact sub_eq_zero.mp (Int.abs_lt_one_iff.mp h2)

theorem roundHE_int (k : Int) : roundHE (k : Rat) = k :=
  roundHE_unique _ k (by rw [sub_self, abs_zero]; norm_num)

theorem roundHE_nearest (q : Rat) (z : Int) : |((roundHE q : Int) : Rat) - q| ≤ |(z : Rat) - q| := by
  by_cases h : z = roundHE q
  · subst h; exact le_refl _
  · have herr := roundHE_err q
    have hne : (1 : Rat) ≤ |(z : Rat) - ((roundHE q : Int) : Rat)| := by
      have : (1 : Int) ≤ |z - roundHE q| := Int.one_le_abs (sub_ne_zero.mpr h)
      have h' : ((1 : Int) : Rat) ≤ ((|z - roundHE q| : Int) : Rat) := by exact_mod_cast this
      simpa using h'
    have tri : |(z : Rat) - ((roundHE q : Int) : Rat)| ≤ |(z : Rat) - q| + |((roundHE q : Int) : Rat) - q| := by
      have := abs_sub_le (z : Rat) q ((roundHE q : Int) : Rat)
      rwa [abs_sub_comm q _] at this
    linarith

theorem roundHE_mono {x y : Rat} (h : x ≤ y) : Py.roundHE x ≤ Py.roundHE y := by
  by_contra hlt
  have hlt := not_le.mp hlt
  have h1q : ((Py.roundHE y : Int) : Rat) + 1 ≤ ((Py.roundHE x : Int) : Rat) := by exact_mod_cast hlt
  have ex := abs_le.mp (roundHE_err x)
  have ey := abs_le.mp (roundHE_err y)
  have hxy : x = y := le_antisymm h (by linarith only [ex.2, ey.1, h1q])
  rw [hxy] at hlt
  exact lt_irrefl _ hlt

theorem roundHE_break {x y : Rat} (h : Py.roundHE x < Py.roundHE y) :
    x ≤ (Py.roundHE x : Rat) + 1 / 2 ∧ (Py.roundHE x : Rat) + 1 / 2 ≤ y := by
  have ex := (abs_le.mp (roundHE_err x)).1
  have ey := (abs_le.mp (roundHE_err y)).2
  have hq : ((Py.roundHE x : Int) : Rat) + 1 ≤ Py.roundHE y := by exact_mod_cast h
  exact ⟨by linarith only [ex], by linarith only [ey, hq]⟩

theorem le_roundHE_of_le (k : Int) (q : Rat) (h : (k : Rat) ≤ q) : k ≤ roundHE q :=
  roundHE_int k ▸ roundHE_mono h

theorem roundHE_le_of_le (k : Int) (q : Rat) (h : q ≤ (k : Rat)) : roundHE q ≤ k :=
  roundHE_int k ▸ roundHE_mono h

theorem roundHE_half (k : Int) : roundHE ((k : Rat) + 1/2) = if k % 2 = 0 then k else k + 1 := by
  have hf : ((k : Rat) + 1/2).floor = k := by
    apply le_antisymm
    · have : ((k : Rat) + 1/2).floor < k + 1 := by
        rw [Rat.floor_lt_iff]; push_cast; linarith
      omega
    · rw [Rat.le_floor_iff]; linarith
  unfold roundHE
  simp only
  rw [hf]
  have : (k : Rat) + 1/2 - (k : Rat) = 1/2 := by ring
  rw [this]
  norm_num

end Plotink
