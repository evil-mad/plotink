import Plotink.Proofs.C03Basic
/-! # C03 — the driver's linear-time simulation is the Spec's first-tick search -/
namespace Plotink
namespace C03
open Fw

theorem lmSimLoop_eq (rate accel a0 n : Int) (fuel : Nat) : ∀ k : Nat,
    lmSimLoop accel n fuel k (ltRate rate accel k) (ltTotal rate accel k a0) (ltTaken rate accel a0 k) =
      ((List.range' (k + 1) fuel).find? (fun t => decide (ltTaken rate accel a0 t ≥ n))).map
        (fun t => (t, ltTotal rate accel t a0)) := by
  induction fuel with
  | zero => intro k; simp [lmSimLoop]
  | succ fuel ih =>
    intro k
    have hr : ltRate rate accel k + accel = ltRate rate accel (k + 1) := by
      rw [ltRate_closed, ltRate_closed]; push_cast; ring
    have ht : ltTotal rate accel k a0 + ltRate rate accel (k + 1) = ltTotal rate accel (k + 1) a0 :=
      (ltTotal_succ rate accel k a0).symm
    have hk : ltTaken rate accel a0 k +
        ((ltTotal rate accel (k + 1) a0 / two31 - ltTotal rate accel k a0 / two31).natAbs : Int) =
        ltTaken rate accel a0 (k + 1) := by
      rw [ltTaken_succ]; rfl
    simp only [lmSimLoop, hr, ht, hk, List.range'_succ, List.find?_cons]
    by_cases hp : ltTaken rate accel a0 (k + 1) ≥ n
    · simp [hp]
    · simp only [hp, if_false, decide_false]
      exact ih (k + 1)

theorem lmSim_eq (n rate accel : Int) (acc : Option Int) (fuel : Nat) :
    lmSim n rate accel (lmStart rate accel acc) fuel = lmSpecPos n rate accel acc fuel := by
  have h := lmSimLoop_eq rate accel (lmStart rate accel acc) n fuel 0
  have e0 : ltRate rate accel 0 = rate - tdiv accel 2 := by rw [ltRate_closed]; simp
  rw [e0, ltTotal_zero, ltTaken_zero] at h
  simp only [zero_add] at h
  simp only [lmSim, lmSpecPos, lmFirstTick, h]
  generalize (List.range' 1 fuel).find? (fun t => decide (ltTaken rate accel (lmStart rate accel acc) t ≥ n)) = o
  cases o with
  | none => rfl
  | some t => simp [ltPos, ltTotal_zero]

end C03
end Plotink
