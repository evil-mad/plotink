import Plotink.Gen.points_in_tolerance
import Plotink.Proofs.PyEnc
import Plotink.Proofs.PySeq
import Plotink.Proofs.C09Loop
import Mathlib.Data.List.Forall2

/-! # C09 — bridge: the source-regenerated `points_in_tolerance` = the hand model `C09.pointsInTol`

`Gen.points_in_tolerance` is regenerated from `plotink/plot_utils.py` on every run; its `for point in input_points[1:-1]`
loop is a recursion over the item list. Under `Rounding.exact` one pass of the generated loop does what `C09.ptOk` does
(`return False` / `continue`), case by case on the same comparisons (`body_pt`); `loop_pts` is the induction on the item
list. Numbers are related to rationals by an encoding `K` with `Py.Enc K` (`Proofs/PyEnc.lean`).

The bridge is `points_in_tolerance_map`, on a list `.tup (w.map enc)` of encoded items: the form in which the bridges of
`supersample` (a slice of the vertices) and `subdivideCubicPath` (the four control points) meet the function.
`points_in_tolerance_bridge` is the same on the relation `EncPts` (item by item some encoding, `List.Forall₂`) in which the
property is stated; `EncPts.exists_map` turns the relation into a map. -/

namespace Plotink
namespace C09
open Py Py.Val

section body
variable {K : Val → Rat → Prop} (hK : Enc K) (amb : Nat) (s0 s1 : Pt) (tol : Rat)
  (vt s0x s0y s1x s1y sdx sdy : Val)
  (ht : K vt (tol * tol)) (h0x : K s0x s0.1) (h0y : K s0y s0.2) (h1x : K s1x s1.1) (h1y : K s1y s1.2)
  (hdx : K sdx (s1.1 - s0.1)) (hdy : K sdy (s1.2 - s0.2))
  (kont : Val → Val → Val → Val → Val → Val → Val → Val → Loop (Val × Val × Val × Val × Val × Val × Val × Val))
  (p : Pt) (px py : Val) (hpx : K px p.1) (hpy : K py p.2)
  (j1 j2 j3 j4 j5 j6 j7 j8 : Val)
include hK ht h0x h0y h1x h1y hdx hdy hpx hpy

theorem body_pt :
    (ptOk s0 s1 (tol * tol) p = true → ∃ k1 k2 k3 k4 k5 k6 k7 k8,
      Gen.points_in_tolerance_body1 Rounding.exact amb vt s0x s0y s1x s1y sdx sdy kont (.tup [px, py])
        j1 j2 j3 j4 j5 j6 j7 j8 = kont k1 k2 k3 k4 k5 k6 k7 k8) ∧
    (ptOk s0 s1 (tol * tol) p = false →
      Gen.points_in_tolerance_body1 Rounding.exact amb vt s0x s0y s1x s1y sdx sdy kont (.tup [px, py])
        j1 j2 j3 j4 j5 j6 j7 j8 = .ret (.bool_ false)) := by
  have hdxp := hK.sub amb hpx h0x
  have hdyp := hK.sub amb hpy h0y
  have htemp1 := hK.add amb (hK.mul amb hdxp hdx) (hK.mul amb hdyp hdy)
  have hd0 := hK.add amb (hK.mul amb hdxp hdxp) (hK.mul amb hdyp hdyp)
  have hlen := hK.add amb (hK.mul amb hdx hdx) (hK.mul amb hdy hdy)
  have hd1 := hK.add amb (hK.mul amb (hK.sub amb hpx h1x) (hK.sub amb hpx h1x)) (hK.mul amb (hK.sub amb hpy h1y) (hK.sub amb hpy h1y))
  have htemp := hK.sub amb (hK.mul amb hdxp hdy) (hK.mul amb hdx hdyp)
  have c1 := hK.le_int htemp1 0
  have c2 := hK.ge_eq hd0 ht
  have c3 := hK.le_eq hlen htemp1
  have c4 := hK.ge_eq hd1 ht
  have c5 := hK.eq_int hlen 0
  unfold Gen.points_in_tolerance_body1 ptOk
  simp only [Py.unpackN_tup2, Py.getItem_cons_zero, Py.getItem_cons_succ, c1, c2, c3, c4, c5, Int.cast_zero,
    decide_eq_true_eq]
  by_cases a1 : (p.1 - s0.1) * (s1.1 - s0.1) + (p.2 - s0.2) * (s1.2 - s0.2) ≤ 0
  · by_cases a2 : (p.1 - s0.1) * (p.1 - s0.1) + (p.2 - s0.2) * (p.2 - s0.2) ≥ tol * tol
    · simp only [if_pos a1, if_pos a2]; exact ⟨nofun, fun _ => trivial⟩
    · simp only [if_pos a1, if_neg a2]; exact ⟨fun _ => ⟨_, _, _, _, _, _, _, _, rfl⟩, nofun⟩
  · by_cases a3 : (s1.1 - s0.1) * (s1.1 - s0.1) + (s1.2 - s0.2) * (s1.2 - s0.2) ≤
        (p.1 - s0.1) * (s1.1 - s0.1) + (p.2 - s0.2) * (s1.2 - s0.2)
    · by_cases a4 : (p.1 - s1.1) * (p.1 - s1.1) + (p.2 - s1.2) * (p.2 - s1.2) ≥ tol * tol
      · simp only [if_neg a1, if_pos a3, if_pos a4]; exact ⟨nofun, fun _ => trivial⟩
      · simp only [if_neg a1, if_pos a3, if_neg a4]; exact ⟨fun _ => ⟨_, _, _, _, _, _, _, _, rfl⟩, nofun⟩
    · by_cases a5 : (s1.1 - s0.1) * (s1.1 - s0.1) + (s1.2 - s0.2) * (s1.2 - s0.2) = 0
      · simp only [if_neg a1, if_neg a3, if_pos a5]; exact ⟨nofun, fun _ => trivial⟩
      · have c6 := hK.ge_eq (hK.div amb (hK.mul amb htemp htemp) hlen a5) ht
        by_cases a6 : ((p.1 - s0.1) * (s1.2 - s0.2) - (s1.1 - s0.1) * (p.2 - s0.2)) *
              ((p.1 - s0.1) * (s1.2 - s0.2) - (s1.1 - s0.1) * (p.2 - s0.2)) /
            ((s1.1 - s0.1) * (s1.1 - s0.1) + (s1.2 - s0.2) * (s1.2 - s0.2)) ≥ tol * tol
        · simp only [if_neg a1, if_neg a3, if_neg a5, c6, decide_eq_true_eq, if_pos a6]; exact ⟨nofun, fun _ => trivial⟩
        · simp only [if_neg a1, if_neg a3, if_neg a5, c6, decide_eq_true_eq, if_neg a6]; exact ⟨fun _ => ⟨_, _, _, _, _, _, _, _, rfl⟩, nofun⟩
end body

def EncPt (K : Val → Rat → Prop) (v : Val) (p : Pt) : Prop := ∃ x y, v = .tup [x, y] ∧ K x p.1 ∧ K y p.2
/-- `v` is a Python list of 2-sequences of numbers encoding `pts` -/
def EncPts (K : Val → Rat → Prop) (v : Val) (pts : List Pt) : Prop :=
  ∃ l, v = .tup l ∧ List.Forall₂ (EncPt K) l pts

def encOptBool : Option Bool → Val
  | some b => .bool_ b
  | none => .err

section loop
variable {α : Type} (xy : α → Pt) (enc : α → Val) {K : Val → Rat → Prop} (hK : Enc K) (henc : ∀ a, EncPt K (enc a) (xy a))
  (amb : Nat) (s0 s1 : Pt) (tol : Rat) (vt s0x s0y s1x s1y sdx sdy : Val)
  (ht : K vt (tol * tol)) (h0x : K s0x s0.1) (h0y : K s0y s0.2) (h1x : K s1x s1.1) (h1y : K s1y s1.2)
  (hdx : K sdx (s1.1 - s0.1)) (hdy : K sdy (s1.2 - s0.2))
include hK henc ht h0x h0y h1x h1y hdx hdy

theorem loop_pts (mid : List α) : ∀ j1 j2 j3 j4 j5 j6 j7 j8 : Val,
    (mid.all (fun a => ptOk s0 s1 (tol * tol) (xy a)) = true → ∃ t,
      Gen.points_in_tolerance_loop1 Rounding.exact amb vt s0x s0y s1x s1y sdx sdy (mid.map enc) j1 j2 j3 j4 j5 j6 j7 j8 = .done t) ∧
    (mid.all (fun a => ptOk s0 s1 (tol * tol) (xy a)) = false →
      Gen.points_in_tolerance_loop1 Rounding.exact amb vt s0x s0y s1x s1y sdx sdy (mid.map enc) j1 j2 j3 j4 j5 j6 j7 j8
        = .ret (.bool_ false)) := by
  induction mid with
  | nil => exact fun _ _ _ _ _ _ _ _ => ⟨fun _ => ⟨_, rfl⟩, nofun⟩
  | cons a mid ih =>
    intro j1 j2 j3 j4 j5 j6 j7 j8
    obtain ⟨px, py, e, hpx, hpy⟩ := henc a
    rw [List.map_cons, e, Gen.points_in_tolerance_loop1, List.all_cons]
    obtain ⟨hok, hbad⟩ := body_pt hK amb s0 s1 tol vt s0x s0y s1x s1y sdx sdy ht h0x h0y h1x h1y hdx hdy
      (Gen.points_in_tolerance_loop1 Rounding.exact amb vt s0x s0y s1x s1y sdx sdy (mid.map enc)) (xy a) px py hpx hpy
      j1 j2 j3 j4 j5 j6 j7 j8
    cases hp : ptOk s0 s1 (tol * tol) (xy a) with
    | false => rw [hbad hp]; exact ⟨nofun, fun _ => rfl⟩
    | true =>
      obtain ⟨k1, k2, k3, k4, k5, k6, k7, k8, hk⟩ := hok hp
      rw [hk, Bool.true_and]
      exact ih k1 k2 k3 k4 k5 k6 k7 k8

end loop

/-- **bridge**: the regenerated `points_in_tolerance` in exact arithmetic = the hand model `C09.pointsInTol`
(`AssertionError` ↦ `err`) -/
theorem points_in_tolerance_map {α : Type} (xy : α → Pt) (enc : α → Val) {K : Val → Rat → Prop} (hK : Enc K)
    (henc : ∀ a, EncPt K (enc a) (xy a)) (amb : Nat) (w : List α) (tol : Rat) (vt : Val) (ht : K vt tol) :
    Gen.points_in_tolerance Rounding.exact amb (.tup (w.map enc)) vt = encOptBool (pointsInTol (w.map xy) tol) := by
  unfold Gen.points_in_tolerance
  rw [Py.len_map, Py.ge_int_int]
  by_cases h3 : 3 ≤ w.length
  · rw [if_pos (by simpa using h3)]
    obtain ⟨a, mid, b, rfl⟩ := shape_of_len w (by omega)
    have hm : mid.map xy ≠ [] := by rintro h0; simp_all
    obtain ⟨ax, ay, ea, hax, hay⟩ := henc a
    obtain ⟨bx, by', eb, hbx, hby⟩ := henc b
    simp only [List.map_cons, List.map_append, List.map_nil, pointsInTol_shape _ _ _ hm, List.all_map, ea, eb,
      Py.getItem_cons_zero, Py.getItem_cons_succ, Py.unpackN_tup2, Py.index_last_cons, Py.slice_interior, Py.iter]
    obtain ⟨hok, hbad⟩ := loop_pts xy enc hK henc amb (xy a) (xy b) tol _ ax ay bx by' _ _ (hK.mul amb ht ht) hax hay hbx hby
      (hK.sub amb hbx hax) (hK.sub amb hby hay) mid .err .err .err .err .err .err .err .err
    cases hall : mid.all (ptOk (xy a) (xy b) (tol * tol) ∘ xy) with
    | true => obtain ⟨t, ht'⟩ := hok hall; rw [ht']; rfl
    | false => rw [hbad hall]; rfl
  · rw [if_neg (by simpa using h3), (pointsInTol_none_iff _ tol).2 (by simpa using h3)]
    rfl

/-- a list of encoded points, as the list of its (value, point) pairs -/
theorem EncPts.exists_map {K : Val → Rat → Prop} {v : Val} {pts : List Pt} (h : EncPts K v pts) :
    ∃ w : List {x : Val × Pt // EncPt K x.1 x.2}, v = .tup (w.map (·.1.1)) ∧ pts = w.map (·.1.2) := by
  obtain ⟨l, rfl, hl⟩ := h
  induction hl with
  | nil => exact ⟨[], rfl, rfl⟩
  | @cons x p l pts hx _ ih =>
    obtain ⟨w, e1, e2⟩ := ih
    exact ⟨⟨(x, p), hx⟩ :: w, by rw [List.map_cons, ← Val.tup.inj e1], by rw [List.map_cons, ← e2]⟩

theorem points_in_tolerance_bridge {K : Val → Rat → Prop} (hK : Enc K) (amb : Nat) (pts : List Pt) (tol : Rat)
    (vp vt : Val) (hp : EncPts K vp pts) (ht : K vt tol) :
    Gen.points_in_tolerance Rounding.exact amb vp vt = encOptBool (pointsInTol pts tol) := by
  obtain ⟨w, rfl, rfl⟩ := hp.exists_map
  exact points_in_tolerance_map _ _ hK (fun a => a.2) amb w tol vt ht

/-- `[[x, y], …]`, every coordinate a `float` holding exactly that rational -/
def encPts (pts : List Pt) : Val := .tup (pts.map (fun p => .tup [.flt p.1, .flt p.2]))

theorem encPts_isFlt (pts : List Pt) : EncPts IsFlt (encPts pts) pts := by
  refine ⟨_, rfl, ?_⟩
  induction pts with
  | nil => exact List.Forall₂.nil
  | cons p ps ih => exact List.Forall₂.cons ⟨_, _, rfl, rfl, rfl⟩ ih

theorem EncPts.mono {K K' : Val → Rat → Prop} (hKK : ∀ v q, K v q → K' v q) {v : Val} {pts : List Pt}
    (h : EncPts K v pts) : EncPts K' v pts := by
  obtain ⟨l, e, hl⟩ := h
  refine ⟨l, e, ?_⟩
  clear e
  induction hl with
  | nil => exact List.Forall₂.nil
  | cons hv _ ih =>
    obtain ⟨x, y, e', hx, hy⟩ := hv
    exact List.Forall₂.cons ⟨x, y, e', hKK _ _ hx, hKK _ _ hy⟩ ih

end C09
end Plotink
