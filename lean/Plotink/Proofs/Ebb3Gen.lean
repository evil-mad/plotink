import Plotink.Gen.EBB3_record_error
import Plotink.Model.Ebb3Params
import Plotink.Proofs.PyIOLemmas
import Plotink.Proofs.C04Latch
import Plotink.Proofs.RuleSets
import Plotink.Proofs.Ebb3GenFrame

/-! # Bridge: the source-regenerated `EBB3` methods = the hand model `Ebb3.run` — abstraction, domain, rules

`Gen.EBB3_<method>` / `Gen.EBBMotionWrap_<method>` are regenerated from `plotink/ebb3_serial.py` /
`plotink/ebb3_motion.py` on every run (`translator/pyio2lean.py`, runtime `Plotink/PyObj.lean`).  This file sets up
the abstraction from the worlds of the regenerated code to the worlds of `Model/Ebb3.lean` and the rules by which every
method is bridged; `Proofs/EBB3GEN_NOTES.md` explains the pattern.

* `absWorld : PyObj.World Gen.EBB3_Obj → Ebb3.World Ebb3.Script` — attributes ↦ `Ebb3.St`, the script with exception
  classes ↦ the model's script (`raise c ↦ raise`, `empty ↦ line []`), write log ↦ `out`, read count ↦ `nreads`.
* `Good w` — the domain: the attributes hold values of the types the class gives them (`ObjOk`), every scripted
  fault is a serial I/O exception of a class the handlers name (`IoClass`), every scripted line is ASCII.
* `Sim out r` — a regenerated method ended like the model: same value / same escaping exception, worlds related
  by `absWorld`, and the final world is `Good` again (so bridges compose along call sequences and for callers).
-/

namespace Plotink
namespace Ebb3Gen
open PyObj Gen
set_option linter.unusedVariables false

def absRd : PyIO.Rd → Ebb3.ReadEv
  | .line b => .line b
  | .empty => .line []
  | .raise _ => .raise

def absWr : PyIO.Wr → Ebb3.WriteEv
  | .ok => .ok
  | .raise _ => .raise

def absOpt : Val → Option Ebb3.Str
  | .str s => some s
  | _ => Option.none

def absVer : Val → Option (List Nat)
  | .version r => some r
  | _ => Option.none

def absPort : Val → Bool
  | .port => true
  | _ => false

def absSt (o : Gen.EBB3_Obj) : Ebb3.St :=
  ⟨absPort o.port, absOpt o.err, absOpt o.version, absVer o.version_parsed, absOpt o.name, absOpt o.caller,
   absOpt o.port_name⟩

def absWorld (w : World Gen.EBB3_Obj) : Ebb3.World Ebb3.Script :=
  ⟨absSt w.obj, ⟨w.port.reads.map absRd, w.port.writes.map absWr⟩, w.port.log, w.port.nread⟩

def encVal : Ebb3.Val → Val
  | .none => .none
  | .bool b => .bool b
  | .int z => .int z
  | .str s => .str s
  | .pair a b => .tuple [encVal a, encVal b]

theorem encVal_ne_unbound (v : Ebb3.Val) : encVal v ≠ .unbound := by
  cases v <;> simp [encVal]

def encReq : Option Ebb3.Str → Val
  | Option.none => .none
  | some s => .str s

/-- an optional `int` argument -/
def encOptInt : Option Int → Val
  | Option.none => .none
  | some z => .int z

def IsOptStr : Val → Prop
  | .none => True
  | .str _ => True
  | _ => False

theorem IsOptStr.cases {v : Val} (h : IsOptStr v) : v = .none ∨ ∃ s, v = .str s := by
  cases v <;> simp_all [IsOptStr]

theorem absOpt_str {v : Val} {e : List Char} (h : absOpt v = some e) : v = .str e := by
  cases v <;> simp [absOpt] at h
  rw [h]

theorem absOpt_none {v : Val} (hv : IsOptStr v) (h : absOpt v = Option.none) : v = .none := by
  cases v <;> simp_all [absOpt, IsOptStr]

theorem absOpt_inj {a b : Val} (ha : IsOptStr a) (hb : IsOptStr b) (h : absOpt a = absOpt b) : a = b := by
  rcases hb.cases with rfl | ⟨s, rfl⟩
  · exact absOpt_none ha h
  · exact absOpt_str h

/-- the attributes hold what the class puts there -/
structure ObjOk (o : Gen.EBB3_Obj) : Prop where
  port : o.port = .port ∨ o.port = .none
  err : IsOptStr o.err
  version : IsOptStr o.version
  version_parsed : o.version_parsed = .none ∨ ∃ r, o.version_parsed = .version r
  name : IsOptStr o.name
  caller : IsOptStr o.caller
  port_name : IsOptStr o.port_name

/-- the classes named by the handlers of `command` / `query` / `query_statusbyte` / `connect` -/
def handlerClasses : List PyIO.ExcClass := [.serialException, .osError, .runtimeError, .osError]

def IoClass (c : PyIO.ExcClass) : Prop := PyIO.catches handlerClasses c = true

def IoReads (rs : List PyIO.Rd) : Prop := ∀ c, PyIO.Rd.raise c ∈ rs → IoClass c
def IoWrites (ws : List PyIO.Wr) : Prop := ∀ c, PyIO.Wr.raise c ∈ ws → IoClass c
def AsciiReads (rs : List PyIO.Rd) : Prop := ∀ b, PyIO.Rd.line b ∈ rs → PyIO.isAscii b = true

structure Good (w : World Gen.EBB3_Obj) : Prop where
  obj : ObjOk w.obj
  ioR : IoReads w.port.reads
  ioW : IoWrites w.port.writes
  ascii : AsciiReads w.port.reads

theorem Good.setObj {w : World Gen.EBB3_Obj} (hg : Good w) {o : Gen.EBB3_Obj} (ho : ObjOk o) :
    Good { w with obj := o } :=
  ⟨ho, hg.ioR, hg.ioW, hg.ascii⟩

def Sim (out : Out Gen.EBB3_Obj) (r : Except Ebb3.PyExc Ebb3.Val × Ebb3.World Ebb3.Script) : Prop :=
  match out, r with
  | .val v w', (.ok v', aw') => v = encVal v' ∧ absWorld w' = aw' ∧ Good w'
  | .exc c w', (.error e, aw') => c = excOfEbb3 e ∧ absWorld w' = aw' ∧ Good w'
  | _, _ => False

/-- How a run of regenerated code and a computation of the model end, related: `Sim` when a whole method is bridged;
a relation that contains `Sim` says what holds of a method when only the front part of its body is simulated
(`connect_head`). -/
abbrev EndRel := Out Gen.EBB3_Obj → Except Ebb3.PyExc Ebb3.Val × Ebb3.World Ebb3.Script → Prop

theorem sim_cases {out : Out Gen.EBB3_Obj} {r : Except Ebb3.PyExc Ebb3.Val × Ebb3.World Ebb3.Script} (h : Sim out r) :
    (∃ v w', r = (.ok v, absWorld w') ∧ out = .val (encVal v) w' ∧ Good w') ∨
    (∃ ex w', r = (.error ex, absWorld w') ∧ out = .exc (excOfEbb3 ex) w' ∧ Good w') := by
  obtain ⟨res, aw'⟩ := r
  cases out with
  | fuelOut => cases res <;> exact h.elim
  | val v w' =>
    cases res with
    | error ex => exact h.elim
    | ok v' =>
      obtain ⟨h1, h2, h3⟩ := h
      exact Or.inl ⟨v', w', by rw [h2], by rw [h1], h3⟩
  | exc c w' =>
    cases res with
    | ok v' => exact h.elim
    | error ex =>
      obtain ⟨h1, h2, h3⟩ := h
      exact Or.inr ⟨ex, w', by rw [h2], by rw [h1], h3⟩

theorem IoReads.tail {r : PyIO.Rd} {rs : List PyIO.Rd} (h : IoReads (r :: rs)) : IoReads rs :=
  fun c hc => h c (List.mem_cons_of_mem _ hc)
theorem IoReads.head {c : PyIO.ExcClass} {rs : List PyIO.Rd} (h : IoReads (.raise c :: rs)) : IoClass c :=
  h c List.mem_cons_self
theorem IoWrites.tail {r : PyIO.Wr} {rs : List PyIO.Wr} (h : IoWrites (r :: rs)) : IoWrites rs :=
  fun c hc => h c (List.mem_cons_of_mem _ hc)
theorem IoWrites.head {c : PyIO.ExcClass} {rs : List PyIO.Wr} (h : IoWrites (.raise c :: rs)) : IoClass c :=
  h c List.mem_cons_self
theorem AsciiReads.tail {r : PyIO.Rd} {rs : List PyIO.Rd} (h : AsciiReads (r :: rs)) : AsciiReads rs :=
  fun b hb => h b (List.mem_cons_of_mem _ hb)
theorem AsciiReads.head {b : List Char} {rs : List PyIO.Rd} (h : AsciiReads (.line b :: rs)) : PyIO.isAscii b = true :=
  h b List.mem_cons_self

theorem blocked_iff (o : Gen.EBB3_Obj) (h : ObjOk o) :
    (absSt o).blocked = (isNone o.port || !isNone o.err) := by
  obtain ⟨hp, he, _⟩ := h
  unfold Ebb3.St.blocked absSt
  rcases hp with hp | hp <;> rw [hp] <;> revert he <;> cases o.err <;> simp [IsOptStr, absPort, absOpt, isNone]

def ascii : Val := .str ['a', 's', 'c', 'i', 'i']

/-- `self.port.readline().decode('ascii').strip()` -/
def readX : Eff Gen.EBB3_Obj :=
  app1 meth_strip (app2 meth_decode (eff1 meth_readline (getattr (·.port))) (ok ascii))

theorem getattr_port_open {w : World Gen.EBB3_Obj} (hp : w.obj.port = .port) :
    getattr (fun o : Gen.EBB3_Obj => o.port) w = (.ok .port, w) := by
  rw [getattr_apply (by simp [hp]), hp]

/-- `self.port.readline()` against `Ebb3.portRead`: a scripted fault, or a line (`[]` for an empty script and for the
timeout read) -/
theorem readline_sim (w : World Gen.EBB3_Obj) (hp : w.obj.port = .port) (hg : Good w) :
    (∃ c w', PyIO.Rd.raise c ∈ w.port.reads ∧ eff1 meth_readline (getattr (·.port)) w = (.exc c, w') ∧
      Ebb3.portRead Ebb3.scriptDev (absWorld w) = (.ok Option.none, absWorld w') ∧ w'.obj = w.obj ∧ Good w' ∧
      w'.port.writes = w.port.writes) ∨
    (∃ b w', PyIO.isAscii b = true ∧ eff1 meth_readline (getattr (·.port)) w = (.ok (.bytes b), w') ∧
      Ebb3.portRead Ebb3.scriptDev (absWorld w) = (.ok (some b), absWorld w') ∧ w'.obj = w.obj ∧ Good w' ∧
      w'.port.writes = w.port.writes) := by
  have hrd : eff1 meth_readline (getattr (fun o : Gen.EBB3_Obj => o.port)) w = meth_readline .port w := by
    simp only [eff1, PyObj.bind, getattr_port_open hp]
  rw [hrd]
  obtain ⟨obj, ⟨reads, writes, log, nread⟩, ext⟩ := w
  obtain ⟨ho, hr, hw, ha⟩ := hg
  simp only at ho hr hw ha
  cases reads with
  | nil => exact Or.inr ⟨[], ⟨obj, ⟨[], writes, log, nread + 1⟩, ext⟩, rfl, rfl, rfl, rfl, ⟨ho, hr, hw, ha⟩, rfl⟩
  | cons r rs =>
    have hg' : Good ⟨obj, ⟨rs, writes, log, nread + 1⟩, ext⟩ := ⟨ho, hr.tail, hw, ha.tail⟩
    cases r with
    | empty => exact Or.inr ⟨[], _, rfl, rfl, rfl, rfl, hg', rfl⟩
    | raise c => exact Or.inl ⟨c, _, List.mem_cons_self, rfl, rfl, rfl, hg', rfl⟩
    | line b => exact Or.inr ⟨b, _, ha.head, rfl, rfl, rfl, hg', rfl⟩

theorem read_sim (w : World Gen.EBB3_Obj) (hp : w.obj.port = .port) (hg : Good w) :
    (∃ c w', IoClass c ∧ readX w = (.exc c, w') ∧
      Ebb3.portRead Ebb3.scriptDev (absWorld w) = (.ok Option.none, absWorld w') ∧ w'.obj = w.obj ∧ Good w' ∧
      w'.port.writes = w.port.writes) ∨
    (∃ l w', readX w = (.ok (.str (Ebb3.strip l)), w') ∧
      Ebb3.portRead Ebb3.scriptDev (absWorld w) = (.ok (some l), absWorld w') ∧ w'.obj = w.obj ∧ Good w' ∧
      w'.port.writes = w.port.writes) := by
  rcases readline_sim w hp hg with ⟨c, w', hc, e1, h⟩ | ⟨b, w', hb, e1, h⟩
  · exact Or.inl ⟨c, w', hg.ioR c hc, by simp only [readX, app1, app2, PyObj.bind, e1], h⟩
  · exact Or.inr ⟨b, w', by
      simp only [readX, app1, app2, PyObj.bind, e1, ok, ofP, meth_decode, ascii, meth_strip, hb, ↓reduceIte], h⟩

theorem write_sim (text : List Char) (w : World Gen.EBB3_Obj) (hp : w.obj.port = .port) (hg : Good w) :
    (∃ w', meth_write .port (.bytes text) w = (.ok (.int text.length), w') ∧
      Ebb3.portWrite Ebb3.scriptDev text (absWorld w) = (.ok true, absWorld w') ∧ w'.obj = w.obj ∧ Good w') ∨
    (∃ c w', IoClass c ∧ meth_write .port (.bytes text) w = (.exc c, w') ∧
      Ebb3.portWrite Ebb3.scriptDev text (absWorld w) = (.ok false, absWorld w') ∧ w'.obj = w.obj ∧ Good w') := by
  obtain ⟨obj, ⟨reads, writes, log, nread⟩, ext⟩ := w
  obtain ⟨ho, hr, hw, ha⟩ := hg
  simp only at ho hr hw ha
  cases writes with
  | nil =>
    left
    exact ⟨⟨obj, ⟨reads, [], log ++ [text], nread⟩, ext⟩, rfl, rfl, rfl, ⟨ho, hr, hw, ha⟩⟩
  | cons x ws =>
    cases x with
    | ok =>
      left
      exact ⟨⟨obj, ⟨reads, ws, log ++ [text], nread⟩, ext⟩, rfl, rfl, rfl, ⟨ho, hr, hw.tail, ha⟩⟩
    | raise c =>
      right
      exact ⟨c, ⟨obj, ⟨reads, ws, log ++ [text], nread⟩, ext⟩, hw.head, rfl, rfl, rfl, ⟨ho, hr, hw.tail, ha⟩⟩

theorem write_exc_head {t : List Char} {w w' : World Gen.EBB3_Obj} {c : PyIO.ExcClass}
    (h : meth_write .port (.bytes t) w = (.exc c, w')) : ∃ ws, w.port.writes = .raise c :: ws := by
  obtain ⟨obj, ⟨reads, writes, log, nread⟩, ext⟩ := w
  cases writes with
  | nil => simp [meth_write] at h
  | cons x ws =>
    cases x with
    | ok => simp [meth_write] at h
    | raise c' =>
      simp only [meth_write] at h
      injection h with h1 _
      injection h1 with h1
      exact ⟨ws, by rw [← h1]⟩

/-- `self.port.write('<text>'.encode('ascii'))` -/
abbrev wStmt {σ : Type} (text : List Char) : Stmt Gen.EBB3_Obj σ :=
  expr (fun fuel env => eff2 meth_write (getattr (·.port))
    (app2 meth_encode (ok (.str text)) (ok (.str ['a', 's', 'c', 'i', 'i']))))

theorem wStmt_eval {σ : Type} (text : List Char) (hasc : PyIO.isAscii text = true) (fuel : Nat) (env : σ)
    (w : World Gen.EBB3_Obj) (hp : w.obj.port = .port) :
    (fun (fuel : Nat) (env : σ) => eff2 meth_write (getattr (·.port))
      (app2 meth_encode (ok (.str text)) (ok (.str ['a', 's', 'c', 'i', 'i'])))) fuel env w
      = meth_write .port (.bytes text) w := by
  simp only [app2_ok, ofP_ok, meth_encode, hasc, ↓reduceIte, eff2, PyObj.bind, getattr_port_open hp, ok_apply]

/-- what `record_error(msg)` does to the attributes -/
def recErr (m : List Char) (o : Gen.EBB3_Obj) : Gen.EBB3_Obj :=
  if isNone o.err then { o with err := .str m } else o

theorem record_error_eval (fuel : Nat) (m : List Char) (w : World Gen.EBB3_Obj) (ho : ObjOk w.obj) :
    Gen.EBB3_record_error fuel (.str m) w = .val .none { w with obj := recErr m w.obj } := by
  obtain ⟨obj, port, ext⟩ := w
  have he := ho.err
  simp only at he
  unfold Gen.EBB3_record_error Gen.EBB3_record_error_main Gen.EBB3_record_error_if1 recErr
  have hga : ∀ v, obj.err = v → v ≠ .unbound →
      getattr (fun o : Gen.EBB3_Obj => o.err) (⟨obj, port, ext⟩ : World Gen.EBB3_Obj) = (.ok v, ⟨obj, port, ext⟩) := by
    intro v hv hne
    rw [getattr_apply (by simp [hv, hne])]
    simp only [hv]
  cases herr : obj.err <;> rw [herr] at he <;> simp only [IsOptStr] at he
  · simp only [run, ifte, app1, PyObj.bind, hga _ herr (by simp), ofP, op_is_none, isNone, ok, truthy, ↓reduceIte,
      Bool.false_eq_true, pass]
  · simp only [run, ifte, app1, PyObj.bind, hga _ herr (by simp), ofP, op_is_none, isNone, ok, truthy, ↓reduceIte, setattr]

theorem absSt_recErr (m : List Char) (o : Gen.EBB3_Obj) (ho : ObjOk o) :
    absSt (recErr m o) = Ebb3.recordErrorSt m (absSt o) := by
  unfold recErr Ebb3.recordErrorSt absSt
  rcases ho.err.cases with h | ⟨s, h⟩ <;> simp [isNone, absOpt, h]

theorem recordError_model (m : List Char) (w : World Gen.EBB3_Obj) (ho : ObjOk w.obj) :
    (Ebb3.recordError m : Ebb3.M Ebb3.Script Unit) (absWorld w)
      = (.ok (), absWorld { w with obj := recErr m w.obj }) := by
  simp only [Ebb3.recordError, Ebb3.modifySt_apply, absWorld, absSt_recErr m _ ho]

theorem objOk_recErr (m : List Char) (o : Gen.EBB3_Obj) (ho : ObjOk o) : ObjOk (recErr m o) := by
  unfold recErr
  split
  · exact ⟨ho.port, trivial, ho.version, ho.version_parsed, ho.name, ho.caller, ho.port_name⟩
  · exact ho

theorem recErr_port (m : List Char) (o : Gen.EBB3_Obj) : (recErr m o).port = o.port := by
  unfold recErr; split <;> rfl

theorem getattr_port (w : World EBB3_Obj) (ho : ObjOk w.obj) :
    getattr (fun o : EBB3_Obj => o.port) w = (.ok w.obj.port, w) := by
  apply getattr_apply
  rcases ho.port with h | h <;> simp [h]

theorem getattr_optStr {get : EBB3_Obj → Val} (w : World EBB3_Obj) (h : IsOptStr (get w.obj)) :
    getattr get w = (.ok (get w.obj), w) :=
  getattr_apply (by cases hv : get w.obj <;> rw [hv] at h <;> simp_all [IsOptStr])

theorem getattr_err (w : World EBB3_Obj) (ho : ObjOk w.obj) :
    getattr (fun o : EBB3_Obj => o.err) w = (.ok w.obj.err, w) := getattr_optStr w ho.err

/-- `(self.port is None) or (self.err is not None)` is the model's `St.blocked` -/
theorem guard2_eval (w : World EBB3_Obj) (ho : ObjOk w.obj) :
    (or_ (app1 op_is_none (getattr (fun o : EBB3_Obj => o.port))) (app1 op_is_not_none (getattr (fun o : EBB3_Obj => o.err)))) w
      = (.ok (.bool (absSt w.obj).blocked), w) := by
  rw [blocked_iff _ ho]
  rcases ho.port with h | h <;> rcases ho.err.cases with he | ⟨s, he⟩ <;>
    simp [or_, app1, PyObj.bind, getattr_port w ho, getattr_err w ho, ofP, op_is_none, op_is_not_none, ok, h, he,
      isNone, truthy]

/-- the three-way guard of `command` / `query` / `write_nickname`:
`(self.port is None) or (self.err is not None) or (<argument> is None)` -/
theorem guard3_eval (w : World EBB3_Obj) (ho : ObjOk w.obj) (x : Eff EBB3_Obj) :
    (or_ (app1 op_is_none (getattr (fun o : EBB3_Obj => o.port)))
      (or_ (app1 op_is_not_none (getattr (fun o : EBB3_Obj => o.err))) x)) w
      = if (absSt w.obj).blocked = true then (.ok (.bool true), w) else x w := by
  rw [blocked_iff _ ho]
  rcases ho.port with h | h <;> rcases ho.err.cases with he | ⟨s, he⟩ <;>
    simp [or_, app1, PyObj.bind, getattr_port w ho, getattr_err w ho, ofP, op_is_none, op_is_not_none, ok, h, he,
      isNone, truthy]

theorem not_blocked_port (o : EBB3_Obj) (ho : ObjOk o) (h : (absSt o).blocked = false) : o.port = .port := by
  rw [blocked_iff _ ho] at h
  rcases ho.port with hp | hp
  · exact hp
  · rw [hp] at h; simp [isNone] at h

/-- `(self.port is None) or (self.err is not None)` -/
abbrev guard2E {σ : Type} : Expr EBB3_Obj σ :=
  fun _ _ => or_ (app1 op_is_none (getattr (·.port))) (app1 op_is_not_none (getattr (·.err)))

theorem errIsNone_sim (w : World EBB3_Obj) (ho : ObjOk w.obj) :
    (Ebb3.errIsNone : Ebb3.M Ebb3.Script Ebb3.Val) (absWorld w) = (.ok (.bool (isNone w.obj.err)), absWorld w) := by
  rw [Ebb3.errIsNone_apply]
  rcases ho.err.cases with h | ⟨s, h⟩ <;> simp [absWorld, absSt, h, isNone, absOpt]

theorem isAscii_nil : PyIO.isAscii [] = true := rfl

theorem M_bind_assoc {σ α β γ : Type} (x : Ebb3.M σ α) (f : α → Ebb3.M σ β) (g : β → Ebb3.M σ γ) :
    ((x >>= f) >>= g) = (x >>= fun a => f a >>= g) := by
  funext w
  rw [Ebb3.bind_apply, Ebb3.bind_apply, Ebb3.bind_apply]
  rcases x w with ⟨r, w'⟩
  cases r <;> rfl

theorem M_pure_bind {σ α β : Type} (a : α) (f : α → Ebb3.M σ β) : ((pure a : Ebb3.M σ α) >>= f) = f a := rfl

/-- `m`, then `k`, as `do m; pure c`, then `k`: the form to which the bridge of a method with the model `do m; pure c`
applies (`cmd_` under `SimK.cmd`, `parse_version` inside `connect`) -/
theorem bind_via {α β γ : Type} (c : γ) (m : Ebb3.M Ebb3.Script α) (k : Ebb3.M Ebb3.Script β) :
    (m >>= fun _ => k) = ((m >>= fun _ => (pure c : Ebb3.M Ebb3.Script γ)) >>= fun _ => k) := by
  rw [M_bind_assoc]; rfl

/-- `if self.err is not None: return X` -/
theorem errGuard_stmt {σ : Type} (X : Val) (fuel : Nat) (env : σ) (w : World EBB3_Obj) (ho : ObjOk w.obj) :
    ifte (fun (_ : Nat) (_ : σ) => app1 op_is_not_none (getattr (fun o : EBB3_Obj => o.err)))
      (return_ (fun _ _ => ok X)) pass fuel env w
      = if isNone w.obj.err then .norm env w else .ret X w := by
  simp only [ifte, app1, PyObj.bind, getattr_err w ho, ofP, op_is_not_none, ok, truthy_bool, return_, pass]
  cases isNone w.obj.err <;> rfl

/-- what an operation of the port leaves behind -/
structure PortStep (w w1 : World EBB3_Obj) : Prop where
  good : Good w1
  obj : w1.obj = w.obj
  fr : Fr w w1

theorem PortStep.trans {w w1 w2 : World EBB3_Obj} (h1 : PortStep w w1) (h2 : PortStep w1 w2) : PortStep w w2 :=
  ⟨h2.good, h2.obj.trans h1.obj, h1.fr.trans h2.fr⟩

theorem frE_readX : FrE readX := by
  unfold readX
  fr_walk

/-! ## The simulation logic

One judgement: `SimK S fuel fs fl r` — a statement of a regenerated method has ended with `fl`; the stack `fs` is what
encloses it (the rest of the method, `PyObj.plug`); `r` is what the rest of the model's computation gives; `S` relates
how the two end (`Sim`, or a relation that contains it).  Every rule concludes this for an arbitrary stack from
premises of the same form at later points of the body, so a bridge is one rule per statement, along the body, and the
same rule serves a statement in front of others, the last one, one inside a `try` and one inside a loop body. -/

section Rules
variable {σ : Type}

abbrev SimIn (S : EndRel) : Prop := ∀ {o r}, Sim o r → S o r

def SimK (S : EndRel) (fuel : Nat) (fs : List (Frame EBB3_Obj σ)) (fl : Flow EBB3_Obj σ)
    (r : Except Ebb3.PyExc Ebb3.Val × Ebb3.World Ebb3.Script) : Prop := S (plug fuel fs fl) r

variable {S : EndRel} {fuel : Nat} {fs : List (Frame EBB3_Obj σ)} {r : Except Ebb3.PyExc Ebb3.Val × Ebb3.World Ebb3.Script}
  {env : σ} {w : World EBB3_Obj} {a b body : Stmt EBB3_Obj σ} {c : Expr EBB3_Obj σ}
  {F : Val → World EBB3_Obj → Flow EBB3_Obj σ} {e : Eff EBB3_Obj} {text : List Char}

namespace SimK

theorem run (h : SimK S fuel [] (a fuel env w) r) : S (PyObj.run a fuel env w) r := by
  rw [run_plug]; exact h

theorem ofRun (h : S (PyObj.run a fuel env w) r) : SimK S fuel [] (a fuel env w) r := by
  rw [run_plug] at h; exact h

theorem seq (h : SimK S fuel (.seq b :: fs) (a fuel env w) r) : SimK S fuel fs (PyObj.seq a b fuel env w) r := by
  unfold SimK; rw [plug_seq]; exact h
theorem block {l : List (Stmt EBB3_Obj σ)} (h : SimK S fuel (.seq (PyObj.block (b :: l)) :: fs) (a fuel env w) r) :
    SimK S fuel fs (PyObj.block (a :: b :: l) fuel env w) r :=
  seq h
theorem try_ {hs : List (Handler EBB3_Obj σ)} (h : SimK S fuel (.catch_ hs :: fs) (body fuel env w) r) :
    SimK S fuel fs (tryExcept body hs fuel env w) r := by
  unfold SimK; rw [plug_try]; exact h
/-- the statement in front has ended normally: on with the next one -/
theorem next (h : SimK S fuel fs (b fuel env w) r) : SimK S fuel (.seq b :: fs) (.norm env w) r := h
/-- a `try` block has ended normally -/
theorem leave {hs : List (Handler EBB3_Obj σ)} (h : SimK S fuel fs (.norm env w) r) :
    SimK S fuel (.catch_ hs :: fs) (.norm env w) r := h
/-- the body of a `while` has ended normally: the loop with the passes left -/
theorem again {n : Nat} (h : SimK S fuel fs (whileLoop c body fuel n env w) r) :
    SimK S fuel (.loop c body n :: fs) (.norm env w) r := h
/-- the body of a `for` has ended normally: the items left -/
theorem nextItem {set : σ → Val → σ} {xs : List Val} (h : SimK S fuel fs (forLoop set body fuel xs env w) r) :
    SimK S fuel (.for_ set body xs :: fs) (.norm env w) r := h
/-- an exception passes the statements after it -/
theorem skip {cl : PyIO.ExcClass} (h : SimK S fuel fs (.exc cl env w) r) : SimK S fuel (.seq b :: fs) (.exc cl env w) r := h

/-- an exception reaches the one `except (classes):` clause of the enclosing `try` -/
theorem caughtBy {cs : List PyIO.ExcClass} {cl : PyIO.ExcClass} (hc : PyIO.catches cs cl = true)
    (h : SimK S fuel fs (body fuel env w) r) :
    SimK S fuel (.catch_ [⟨some cs, Option.none, body⟩] :: fs) (.exc cl env w) r := by
  show SimK S fuel fs (dispatch _ cl fuel env w) r
  simp only [dispatch, Handler.matches, hc, ↓reduceIte, runHandler]
  exact h

/-- a fault of the port reaches `except (SerialException, IOError, RuntimeError, OSError):` -/
theorem caught {cl : PyIO.ExcClass} (hc : IoClass cl) (h : SimK S fuel fs (body fuel env w) r) :
    SimK S fuel (.catch_ [⟨some [.serialException, .osError, .runtimeError, .osError], Option.none, body⟩] :: fs)
      (.exc cl env w) r :=
  caughtBy hc h

/-- one pass of `while <pure test>: body` -/
theorem while_ {n : Nat} {p : Bool} (hc : c fuel env = ok (.bool p))
    (ht : p = true → SimK S fuel (.loop c body n :: fs) (body fuel env w) r) (hf : p = false → SimK S fuel fs (.norm env w) r) :
    SimK S fuel fs (whileLoop c body fuel (n + 1) env w) r := by
  unfold SimK
  rw [plug_while (congrFun hc w), truthy_bool]
  cases p
  · exact hf rfl
  · exact ht rfl

/-- one pass of `for x in xs: body` -/
theorem for_ {set : σ → Val → σ} {x : Val} {xs : List Val} (h : SimK S fuel (.for_ set body xs :: fs) (body fuel (set env x) w) r) :
    SimK S fuel fs (forLoop set body fuel (x :: xs) env w) r := by
  unfold SimK; rw [plug_for]; exact h

/-! ### the end of the method, where `S` must hold of two ends that are alike (`SimIn S`; with `S := Sim` the
argument is left out) -/

/-- the method has returned -/
theorem done {v : Ebb3.Val} (hg : Good w) (hS : SimIn S := by exact id) :
    SimK S fuel fs (.ret (encVal v) w) (.ok v, absWorld w) := by
  unfold SimK; rw [plug_ret]; exact hS ⟨rfl, rfl, hg⟩

/-- the method has fallen off its end -/
theorem fellOff (hg : Good w) (hS : SimIn S := by exact id) : SimK S fuel [] (.norm env w) (.ok .none, absWorld w) :=
  hS ⟨rfl, rfl, hg⟩

/-- an exception that no `try` of the method encloses, against the model raising it -/
theorem raised {ex : Ebb3.PyExc} (hg : Good w) (hfs : noCatch fs = true := by rfl) (hS : SimIn S := by exact id) :
    SimK S fuel fs (.exc (excOfEbb3 ex) env w) (.error ex, absWorld w) := by
  unfold SimK; rw [plug_exc _ _ _ _ _ hfs]; exact hS ⟨rfl, rfl, hg⟩

/-- `return <pure expression>` against `pure v` -/
theorem ret {v : Ebb3.Val} (hg : Good w) (he : c fuel env w = (.ok (encVal v), w)) (hS : SimIn S := by exact id) :
    SimK S fuel fs (return_ c fuel env w) ((pure v : Ebb3.M Ebb3.Script Ebb3.Val) (absWorld w)) := by
  rw [return_of he]
  exact done hg hS

/-- call of a bridged method whose result a statement consumes: `x = self.m(…)`, `self.m(…)`, `return self.m(…)`,
`if self.m(…):` -/
theorem callE {x : Res × World EBB3_Obj} {out : Out EBB3_Obj} {m : Ebb3.M Ebb3.Script Ebb3.Val}
    {k : Ebb3.Val → Ebb3.M Ebb3.Script Ebb3.Val} (h : Sim out (m (absWorld w))) (hx : x = ofOut out (.fuelOut, w))
    (hk : ∀ v w1, Good w1 → m (absWorld w) = (.ok v, absWorld w1) → out = .val (encVal v) w1 →
      SimK S fuel fs (F (encVal v) w1) (k v (absWorld w1)))
    (hex : ∀ ex w1, Good w1 → m (absWorld w) = (.error ex, absWorld w1) →
      SimK S fuel fs (.exc (excOfEbb3 ex) env w1) (.error ex, absWorld w1)) :
    SimK S fuel fs (onRes env F x) ((m >>= k) (absWorld w)) := by
  subst hx
  rcases sim_cases h with ⟨v, w1, hr, rfl, hg1⟩ | ⟨ex, w1, hr, rfl, hg1⟩
  · rw [Ebb3.bind_ok hr]
    exact hk v w1 hg1 hr rfl
  · rw [Ebb3.bind_error hr]
    exact hex ex w1 hg1 hr

/-- the same outside `try` blocks, where an exception of the call leaves the method -/
theorem call {x : Res × World EBB3_Obj} {out : Out EBB3_Obj} {m : Ebb3.M Ebb3.Script Ebb3.Val}
    {k : Ebb3.Val → Ebb3.M Ebb3.Script Ebb3.Val} (h : Sim out (m (absWorld w))) (hx : x = ofOut out (.fuelOut, w))
    (hk : ∀ v w1, Good w1 → m (absWorld w) = (.ok v, absWorld w1) → out = .val (encVal v) w1 →
      SimK S fuel fs (F (encVal v) w1) (k v (absWorld w1)))
    (hfs : noCatch fs = true := by rfl) (hS : SimIn S := by exact id) :
    SimK S fuel fs (onRes env F x) ((m >>= k) (absWorld w)) :=
  callE h hx hk fun _ _ hg1 _ => raised hg1 hfs hS

/-- `if <pure test>: a else: b` against the model's `if p then mA else mB` -/
theorem ite {p : Bool} {mA mB : Ebb3.M Ebb3.Script Ebb3.Val} (hc : c fuel env w = (.ok (.bool p), w))
    (ht : p = true → SimK S fuel fs (a fuel env w) (mA (absWorld w)))
    (hf : p = false → SimK S fuel fs (b fuel env w) (mB (absWorld w))) :
    SimK S fuel fs (ifte c a b fuel env w) ((if p then mA else mB) (absWorld w)) := by
  rw [ifte_of hc, truthy_bool]
  cases p
  · exact hf rfl
  · exact ht rfl

/-- the same with a decidable proposition on the model's side -/
theorem iteP {P : Prop} [Decidable P] {mA mB : Ebb3.M Ebb3.Script Ebb3.Val} (hc : c fuel env = ok (.bool (decide P)))
    (ht : P → SimK S fuel fs (a fuel env w) (mA (absWorld w))) (hf : ¬P → SimK S fuel fs (b fuel env w) (mB (absWorld w))) :
    SimK S fuel fs (ifte c a b fuel env w) ((if P then mA else mB) (absWorld w)) := by
  have h := ite (p := decide P) (congrFun hc w) (fun h => ht (of_decide_eq_true h)) (fun h => hf (of_decide_eq_false h))
  simpa only [decide_eq_true_eq] using h

/-- `if <pure test>:` where the test holds / fails (the model does not branch here) -/
theorem ifT (hc : c fuel env w = (.ok (.bool true), w)) (h : SimK S fuel fs (a fuel env w) r) :
    SimK S fuel fs (ifte c a b fuel env w) r := by
  rw [ifte_of hc]; exact h
theorem ifF (hc : c fuel env w = (.ok (.bool false), w)) (h : SimK S fuel fs (b fuel env w) r) :
    SimK S fuel fs (ifte c a b fuel env w) r := by
  rw [ifte_of hc]; exact h

/-- `self.port.write(<bytes>)` on an open port -/
theorem writeK {x : Res × World EBB3_Obj} (hg : Good w) (hp : w.obj.port = .port) (hx : x = meth_write .port (.bytes text) w)
    {k : Bool → Ebb3.M Ebb3.Script Ebb3.Val}
    (hok : ∀ w1, PortStep w w1 → SimK S fuel fs (F (.int text.length) w1) (k true (absWorld w1)))
    (hex : ∀ cl w1, IoClass cl → PortStep w w1 → (∃ ws, w.port.writes = .raise cl :: ws) →
      SimK S fuel fs (.exc cl env w1) (k false (absWorld w1))) :
    SimK S fuel fs (onRes env F x) ((Ebb3.portWrite Ebb3.scriptDev text >>= k) (absWorld w)) := by
  subst hx
  have hfr := FrE.meth_write (ω := EBB3_Obj) .port (.bytes text) w
  rcases write_sim text w hp hg with ⟨w1, e1, e2, ho1, hg1⟩ | ⟨cl, w1, hc, e1, e2, ho1, hg1⟩ <;>
    rw [e1] at hfr ⊢ <;> rw [Ebb3.bind_ok e2]
  · exact hok w1 ⟨hg1, ho1, hfr⟩
  · exact hex cl w1 hc ⟨hg1, ho1, hfr⟩ (write_exc_head e1)

/-- `self.port.write('<text>'.encode('ascii'))` against `let okw ← portWrite text; if okw then A else B` -/
theorem write (hg : Good w) (hp : w.obj.port = .port) (hasc : PyIO.isAscii text = true) {A B : Ebb3.M Ebb3.Script Ebb3.Val}
    (hok : ∀ w1, PortStep w w1 → SimK S fuel fs (.norm env w1) (A (absWorld w1)))
    (hex : ∀ cl w1, IoClass cl → PortStep w w1 → (∃ ws, w.port.writes = .raise cl :: ws) →
      SimK S fuel fs (.exc cl env w1) (B (absWorld w1))) :
    SimK S fuel fs (wStmt text fuel env w)
      ((Ebb3.portWrite Ebb3.scriptDev text >>= fun okw => if okw then A else B) (absWorld w)) := by
  unfold wStmt
  rw [expr_onRes]
  exact writeK hg hp (wStmt_eval text hasc fuel env w hp) hok hex

/-- `self.port.readline().decode('ascii').strip()` on an open port -/
theorem read (hg : Good w) (hp : w.obj.port = .port) {k : Option Ebb3.Str → Ebb3.M Ebb3.Script Ebb3.Val}
    (hok : ∀ l w1, PortStep w w1 → SimK S fuel fs (F (.str (Ebb3.strip l)) w1) (k (some l) (absWorld w1)))
    (hex : ∀ cl w1, IoClass cl → PortStep w w1 → SimK S fuel fs (.exc cl env w1) (k Option.none (absWorld w1))) :
    SimK S fuel fs (onRes env F (readX w)) ((Ebb3.portRead Ebb3.scriptDev >>= k) (absWorld w)) := by
  have hfr := frE_readX w
  rcases read_sim w hp hg with ⟨cl, w1, hc, e1, e2, ho1, hg1, _⟩ | ⟨l, w1, e1, e2, ho1, hg1, _⟩ <;>
    rw [e1] at hfr ⊢ <;> rw [Ebb3.bind_ok e2]
  · exact hex cl w1 hc ⟨hg1, ho1, hfr⟩
  · exact hok l w1 ⟨hg1, ho1, hfr⟩

/-- `self.record_error(msg)` -/
theorem recordError {x : Res × World EBB3_Obj} (hg : Good w) (hx : x = mcall1 (EBB3_record_error fuel) (ok (.str text)) w)
    {k : Ebb3.M Ebb3.Script Ebb3.Val}
    (hk : ∀ w1, Good w1 → w1 = { w with obj := recErr text w.obj } → SimK S fuel fs (F .none w1) (k (absWorld w1))) :
    SimK S fuel fs (onRes env F x) ((Ebb3.recordError text >>= fun _ => k) (absWorld w)) := by
  rw [hx, mcall1_ok_apply, record_error_eval fuel text w hg.obj, ofOut_val, Ebb3.bind_ok (recordError_model text w hg.obj)]
  exact hk _ (hg.setObj (objOk_recErr text _ hg.obj)) rfl

/-- `error_msg = <text>; self.record_error(error_msg); return None` -/
theorem errRet {getE : σ → Val} {env' : σ} (hg : Good w) (ha : a fuel env w = .norm env' w) (hm : getE env' = .str text)
    (hS : SimIn S := by exact id) :
    SimK S fuel fs (PyObj.block [a, expr (fun fuel env => mcall1 (EBB3_record_error fuel) (load (getE env))),
        return_ (fun _ _ => ok .none)] fuel env w)
      ((Ebb3.recordError text >>= fun _ => pure Ebb3.Val.none) (absWorld w)) := by
  rw [block_cons2, seq_norm ha]
  refine block ?_
  rw [expr_onRes]
  exact recordError hg (by rw [hm]; rfl) fun w1 hg1 _ => next (ret hg1 rfl hS)

/-- the tail `if self.err is not None: return False` / `return True` is the model's `errIsNone` -/
theorem errTail (hg : Good w) (hS : SimIn S := by exact id) :
    SimK S fuel fs (PyObj.block [ifte (fun _ _ => app1 op_is_not_none (getattr (fun o : EBB3_Obj => o.err)))
        (return_ (fun _ _ => ok (.bool false))) pass, return_ (fun _ _ => ok (.bool true))] fuel env w)
      (Ebb3.errIsNone (absWorld w)) := by
  refine block ?_
  rw [errGuard_stmt _ _ _ _ hg.obj, errIsNone_sim w hg.obj]
  cases isNone w.obj.err
  · exact done (v := .bool false) hg hS
  · exact next (ret (v := .bool true) hg rfl hS)

/-- `if <pure test>: <error_msg = text>; self.record_error(error_msg)` against `if b then recordError text else
pure ()` (in whichever way the model writes it), then `k` -/
theorem errIf (getE : σ → Val) (setE : σ → Val → σ) (hget : ∀ env v, getE (setE env v) = v)
    (hset : ∀ env, setE env (getE env) = env) (hg : Good w) {act : Ebb3.M Ebb3.Script Unit}
    {k : Ebb3.M Ebb3.Script Ebb3.Val} (p : Bool) (m : List Char) (ht : c fuel env = ok (.bool p))
    (ha : p = true → a fuel env w = .norm (setE env (.str m)) w) (hact : act = if p then Ebb3.recordError m else pure ())
    (hk : ∀ em w1, Good w1 → w1.obj.port = w.obj.port → SimK S fuel fs (.norm (setE env em) w1) (k (absWorld w1))) :
    SimK S fuel fs (ifte c (PyObj.block [a, expr (fun fuel env => mcall1 (EBB3_record_error fuel) (load (getE env)))]) pass
        fuel env w) ((act >>= fun _ => k) (absWorld w)) := by
  subst hact
  cases p with
  | false =>
    refine ifF (congrFun ht w) ?_
    have := hk (getE env) w hg rfl
    rwa [hset] at this
  | true =>
    refine ifT (congrFun ht w) ?_
    rw [block_cons2, seq_norm (ha rfl), block_one, expr_onRes]
    exact recordError hg (by rw [hget]; rfl) fun w1 hg1 h1 => hk _ w1 hg1 (by rw [h1]; exact recErr_port _ _)

/-- a method that starts with `if <guard>: return X`, against the model's `guardM X`: the guard holds in a blocked
state, and where it holds otherwise the model's body answers `X` too -/
theorem guard (X : Ebb3.Val) (hg : Good w) (gv : Bool) (hgv : c fuel env w = (.ok (.bool gv), w))
    (hblk : (absSt w.obj).blocked = true → gv = true) {m : Ebb3.M Ebb3.Script Ebb3.Val}
    (hX : (absSt w.obj).blocked = false → gv = true → m (absWorld w) = (.ok X, absWorld w))
    (h : (absSt w.obj).blocked = false → gv = false → SimK Sim fuel [] (a fuel env w) (m (absWorld w))) :
    Sim (PyObj.run (PyObj.seq (ifte c (return_ (fun fuel env => ok (encVal X))) pass) a) fuel env w)
      (Ebb3.guardM X m (absWorld w)) := by
  unfold Ebb3.guardM
  show Sim _ (if (absSt w.obj).blocked = true then _ else _)
  have hif := ifte_of (a := return_ (fun fuel env => ok (encVal X))) (b := pass) (env := env) hgv
  cases gv with
  | true =>
    rw [run_ret (seq_ret hif)]
    cases hb : (absSt w.obj).blocked
    · rw [if_neg (by decide), hX hb rfl]
      exact ⟨rfl, rfl, hg⟩
    · exact ⟨rfl, rfl, hg⟩
  | false =>
    have hb : (absSt w.obj).blocked = false := by
      cases hb : (absSt w.obj).blocked
      · rfl
      · exact absurd (hblk hb) (by decide)
    rw [run_seq_norm hif, hb, if_neg (by decide)]
    exact run (h hb rfl)

/-- a method that starts with `if (self.port is None) or (self.err is not None): return X` -/
theorem guarded (X : Ebb3.Val) (hg : Good w) {m : Ebb3.M Ebb3.Script Ebb3.Val}
    (h : (absSt w.obj).blocked = false → SimK Sim fuel [] (a fuel env w) (m (absWorld w))) :
    Sim (PyObj.run (PyObj.seq (ifte guard2E (return_ (fun _ _ => ok (encVal X))) pass) a) fuel env w)
      (Ebb3.guardM X m (absWorld w)) :=
  guard X hg _ (guard2_eval w hg.obj) id (fun hb hv => absurd (hb ▸ hv) (by decide)) fun hb _ => h hb

/-- the three-way guard of `command` / `query` / `write_nickname`: `return X` when blocked or when the argument is
`None`, around a body that also answers `X` without argument -/
theorem guarded3 (X : Ebb3.Val) (get : σ → Val) (req : Option Ebb3.Str) (hreq : get env = encReq req) (hg : Good w)
    (m : Option Ebb3.Str → Ebb3.M Ebb3.Script Ebb3.Val) (hnone : m Option.none = pure X)
    (h : ∀ s, req = some s → (absSt w.obj).blocked = false → SimK Sim fuel [] (a fuel env w) (m (some s) (absWorld w))) :
    Sim (PyObj.run (PyObj.seq (ifte (fun fuel env => or_ (app1 op_is_none (getattr (·.port)))
          (or_ (app1 op_is_not_none (getattr (·.err))) (app1 op_is_none (load (get env)))))
        (return_ (fun fuel env => ok (encVal X))) pass) a) fuel env w)
      (Ebb3.guardM X (m req) (absWorld w)) := by
  refine guard X hg ((absSt w.obj).blocked || req.isNone) ?_ (fun hb => by rw [hb]; rfl) (fun hb hv => ?_) fun hb hv => ?_
  · rw [guard3_eval w hg.obj, hreq]
    cases (absSt w.obj).blocked <;> cases req <;> rfl
  · cases req with
    | none => rw [hnone]; rfl
    | some s => rw [hb] at hv; cases hv
  · cases req with
    | none => rw [hb] at hv; cases hv
    | some s => exact h s rfl hb

end SimK
end Rules

theorem lit_Err : "Err:".toList = ['E', 'r', 'r', ':'] := String.toList_ofList
theorem lit_QG : "QG".toList = ['Q', 'G'] := String.toList_ofList
theorem lit_QGcr : "QG\r".toList = ['Q', 'G', '\r'] := String.toList_ofList
theorem lit_RBcr : "RB\r".toList = ['R', 'B', '\r'] := String.toList_ofList
theorem lit_BLcr : "BL\r".toList = ['B', 'L', '\r'] := String.toList_ofList
theorem lit_SMc : "SM,".toList = ['S', 'M', ','] := String.toList_ofList
theorem lit_c0c0 : ",0,0".toList = [',', '0', ',', '0'] := String.toList_ofList
theorem lit_HMc : "HM,".toList = ['H', 'M', ','] := String.toList_ofList
theorem lit_EM00 : "EM,0,0".toList = ['E', 'M', ',', '0', ',', '0'] := String.toList_ofList
theorem lit_EMc : "EM,".toList = ['E', 'M', ','] := String.toList_ofList
theorem lit_CS : "CS".toList = ['C', 'S'] := String.toList_ofList
theorem lit_T3 : "T3,1,0,0,0,0,0,0,3".toList = ['T', '3', ',', '1', ',', '0', ',', '0', ',', '0', ',', '0', ',', '0', ',', '0', ',', '3'] := String.toList_ofList
theorem lit_SPc : "SP,".toList = ['S', 'P', ','] := String.toList_ofList
theorem lit_POBc : "PO,B,".toList = ['P', 'O', ',', 'B', ','] := String.toList_ofList
theorem lit_PDBc : "PD,B,".toList = ['P', 'D', ',', 'B', ','] := String.toList_ofList
theorem lit_SC5 : "SC,5,".toList = ['S', 'C', ',', '5', ','] := String.toList_ofList
theorem lit_SC4 : "SC,4,".toList = ['S', 'C', ',', '4', ','] := String.toList_ofList
theorem lit_SC12 : "SC,12,".toList = ['S', 'C', ',', '1', '2', ','] := String.toList_ofList
theorem lit_SC11 : "SC,11,".toList = ['S', 'C', ',', '1', '1', ','] := String.toList_ofList
theorem lit_SRc : "SR,".toList = ['S', 'R', ','] := String.toList_ofList
theorem lit_SLc : "SL,".toList = ['S', 'L', ','] := String.toList_ofList
theorem lit_QLc : "QL,".toList = ['Q', 'L', ','] := String.toList_ofList
theorem lit_QT : "QT".toList = ['Q', 'T'] := String.toList_ofList
theorem lit_QE : "QE".toList = ['Q', 'E'] := String.toList_ofList
theorem lit_QS : "QS".toList = ['Q', 'S'] := String.toList_ofList
theorem lit_QC : "QC".toList = ['Q', 'C'] := String.toList_ofList
theorem lit_PIBc : "PI,B,".toList = ['P', 'I', ',', 'B', ','] := String.toList_ofList
theorem lit_STc : "ST,".toList = ['S', 'T', ','] := String.toList_ofList
theorem lit_CU500 : "CU,50,0".toList = ['C', 'U', ',', '5', '0', ',', '0'] := String.toList_ofList

theorem isAscii_commaInts : ∀ l : List Int, PyIO.isAscii (Ebb3.commaInts l) = true
  | [] => rfl
  | [a] => by simp only [Ebb3.commaInts]; exact isAscii_showInt a
  | a :: b :: r => by
    have ih := isAscii_commaInts (b :: r)
    rw [Ebb3.commaInts]
    · simp only [isAscii_append, isAscii_showInt, ih, Bool.and_true, Bool.true_and]
      decide
    · intro h; cases h

theorem strOf_str (s : List Char) : strOf (.str s) = s := rfl

theorem flatten_cons_str (a : List Char) (l : List Val) :
    (List.map strOf (Val.str a :: l)).flatten = a ++ (List.map strOf l).flatten := rfl
theorem flatten_cons_int (n : Int) (l : List Val) :
    (List.map strOf (Val.int n :: l)).flatten = Ebb3.showInt n ++ (List.map strOf l).flatten := rfl
theorem flatten_nil : (List.map strOf ([] : List Val)).flatten = [] := rfl

attribute [fstr_render] flatten_cons_str flatten_cons_int flatten_nil Ebb3.commaInts List.append_assoc List.append_nil
  List.cons_append List.nil_append lit_SMc lit_HMc lit_EMc lit_SPc lit_POBc lit_PDBc lit_SC5 lit_SC4 lit_SC12 lit_SC11
  lit_SRc lit_SLc lit_QLc lit_PIBc lit_STc showInt_zero showInt_one

/-- evaluate an f-string of literals and integers: first the operands, then the rendering (in one `simp` call the
rendering lemmas are tried again under every continuation of `evalList`, which is slow) -/
macro "fstr_eval" : tactic => `(tactic|
  (simp only [fstr, evalList_cons_ok, evalList_nil, load_str, ok_apply] <;> simp only [fstr_render]))

theorem isAscii_lit_comma (pre : List Char) (l : List Int) (h : PyIO.isAscii pre = true) :
    PyIO.isAscii (pre ++ Ebb3.commaInts l) = true :=
  isAscii_append_of h (isAscii_commaInts l)

theorem isAscii_lit_int (pre : List Char) (z : Int) (h : PyIO.isAscii pre = true) :
    PyIO.isAscii (pre ++ Ebb3.showInt z) = true :=
  isAscii_append_of h (isAscii_showInt z)

theorem flatten_strs2 (a b : List Char) : (List.map strOf [Val.str a, Val.str b]).flatten = a ++ b := by
  simp only [List.map_cons, List.map_nil, strOf_str, List.flatten_cons, List.flatten_nil, List.append_nil]
theorem flatten_strs4 (a b c d : List Char) :
    (List.map strOf [Val.str a, Val.str b, Val.str c, Val.str d]).flatten = a ++ (b ++ (c ++ d)) := by
  simp only [List.map_cons, List.map_nil, strOf_str, List.flatten_cons, List.flatten_nil, List.append_nil]

theorem op_in_Err (resp : List Char) : op_in (.str ['E', 'r', 'r', ':']) (.str resp) = .ok (.bool (Ebb3.hasErr resp)) := by
  simp [op_in, Ebb3.hasErr]

end Ebb3Gen
end Plotink
