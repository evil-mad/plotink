import Plotink.Proofs.C05Frame
import Plotink.Proofs.C04Latch
/-! # What the EBB3 model writes: quiet continuations, acknowledged exchanges

Model-level lemmas about `Model/Ebb3.lean` on a scripted device, used to read the write log of every method off the
master bridge `Ebb3Gen.gen_bridge`; and the **acknowledging-script hypothesis** `Acked` of the methods that transmit
several requests.  `Quiet` (nothing is transmitted) is the `out` part of `NoIO` (`C04Latch`): a continuation that
transmits nothing is shown to do no I/O, from the `NoIO` rules and, for the decoders and judges, the walk of `Ebb3Rel`,
and handed to `Sends.bind_quiet` as `h.out_eq`.  `command` / `query` are read through the normal forms of `Ebb3Verdict`:
the request is written whatever the device replies; a script that answers it makes `exchange` return a reply that is
accepted, so nothing is recorded. -/
namespace Plotink
namespace Ebb3
open M Spec

variable {α β : Type}

def Quiet (m : M Script α) : Prop := ∀ w, (m w).2.out = w.out

def Sends (m : M Script α) (w : World Script) (l : List Str) : Prop := (m w).2.out = w.out ++ l

theorem Sends.bind_quiet {x : M Script α} {f : α → M Script β} {w : World Script} {l : List Str}
    (hx : Sends x w l) (hf : ∀ a, Quiet (f a)) : Sends (x >>= f) w l := by
  unfold Sends at *
  rw [bind_apply]
  cases h : x w with
  | mk r w' =>
    rw [h] at hx
    cases r with
    | ok a => simp only; rw [hf a w']; exact hx
    | error e => exact hx

theorem Sends.of_quiet {m : M Script α} (h : Quiet m) (w : World Script) : Sends m w [] := by
  unfold Sends; rw [h w]; simp

theorem Sends.portWrite (t : Str) (w : World Script) : Sends (portWrite scriptDev t) w [t] := rfl

theorem Sends.bind_ok {x : M Script α} {f : α → M Script β} {w w' : World Script} {a : α} {l₁ l₂ : List Str}
    (hx : x w = (.ok a, w')) (h1 : w'.out = w.out ++ l₁) (h2 : Sends (f a) w' l₂) : Sends (x >>= f) w (l₁ ++ l₂) := by
  unfold Sends at *
  rw [Ebb3.bind_ok hx, h2, h1, List.append_assoc]

def nameOf (t : Str) : Str := match cmdName t with | .ok n => n | .error _ => []

theorem cmdName_nameOf {t : Str} (h : t ≠ []) : cmdName t = .ok (nameOf t) ∧ nameOf t ≠ [] := by
  obtain ⟨n, hn, hne⟩ := cmdName_ok_of_ne h
  have e : nameOf t = n := by simp only [nameOf, hn]
  rw [e]
  exact ⟨hn, hne⟩

/-- a request text the framing leaves alone: non-empty, without surrounding white space -/
def Plain (t : Str) : Prop := t ≠ [] ∧ strip t = t

theorem command_sends (P : Params) (t : Str) (ht : Plain t) (w : World Script) (hr : Ready w) :
    ∃ v w', (commandP P scriptDev (some t)).run w = (.ok v, w') ∧ w'.out = w.out ++ [t ++ ['\r']] := by
  rw [show (commandP P scriptDev (some t)).run w = _ from run_command_ready P scriptDev t w hr, ht.2]
  exact commandCore_out P scriptDev (cmdName_nameOf ht.1).1 w

theorem Sends.command (P : Params) (t : Str) (w : World Script) (ht : Plain t) (hr : Ready w) :
    Sends (commandP P scriptDev (some t)).run w [t ++ ['\r']] := by
  obtain ⟨v, w', e, hl⟩ := command_sends P t ht w hr
  unfold Sends
  rw [e]
  exact hl

theorem Sends.cmd_ (P : Params) (t : Str) (w : World Script) (ht : Plain t) (hr : Ready w) :
    Sends (cmd_ P scriptDev t) w [t ++ ['\r']] :=
  (Sends.command P t w ht hr).bind_quiet fun _ => (NoIO.pure _).out_eq

theorem Sends.query (P : Params) (t : Str) (w : World Script) (ht : Plain t) (hr : Ready w) :
    Sends (queryP P scriptDev (some t)).run w [t ++ ['\r']] := by
  obtain ⟨v, w', e, hl⟩ := queryCore_out P scriptDev (cmdName_nameOf ht.1).1 w
  unfold Sends
  rw [show (queryP P scriptDev (some t)).run w = _ from run_query_ready P scriptDev t w hr, ht.2, e]
  exact hl

/-- the script acknowledges the request `t` within a window of `n` reads -/
def Answered (n : Nat) (t : Str) (sc : Script) : Prop :=
  firstWrite sc = .ok ∧ ∃ resp, firstReply n sc.reads = .text resp ∧ startsWith (nameOf t) resp = true ∧ hasErr resp = false

def replyText (n : Nat) (sc : Script) : Str := match firstReply n sc.reads with | .text r => r | _ => []

/-- the script after an exchange whose write succeeded -/
def advance (n : Nat) (sc : Script) : Script := ⟨sc.reads.drop (readsUsed n sc.reads), sc.writes.tail⟩

inductive Xch where
  | cmd (t : Str)
  | qry (t : Str) (good : Str → Prop)

/-- **the acknowledging-script hypothesis**: each exchange of the list, in order, is answered by a line that begins
with the request's name and carries no `Err:`, after at most `retry` blank reads, on a write that does not fault; the
payload of each query (the reply without name and comma) is `good` -/
def Acked (P : Params) : List Xch → Script → Prop
  | [], _ => True
  | .cmd t :: r, sc => Answered (P.retryCmd + 1) t sc ∧ Acked P r (advance (P.retryCmd + 1) sc)
  | .qry t good :: r, sc =>
      Answered (P.retryQry + 1) t sc ∧ good (stripHeader (nameOf t) (replyText (P.retryQry + 1) sc)) ∧
        Acked P r (advance (P.retryQry + 1) sc)

theorem exchange_answered {n : Nat} {t : Str} {w : World Script} (ha : Answered (n + 1) t w.dev) :
    ∃ nr, exchange scriptDev n t w =
        (.ok (some (replyText (n + 1) w.dev)), ⟨w.st, advance (n + 1) w.dev, w.out ++ [t ++ ['\r']], nr⟩) ∧
      Accepted (nameOf t) (some (replyText (n + 1) w.dev)) := by
  obtain ⟨st, ⟨reads, ws⟩, out, nr⟩ := w
  obtain ⟨hw, resp, hrp, hs, he⟩ := ha
  simp only at hw hrp
  refine ⟨nr + readsUsed (n + 1) reads, ?_, ?_⟩
  · rw [exchange_script, hw]
    simp only [exchangeReply, usedReads, replyText, advance, hrp, replyOpt]
  · simp only [replyText, hrp]
    exact ⟨hs, he⟩

theorem command_acked (P : Params) (t : Str) (ht : Plain t) (w : World Script) (hr : Ready w)
    (ha : Answered (P.retryCmd + 1) t w.dev) :
    ∃ nr, (commandP P scriptDev (some t)).run w =
      (.ok (.bool true), ⟨w.st, advance (P.retryCmd + 1) w.dev, w.out ++ [t ++ ['\r']], nr⟩) := by
  obtain ⟨nr, hx, hacc⟩ := exchange_answered ha
  refine ⟨nr, ?_⟩
  rw [show (commandP P scriptDev (some t)).run w = _ from run_command_ready P scriptDev t w hr, ht.2,
    commandCore_of_exchange P scriptDev (cmdName_nameOf ht.1).1 hx, cmdVerdict_accepted P t hacc]
  simp only [recordOpt, hr.2]
  rfl

theorem query_acked (P : Params) (t : Str) (ht : Plain t) (w : World Script) (hr : Ready w)
    (ha : Answered (P.retryQry + 1) t w.dev) :
    ∃ nr, (queryP P scriptDev (some t)).run w =
      (.ok (.str (stripHeader (nameOf t) (replyText (P.retryQry + 1) w.dev))),
        ⟨w.st, advance (P.retryQry + 1) w.dev, w.out ++ [t ++ ['\r']], nr⟩) := by
  obtain ⟨hn, hne⟩ := cmdName_nameOf ht.1
  obtain ⟨nr, hx, hacc⟩ := exchange_answered ha
  refine ⟨nr, ?_⟩
  rw [show (queryP P scriptDev (some t)).run w = _ from run_query_ready P scriptDev t w hr, ht.2,
    queryCore_of_exchange P scriptDev hn hx, qryVal, (qryVerdictX_none_iff P t hne _).mpr hacc]
  rfl

end Ebb3
end Plotink
