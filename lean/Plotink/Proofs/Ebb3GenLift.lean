import Plotink.Proofs.Ebb3GenRun
import Plotink.Proofs.C05Script
import Plotink.Proofs.C05ConfRec

/-! # Lemmas for lifting the C04 / C05 theorems from the hand model to the regenerated code

Last, for lifting attribution on scripts (`C05_script_attribution`): a model script as a port of the regenerated code
(`encRd` / `encWr`: the one raise outcome of the model becomes a `SerialException`), and the pairing of the outcome lists
of `gen_calls_sim` as a membership statement. -/

namespace Plotink
namespace Ebb3Gen
open PyObj Gen

theorem finalWorld_quiet {σ : Type} (P : Ebb3.Params) (D : Ebb3.Device σ) : ∀ (cs : List Ebb3.Call) (w : Ebb3.World σ) (e : Ebb3.Str),
    w.st.err = some e → (∀ c ∈ cs, c.method ≠ .connect) →
    (Ebb3.finalWorld P D cs w).out = w.out ∧ (Ebb3.finalWorld P D cs w).nreads = w.nreads ∧
    (Ebb3.finalWorld P D cs w).dev = w.dev
  | [], _, _, _, _ => ⟨rfl, rfl, rfl⟩
  | c :: cs, w, e, h, hnc => by
    have hkeep := Ebb3.run_keepsErr P D c w e h
    have ih := finalWorld_quiet P D cs (Ebb3.run P D c w).2 e hkeep (fun c' hc' => hnc c' (List.mem_cons_of_mem _ hc'))
    have hio : (Ebb3.run P D c w).2.dev = w.dev ∧ (Ebb3.run P D c w).2.out = w.out ∧ (Ebb3.run P D c w).2.nreads = w.nreads := by
      by_cases hr : c.method.isRequest = true
      · rw [Ebb3.run_blocked P D c hr w (Ebb3.blocked_of_err h)]
        exact ⟨rfl, rfl, rfl⟩
      · exact Ebb3.run_noIO P D c
          ((Ebb3.Method.not_request hr).imp_right fun h => h.resolve_left (hnc c List.mem_cons_self)) w
    show (Ebb3.finalWorld P D cs (Ebb3.run P D c w).2).out = w.out ∧ _
    exact ⟨ih.1.trans hio.2.1, ih.2.1.trans hio.2.2, ih.2.2.trans hio.1⟩

theorem blocked_of_attrs (w : World EBB3_Obj) (h : w.obj.port = .none ∨ ∃ e, w.obj.err = .str e) :
    (absSt w.obj).blocked = true := by
  rcases h with h | ⟨e, h⟩ <;> simp [Ebb3.St.blocked, absSt, h, absPort, absOpt]

theorem ready_of_attrs (w : World EBB3_Obj) (hp : w.obj.port = .port) (he : w.obj.err = .none) :
    Ebb3.Ready (absWorld w) := by
  constructor <;> simp [absWorld, absSt, hp, he, absPort, absOpt]

/-- the fault alphabet survives whatever regenerated code does: it only consumes the script (`Fr`) -/
theorem admScript_of_fr {w w' : World EBB3_Obj} (hf : Fr w w') (ha : Ebb3.AdmScript (absWorld w)) :
    Ebb3.AdmScript (absWorld w') := by
  intro ev hev
  obtain ⟨r, hr, rfl⟩ := List.mem_map.mp hev
  exact ha _ (List.mem_map.mpr ⟨r, hf.reads hr, rfl⟩)

theorem encVal_failure {v : Ebb3.Val} (h : Ebb3.IsFailure v) :
    encVal v = .bool false ∨ encVal v = .none ∨ encVal v = .tuple [.none, .none] := by
  rcases h with h | h | h <;> subst h <;> simp [encVal]

open Ebb3.Spec

theorem command_gen_exact (fuel : Nat) (hf : 26 ≤ fuel) (req name : List Char) (hasc : PyIO.isAscii req = true)
    (hn : Ebb3.cmdName (Ebb3.strip req) = .ok name) (w : World EBB3_Obj) (hg : Good w)
    (hp : w.obj.port = .port) (he : w.obj.err = .none) :
    ∃ w', EBB3_command fuel (.str req) w
        = .val (.bool (commandError Ebb3.srcParams (Ebb3.strip req) name (firstWrite (absWorld w).dev) (absWorld w).dev.reads).isNone) w' ∧
      absWorld w' = ⟨{ absSt w.obj with err := commandError Ebb3.srcParams (Ebb3.strip req) name (firstWrite (absWorld w).dev) (absWorld w).dev.reads },
        ⟨(absWorld w).dev.reads.drop (Ebb3.usedReads (Ebb3.srcParams.retryCmd + 1) (firstWrite (absWorld w).dev) (absWorld w).dev.reads),
         (absWorld w).dev.writes.tail⟩,
        w.port.log ++ [Ebb3.strip req ++ ['\r']],
        w.port.nread + Ebb3.usedReads (Ebb3.srcParams.retryCmd + 1) (firstWrite (absWorld w).dev) (absWorld w).dev.reads⟩ ∧
      Good w' := by
  have hs := command_bridge_ascii fuel hf (some req) (fun _ hs => Option.some.inj hs ▸ hasc) w hg
  have hr := ready_of_attrs w hp he
  rw [Ebb3.run_command_ready Ebb3.srcParams Ebb3.scriptDev req _ hr] at hs
  have hcore := Ebb3.commandCore_script Ebb3.srcParams (Ebb3.strip req) name hn (absSt w.obj) hr.2
    (absWorld w).dev.reads (absWorld w).dev.writes w.port.log w.port.nread
  have hw : absWorld w = ⟨absSt w.obj, ⟨(absWorld w).dev.reads, (absWorld w).dev.writes⟩, w.port.log, w.port.nread⟩ := rfl
  rw [hw, hcore] at hs
  exact sim_val hs

theorem query_gen_exact (fuel : Nat) (hf : 26 ≤ fuel) (req name : List Char) (hasc : PyIO.isAscii req = true)
    (hn : Ebb3.cmdName (Ebb3.strip req) = .ok name) (w : World EBB3_Obj) (hg : Good w)
    (hp : w.obj.port = .port) (he : w.obj.err = .none) :
    ∃ w', EBB3_query fuel (.str req) w
        = .val (encVal (queryValue Ebb3.srcParams (Ebb3.strip req) name (firstWrite (absWorld w).dev) (absWorld w).dev.reads)) w' ∧
      absWorld w' = ⟨{ absSt w.obj with err := queryError Ebb3.srcParams (Ebb3.strip req) name (firstWrite (absWorld w).dev) (absWorld w).dev.reads },
        ⟨(absWorld w).dev.reads.drop (Ebb3.usedReads (Ebb3.srcParams.retryQry + 1) (firstWrite (absWorld w).dev) (absWorld w).dev.reads),
         (absWorld w).dev.writes.tail⟩,
        w.port.log ++ [Ebb3.strip req ++ ['\r']],
        w.port.nread + Ebb3.usedReads (Ebb3.srcParams.retryQry + 1) (firstWrite (absWorld w).dev) (absWorld w).dev.reads⟩ ∧
      Good w' := by
  have hs := query_bridge_ascii fuel hf (some req) (fun _ hs => Option.some.inj hs ▸ hasc) w hg
  have hr := ready_of_attrs w hp he
  rw [Ebb3.run_query_ready Ebb3.srcParams Ebb3.scriptDev req _ hr] at hs
  have hcore := Ebb3.queryCore_script Ebb3.srcParams (Ebb3.strip req) name hn (absSt w.obj) hr.2
    (absWorld w).dev.reads (absWorld w).dev.writes w.port.log w.port.nread
  have hw : absWorld w = ⟨absSt w.obj, ⟨(absWorld w).dev.reads, (absWorld w).dev.writes⟩, w.port.log, w.port.nread⟩ := rfl
  rw [hw, hcore] at hs
  exact sim_val hs

theorem err_of_absSt {o o' : EBB3_Obj} (ho' : ObjOk o') {x : Option Ebb3.Str}
    (h : absSt o' = { absSt o with err := x }) : o'.err = encReq x := by
  have he : absOpt o'.err = x := congrArg (·.err) h
  cases x with
  | none => exact absOpt_none ho'.err he
  | some m => exact absOpt_str he

end Ebb3Gen
end Plotink

namespace Plotink
namespace Ebb3Gen
open PyObj Gen

def encRd : Ebb3.ReadEv → PyIO.Rd
  | .line s => .line s
  | .raise => .raise .serialException

def encWr : Ebb3.WriteEv → PyIO.Wr
  | .ok => .ok
  | .raise => .raise .serialException

theorem absRd_encRd (e : Ebb3.ReadEv) : absRd (encRd e) = e := by cases e <;> rfl
theorem absWr_encWr (e : Ebb3.WriteEv) : absWr (encWr e) = e := by cases e <;> rfl

theorem map_abs_encRd (l : List Ebb3.ReadEv) : (l.map encRd).map absRd = l := by
  induction l with
  | nil => rfl
  | cons a l ih => simp only [List.map_cons, absRd_encRd, ih]

theorem map_abs_encWr (l : List Ebb3.WriteEv) : (l.map encWr).map absWr = l := by
  induction l with
  | nil => rfl
  | cons a l ih => simp only [List.map_cons, absWr_encWr, ih]

def AsciiScript (sc : Ebb3.Script) : Prop := ∀ s, Ebb3.ReadEv.line s ∈ sc.reads → PyIO.isAscii s = true

theorem raise_of_encRd {l : List Ebb3.ReadEv} {c : PyIO.ExcClass} (h : .raise c ∈ l.map encRd) :
    c = .serialException := by
  obtain ⟨e, -, he⟩ := List.mem_map.mp h
  cases e <;> cases he
  rfl

theorem raise_of_encWr {l : List Ebb3.WriteEv} {c : PyIO.ExcClass} (h : .raise c ∈ l.map encWr) :
    c = .serialException := by
  obtain ⟨e, -, he⟩ := List.mem_map.mp h
  cases e <;> cases he
  rfl

theorem good_of_script (w : World EBB3_Obj) (ho : ObjOk w.obj) (sc : Ebb3.Script) (ha : AsciiScript sc)
    (hr : w.port.reads = sc.reads.map encRd) (hw : w.port.writes = sc.writes.map encWr) : Good w := by
  refine ⟨ho, fun c hc => ?_, fun c hc => ?_, fun b hb => ?_⟩
  · rw [hr] at hc
    obtain rfl := raise_of_encRd hc
    rfl
  · rw [hw] at hc
    obtain rfl := raise_of_encWr hc
    rfl
  · rw [hr] at hb
    obtain ⟨e, hm, he⟩ := List.mem_map.mp hb
    cases e <;> cases he
    exact ha _ hm

theorem rebootW_of_script (w : World EBB3_Obj) (sc : Ebb3.Script) (hw : w.port.writes = sc.writes.map encWr) :
    RebootW w := by
  intro c hc
  rw [hw] at hc
  obtain rfl := raise_of_encWr hc
  rfl

theorem absWorld_of_script (w : World EBB3_Obj) (sc : Ebb3.Script)
    (hr : w.port.reads = sc.reads.map encRd) (hw : w.port.writes = sc.writes.map encWr) :
    absWorld w = ⟨absSt w.obj, sc, w.port.log, w.port.nread⟩ := by
  simp only [absWorld, hr, hw, map_abs_encRd, map_abs_encWr]

theorem callsSim_mem {os : List (Out EBB3_Obj)} {ms : List (Ebb3.Outcome Ebb3.Script)} (h : CallsSim os ms) :
    os.length = ms.length ∧ ∀ o ∈ os, ∃ m ∈ ms, Sim o (m.res, m.world) := by
  induction h with
  | nil => exact ⟨rfl, fun o ho => by cases ho⟩
  | cons hs _ ih =>
    refine ⟨by simp [ih.1], fun o ho => ?_⟩
    rcases List.mem_cons.mp ho with rfl | ho
    · exact ⟨_, List.mem_cons_self, hs⟩
    · obtain ⟨m, hm, hsm⟩ := ih.2 o ho
      exact ⟨m, List.mem_cons_of_mem _ hm, hsm⟩

theorem runCalls_length {σ : Type} (P : Ebb3.Params) (D : Ebb3.Device σ) : ∀ (cs : List Ebb3.Call) (w : Ebb3.World σ),
    (Ebb3.runCalls P D cs w).length = cs.length
  | [], _ => rfl
  | c :: cs, w => by simp [Ebb3.runCalls, runCalls_length P D cs]

theorem port_of_absSt (o : EBB3_Obj) (h : o.port = .port) : (absSt o).port = true := by
  simp [absSt, h, absPort]

/-- a concrete instance (non-vacuity of `C05_gen_attribution`): what `demoReply` serves for three calls -/
theorem demoTranscript : Ebb3.confTranscript Ebb3.demoReply Ebb3.srcParams [.query_statusbyte, .clear_steps, .query_steps]
    { Ebb3.St.init with port := true } 0 [] 0
    = ⟨[.line "QG,1,1".toList, .line "CS,1,1".toList, .line "QS,1,1".toList], [.ok, .ok, .ok]⟩ := by decide

end Ebb3Gen
end Plotink
