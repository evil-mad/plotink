import Plotink.Proofs.PyLemmas
import Mathlib.Algebra.Order.Field.Rat

/-! # Encodings of rationals as Python numbers that exact arithmetic preserves

For the bridges "regenerated code under `Rounding.exact` = hand model over `Rat`".
`Enc K`: every `K`-number is an `int` or a `float` with that value, and `K` is closed under exact `+ - * /`.
Instances: `IsFlt` (every number a `float` holding exactly that rational) and `IsNum` (`int` or `float`, any
mixture; under `Rounding.exact` the quotient of two ints is the exact rational, as a `float`). -/

namespace Plotink
namespace Py
open Val

structure Enc (K : Val → Rat → Prop) : Prop where
  isNum : ∀ {v q}, K v q → (v = .flt q ∨ ∃ z : Int, v = .int z ∧ (z : Rat) = q)
  sub : ∀ {a b qa qb} (p : Nat), K a qa → K b qb → K (Py.sub Rounding.exact p a b) (qa - qb)
  add : ∀ {a b qa qb} (p : Nat), K a qa → K b qb → K (Py.add Rounding.exact p a b) (qa + qb)
  mul : ∀ {a b qa qb} (p : Nat), K a qa → K b qb → K (Py.mul Rounding.exact p a b) (qa * qb)
  div : ∀ {a b qa qb} (p : Nat), K a qa → K b qb → qb ≠ 0 → K (Py.truediv Rounding.exact p a b) (qa / qb)

def IsFlt (v : Val) (q : Rat) : Prop := v = .flt q
def IsNum (v : Val) (q : Rat) : Prop := v = .flt q ∨ ∃ z : Int, v = .int z ∧ (z : Rat) = q

theorem truediv_flt_flt (p : Nat) (a b : Rat) (hb : b ≠ 0) :
    truediv Rounding.exact p (.flt a) (.flt b) = .flt (a / b) := by
  simp [truediv, num, hb, join, kind, pack, Rounding.exact]

theorem truediv_flt_int (p : Nat) (a : Rat) (k : Int) (hk : k ≠ 0) :
    truediv Rounding.exact p (.flt a) (.int k) = .flt (a / (k : Rat)) := by
  have hk' : (k : Rat) ≠ 0 := by exact_mod_cast hk
  simp [truediv, num, join, kind, pack, Rounding.exact, hk']

theorem enc_isFlt : Enc IsFlt where
  isNum := fun h => Or.inl h
  sub := by rintro _ _ _ _ _ rfl rfl; rfl
  add := by rintro _ _ _ _ _ rfl rfl; rfl
  mul := by rintro _ _ _ _ _ rfl rfl; rfl
  div := by
    rintro _ _ qa qb p rfl rfl h0
    exact truediv_flt_flt p qa qb h0

theorem enc_isNum : Enc IsNum where
  isNum := fun h => h
  sub := by
    rintro a b qa qb p (rfl | ⟨za, rfl, rfl⟩) (rfl | ⟨zb, rfl, rfl⟩)
    exacts [Or.inl rfl, Or.inl rfl, Or.inl rfl, Or.inr ⟨za - zb, rfl, Int.cast_sub za zb⟩]
  add := by
    rintro a b qa qb p (rfl | ⟨za, rfl, rfl⟩) (rfl | ⟨zb, rfl, rfl⟩)
    exacts [Or.inl rfl, Or.inl rfl, Or.inl rfl, Or.inr ⟨za + zb, rfl, Int.cast_add za zb⟩]
  mul := by
    rintro a b qa qb p (rfl | ⟨za, rfl, rfl⟩) (rfl | ⟨zb, rfl, rfl⟩)
    exacts [Or.inl rfl, Or.inl rfl, Or.inl rfl, Or.inr ⟨za * zb, rfl, Int.cast_mul za zb⟩]
  div := by
    rintro a b qa qb p (ha | ⟨za, ha, hza⟩) (hb | ⟨zb, hb, hzb⟩) h0 <;> subst ha <;> subst hb <;>
      (try subst hza) <;> (try subst hzb) <;>
      simp [Py.truediv, Py.num, h0, Py.join, Py.kind, Py.pack, Rounding.exact, IsNum]

namespace Enc
variable {K : Val → Rat → Prop} (hK : Enc K)
include hK

theorem num_eq {v : Val} {q : Rat} (h : K v q) : num v = q := by
  rcases hK.isNum h with rfl | ⟨z, rfl, hz⟩
  · rfl
  · exact hz

theorem le_eq {v w : Val} {q q' : Rat} (h : K v q) (h' : K w q') : Py.le v w = decide (q ≤ q') := by
  simp [Py.le, hK.num_eq h, hK.num_eq h']
theorem ge_eq {v w : Val} {q q' : Rat} (h : K v q) (h' : K w q') : Py.ge v w = decide (q ≥ q') := by
  simp [Py.ge, hK.num_eq h, hK.num_eq h']
theorem le_int {v : Val} {q : Rat} (h : K v q) (z : Int) : Py.le v (.int z) = decide (q ≤ (z : Rat)) := by
  have : num (Val.int z) = (z : Rat) := rfl
  simp [Py.le, hK.num_eq h, this]
theorem eq_int {v : Val} {q : Rat} (h : K v q) (z : Int) : Py.eq v (.int z) = decide (q = (z : Rat)) := by
  rcases hK.isNum h with rfl | ⟨z', rfl, hz⟩
  · rfl
  · simp [Py.eq, Py.num, hz]
theorem lt_int {v : Val} {q : Rat} (h : K v q) (z : Int) : Py.lt v (.int z) = decide (q < (z : Rat)) := by
  have : num (Val.int z) = (z : Rat) := rfl
  simp [Py.lt, hK.num_eq h, this]

/-- a number is not one of the `math.inf` sentinels: the extended comparisons are the plain ones -/
theorem infSign_eq {v : Val} {q : Rat} (h : K v q) : Py.infSign v = 0 := by
  rcases hK.isNum h with rfl | ⟨z, rfl, -⟩ <;> rfl
theorem leE_eq {v w : Val} {q q' : Rat} (h : K v q) (h' : K w q') : Py.leE v w = decide (q ≤ q') := by
  rw [Py.leE, if_pos ⟨hK.infSign_eq h, hK.infSign_eq h'⟩, hK.le_eq h h']
theorem geE_eq {v w : Val} {q q' : Rat} (h : K v q) (h' : K w q') : Py.geE v w = decide (q ≥ q') := by
  rw [Py.geE, if_pos ⟨hK.infSign_eq h, hK.infSign_eq h'⟩, hK.ge_eq h h']

end Enc

theorem IsFlt.isNum {v : Val} {q : Rat} (h : IsFlt v q) : IsNum v q := Or.inl h

theorem IsNum.add_flt {v : Val} {q : Rat} (h : IsNum v q) (p : Nat) (t : Rat) :
    Py.add Rounding.exact p v (.flt t) = .flt (q + t) := by
  rcases h with rfl | ⟨z, rfl, rfl⟩ <;> rfl
theorem IsNum.isNone {v : Val} {q : Rat} (h : IsNum v q) : Py.isNone v = false := by
  rcases h with rfl | ⟨z, rfl, rfl⟩ <;> rfl
theorem IsNum.float {v : Val} {q : Rat} (h : IsNum v q) : Py.float_ Rounding.exact v = .flt q := by
  rcases h with rfl | ⟨z, rfl, rfl⟩ <;> rfl

end Py
end Plotink
