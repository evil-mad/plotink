import Plotink.Gen.pathdata_first_point
import Plotink.Gen.pathdata_last_point
import Plotink.Proofs.PySeq

/-! Lemmas for X03: the search loop of `pathdata_first_point`, one step at a time; `pathdata_last_point` contains a
second copy of the same loop. -/
namespace Plotink
namespace X03
open Py Py.Val

theorem loop_cons (R : Rounding) (amb : Nat) (c : String) (ps : List Val) (l : List Val) (c0 p0 : Val) :
    Gen.pathdata_first_point_loop1 R amb (.tup [.str c, .tup ps] :: l) c0 p0 =
      if c == "M" then .ret (.tup [getItem (.tup ps) 0, getItem (.tup ps) 1])
      else Gen.pathdata_first_point_loop1 R amb l (.str c) (.tup ps) := rfl

theorem loop_last_eq (R : Rounding) (amb : Nat) :
    Gen.pathdata_last_point_loop1 R amb = Gen.pathdata_first_point_loop1 R amb :=
  Py.loop_ext (Gen.pathdata_first_point_body1 R amb) rfl (fun _ _ => rfl) fun _ _ => rfl

end X03
end Plotink
