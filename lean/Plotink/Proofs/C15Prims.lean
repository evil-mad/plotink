import Plotink.Proofs.C15Version
import Plotink.Proofs.Ebb3Str
/-! # The string and version primitives of `Model/Ebb3.lean` are those of `Model/C15.lean` (core Lean only)

`strip`, `in`, the text after a separator, the version text of a reply, `Version.__ge__`: the two hand models of the EBB3
layer are compared through these, and so are the regenerated legacy functions with `Model/C15.lean`, because the runtime
`PyObj` computes with the primitives of `Model/Ebb3.lean`. -/
namespace Plotink
namespace LegacyGen

/-- drop the longest suffix whose elements satisfy `p`, by recursion from the front (the shape of `C15.versionKey`) -/
def rdrop {α : Type} (p : α → Bool) : List α → List α
  | [] => []
  | a :: r =>
    match rdrop p r with
    | [] => if p a then [] else [a]
    | k => a :: k

theorem rdrop_eq {α : Type} (p : α → Bool) (l : List α) : rdrop p l = (l.reverse.dropWhile p).reverse := by
  induction l with
  | nil => rfl
  | cons a r ih =>
    rw [rdrop, ih, List.reverse_cons, List.dropWhile_append]
    cases h : r.reverse.dropWhile p with
    | nil => cases ha : p a <;> simp [List.dropWhile, ha]
    | cons x xs => simp

theorem strip_agree (s : List Char) : Ebb3.strip s = C15.strip s := by rw [Ebb3.strip_eq, C15.strip_eq]

theorem versionKey_eq_rdrop (l : List Nat) : C15.versionKey l = rdrop (· == 0) l := by
  induction l with
  | nil => rfl
  | cons a r ih =>
    simp only [C15.versionKey, rdrop, ih]
    cases rdrop (· == 0) r with
    | nil => by_cases h : a = 0 <;> simp [h]
    | cons x xs => rfl

theorem lexLe_eq_tupleLe (a b : List Nat) : Ebb3.lexLe a b = C15.tupleLe a b := by
  induction a generalizing b with
  | nil => cases b <;> rfl
  | cons x xs ih => cases b with
    | nil => rfl
    | cons y ys => simp only [Ebb3.lexLe, C15.tupleLe, ih]

/-- `Version(a) >= Version(b)` of the two models is the same function -/
theorem vle_agree (a b : List Nat) : Ebb3.vle b a = C15.versionGe a b := by
  unfold Ebb3.vle C15.versionGe Ebb3.dropTrailingZeros
  rw [lexLe_eq_tupleLe, versionKey_eq_rdrop, versionKey_eq_rdrop, rdrop_eq, rdrop_eq]

/-- the text after the first occurrence of a separator: `s.split(p, 1)[1]` of the two models -/
theorem splitSub1_agree (p : List Char) (s : List Char) :
    (Ebb3.splitSub1 p s).map (·.2) = C15.afterFirst p s := by
  induction s with
  | nil =>
    unfold Ebb3.splitSub1 C15.afterFirst
    split <;> rfl
  | cons c t ih =>
    unfold Ebb3.splitSub1 C15.afterFirst
    split
    · rfl
    · rw [← ih]
      cases Ebb3.splitSub1 p t <;> rfl

theorem lit_fwv : C15.fwv = ['F', 'i', 'r', 'm', 'w', 'a', 'r', 'e', ' ', 'V', 'e', 'r', 's', 'i', 'o', 'n', ' '] :=
  String.toList_ofList

theorem versionText_eq (sv : List Char) :
    C15.versionText sv = (Ebb3.splitSub1 ['F', 'i', 'r', 'm', 'w', 'a', 'r', 'e', ' ', 'V', 'e', 'r', 's', 'i', 'o', 'n', ' '] sv).map
      (fun ab => Ebb3.strip ab.2) := by
  unfold C15.versionText
  rw [lit_fwv, ← splitSub1_agree]
  cases Ebb3.splitSub1 _ sv with
  | none => rfl
  | some ab => simp [strip_agree]

theorem hasSub_agree (p s : List Char) : Ebb3.hasSub p s = C15.isInfix p s := by
  induction s with
  | nil => rfl
  | cons c t ih => simp only [Ebb3.hasSub, C15.isInfix, ih]

end LegacyGen
end Plotink
