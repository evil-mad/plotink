import Plotink.Proofs.C09Geom

/-! List/loop lemmas for C09: `points_in_tolerance` as a quantified statement; the two loops of `supersample`, one
lemma each (`extend_suff`, `outer_suff`): with enough fuel the loop stops, at a result that does not depend on the fuel
and meets its postcondition. -/
namespace Plotink
namespace C09

theorem interior_cons_snoc {β : Type} (a b : β) (mid : List β) : interior (a :: (mid ++ [b])) = mid := by
  simp [interior]

theorem getLast?_shape {β : Type} (a b : β) (mid : List β) : (a :: (mid ++ [b])).getLast? = some b := by
  rw [← List.cons_append, List.getLast?_append]; simp

theorem shape_of_len {β : Type} (l : List β) (h : 2 ≤ l.length) :
    ∃ a mid b, l = a :: (mid ++ [b]) := by
  match l, h with
  | a :: t, h =>
    have ht : t ≠ [] := by intro h0; subst h0; simp at h
    exact ⟨a, t.dropLast, t.getLast ht, by rw [List.dropLast_concat_getLast ht]⟩

theorem shape_length {β : Type} (a b : β) {mid : List β} (hm : mid ≠ []) : ¬ (a :: (mid ++ [b])).length < 3 := by
  cases mid with
  | nil => exact absurd rfl hm
  | cons x xs => simp

theorem maxList_lt_iff (l : List Rat) (hl : l ≠ []) (c : Rat) : maxList l < c ↔ ∀ x ∈ l, x < c := by
  induction l with
  | nil => exact absurd rfl hl
  | cons x xs ih =>
    cases xs with
    | nil => simp [maxList]
    | cons y ys => rw [maxList, ← max_def', max_lt_iff, ih (by simp), List.forall_mem_cons (a := x)]

theorem pointsInTol_shape (a b : Pt) (mid : List Pt) (hm : mid ≠ []) (tol : Rat) :
    pointsInTol (a :: (mid ++ [b])) tol = some (mid.all (ptOk a b (tol * tol))) := by
  unfold pointsInTol
  rw [if_neg (shape_length a b hm), interior_cons_snoc, getLast?_shape]
  simp

theorem maxDistSq_shape (a b : Pt) (mid : List Pt) (hm : mid ≠ []) :
    maxDistSq (a :: (mid ++ [b])) = some (maxList (mid.map (distSq a b))) := by
  unfold maxDistSq
  rw [if_neg (shape_length a b hm), interior_cons_snoc, getLast?_shape]
  simp

theorem all_ptOk_iff (a b : Pt) (mid : List Pt) (tolSq : Rat) :
    mid.all (ptOk a b tolSq) = true ↔ ∀ p ∈ mid, distSq a b p < tolSq := by
  simp [List.all_eq_true, ptOk_iff]

theorem pointsInTol_none_iff (pts : List Pt) (tol : Rat) : pointsInTol pts tol = none ↔ pts.length < 3 := by
  unfold pointsInTol
  split_ifs with h
  · simp [h]
  · cases pts with
    | nil => simp at h
    | cons x xs =>
      simp only [List.head?_cons]
      have : (x :: xs).getLast? = some ((x :: xs).getLast (by simp)) := List.getLast?_eq_some_getLast (by simp)
      rw [this]; simp at h ⊢; omega

section
variable {α : Type} (xy : α → Pt)

theorem Reduced.refl (tolSq : Rat) : ∀ l : List α, Reduced xy tolSq l l
  | [] => .nil
  | [a] => .single a
  | a :: b :: t => by
    have := Reduced.step (xy := xy) (tolSq := tolSq) a [] b t (b :: t) (by simp) (Reduced.refl tolSq (b :: t))
    simpa using this

theorem Reduced.head {tolSq : Rat} {b : α} {rest r : List α} (h : Reduced xy tolSq (b :: rest) r) :
    ∃ r', r = b :: r' := by
  cases h with
  | single => exact ⟨[], rfl⟩
  | step a run b' rest' r' hc hr => exact ⟨r', rfl⟩

theorem Reduced.sublist {tolSq : Rat} {v r : List α} (h : Reduced xy tolSq v r) : r.Sublist v := by
  induction h with
  | nil => exact List.Sublist.slnil
  | single a => exact List.Sublist.refl _
  | step a run b rest r hc hr ih =>
    exact List.Sublist.cons_cons a (ih.trans (List.sublist_append_right run (b :: rest)))

theorem Reduced.head? {tolSq : Rat} {v r : List α} (h : Reduced xy tolSq v r) : r.head? = v.head? := by
  cases h <;> rfl

theorem Reduced.getLast? {tolSq : Rat} {v r : List α} (h : Reduced xy tolSq v r) : r.getLast? = v.getLast? := by
  induction h with
  | nil => rfl
  | single a => rfl
  | step a run b rest r hc hr ih =>
    obtain ⟨r', rfl⟩ := hr.head
    rw [List.getLast?_cons_cons, ih]
    have : a :: (run ++ b :: rest) = (a :: run) ++ (b :: rest) := by simp
    rw [this, List.getLast?_append]
    simp [List.getLast?_eq_some_getLast (l := b :: rest) (by simp)]

theorem split_at_length (l : List α) (k : Nat) (hk : k < l.length) :
    ∃ run b rest, l = run ++ b :: rest ∧ run.length = k :=
  ⟨l.take k, l[k], l.drop (k + 1), by rw [← List.drop_eq_getElem_cons hk, List.take_append_drop],
    by rw [List.length_take]; omega⟩

section
variable {pre run rest : List α} {a b : α} {e : Nat}

theorem take_decomp : (pre ++ a :: (run ++ b :: rest)).take (pre.length + 1) = pre ++ [a] := by
  have : pre ++ a :: (run ++ b :: rest) = (pre ++ [a]) ++ (run ++ b :: rest) := by simp
  rw [this]; exact List.take_left' (by simp)

theorem drop_decomp (hr : run.length = e - pre.length - 2) (h1 : pre.length + 2 ≤ e) :
    (pre ++ a :: (run ++ b :: rest)).drop (e - 1) = b :: rest := by
  have : pre ++ a :: (run ++ b :: rest) = (pre ++ a :: run) ++ (b :: rest) := by simp
  rw [this]; exact List.drop_left' (by simp [hr]; omega)

theorem slice_decomp (hr : run.length = e - pre.length - 2) (h1 : pre.length + 2 ≤ e) :
    slice (pre ++ a :: (run ++ b :: rest)) pre.length e = a :: (run ++ [b]) := by
  unfold slice
  have : pre ++ a :: (run ++ b :: rest) = (pre ++ a :: (run ++ [b])) ++ rest := by simp
  rw [this, List.take_left' (by simp [hr]; omega)]
  exact List.drop_left' rfl

end

theorem slice_length (v : List α) (i j : Nat) : (slice v i j).length = min j v.length - i := by
  simp [slice]

theorem extend_suff (v : List α) (tol : Rat) (start : Nat) (hs : start + 2 < v.length) :
    ∀ (n e : Nat), start + 2 ≤ e → e ≤ v.length → v.length < n + e →
      ∃ e', e ≤ e' ∧ e' ≤ v.length ∧ (e < e' → pointsInTol ((slice v start e').map xy) tol = some true) ∧
        ∀ f, v.length < f + e → extend xy v tol start f e = some e' := by
  intro n
  induction n with
  | zero => intro e _ h2 h3; omega
  | succ n ih =>
    intro e h1 h2 h3
    have hlen : ¬ ((slice v start (e + 1)).map xy).length < 3 := by
      rw [List.length_map, slice_length]; omega
    cases hp : pointsInTol ((slice v start (e + 1)).map xy) tol with
    | none => exact absurd ((pointsInTol_none_iff _ _).mp hp) hlen
    | some ok =>
      by_cases hc : (ok && decide (e < v.length)) = true
      · obtain ⟨hok, hlt⟩ : ok = true ∧ e < v.length := by simpa using hc
        obtain ⟨e', a1, a2, a3, a4⟩ := ih (e + 1) (by omega) hlt (by omega)
        refine ⟨e', by omega, a2, fun _ => ?_, fun f hf => ?_⟩
        · by_cases heq : e + 1 = e'
          · rw [← heq, hp, hok]
          · exact a3 (by omega)
        · obtain ⟨f, rfl⟩ : ∃ k, f = k + 1 := ⟨f - 1, by omega⟩
          rw [extend, hp]
          exact (if_pos hc).trans (a4 f (by omega))
      · refine ⟨e, le_refl _, h2, fun h => absurd h (lt_irrefl _), fun f hf => ?_⟩
        obtain ⟨f, rfl⟩ : ∃ k, f = k + 1 := ⟨f - 1, by omega⟩
        rw [extend, hp]
        exact if_neg hc

theorem outer_suff (tol : Rat) : ∀ (n : Nat) (pre : List α) (a : α) (tail : List α), tail.length < n →
    ∃ r', Reduced xy (tol * tol) (a :: tail) (a :: r') ∧
      ∀ f, tail.length < f → outer xy tol f (pre ++ a :: tail) pre.length = some (pre ++ a :: r') := by
  intro n
  induction n with
  | zero => intro pre a tail h; omega
  | succ n ih =>
    intro pre a tail hn
    by_cases hlt : pre.length + 2 < (pre ++ a :: tail).length
    · obtain ⟨e, h1, h2, h3, h4⟩ := extend_suff xy _ tol _ hlt (pre ++ a :: tail).length _ (le_refl _) (by omega) (by omega)
      rw [List.length_append, List.length_cons] at h2
      obtain ⟨run, b, rest, rfl, hrun⟩ := split_at_length tail (e - pre.length - 2)
        (by rw [List.length_append, List.length_cons] at hlt; omega)
      obtain ⟨r', hred, hr⟩ := ih (pre ++ [a]) b rest (by simp at hn; omega)
      refine ⟨b :: r', Reduced.step a run b rest _ ?_ hred, fun f hf => ?_⟩
      · by_cases hrn : run = []
        · subst hrn; simp
        · have hp := h3 (by have := List.length_pos_iff.mpr hrn; omega)
          rw [slice_decomp hrun h1] at hp
          simp only [List.map_cons, List.map_append, List.map_nil] at hp
          rw [pointsInTol_shape _ _ _ (by simpa using hrn)] at hp
          intro p hp'
          exact (all_ptOk_iff _ _ _ _).mp (Option.some.inj hp) (xy p) (List.mem_map_of_mem hp')
      · obtain ⟨f, rfl⟩ : ∃ k, f = k + 1 := ⟨f - 1, by omega⟩
        rw [outer, if_pos hlt, h4 _ (by omega)]
        simp only
        rw [take_decomp, drop_decomp hrun h1]
        simpa using hr f (by simp at hf; omega)
    · refine ⟨tail, Reduced.refl xy _ _, fun f hf => ?_⟩
      obtain ⟨f, rfl⟩ : ∃ k, f = k + 1 := ⟨f - 1, by omega⟩
      rw [outer, if_neg hlt]

theorem Reduced.index {tolSq : Rat} {v r : List α} (h : Reduced xy tolSq v r) :
    ∃ idx : List Nat, idx.Pairwise (· < ·) ∧ r.map some = idx.map (fun i => v[i]?) ∧
      (v ≠ [] → idx.head? = some 0 ∧ idx.getLast? = some (v.length - 1)) ∧
      ∀ k p, v[k]? = some p → k ∉ idx →
        ∃ i j l1 l2 a b, idx = l1 ++ i :: j :: l2 ∧ i < k ∧ k < j ∧ v[i]? = some a ∧ v[j]? = some b ∧
          distSq (xy a) (xy b) (xy p) < tolSq := by
  induction h with
  | nil => exact ⟨[], by simp, by simp, by simp, by simp⟩
  | single a =>
    refine ⟨[0], by simp, by simp, by simp, ?_⟩
    intro k p hk hn
    cases k with
    | zero => simp at hn
    | succ k => simp at hk
  | step a run b rest r hclose hr ih =>
    obtain ⟨idx', hpw, hmap, hends, hdel⟩ := ih
    obtain ⟨hh, hl⟩ := hends (by simp)
    obtain ⟨idx'', rfl⟩ : ∃ t, idx' = 0 :: t := by
      cases idx' with
      | nil => simp at hh
      | cons x t => simp at hh; exact ⟨t, by rw [hh]⟩
    let s := run.length + 1
    have hv : ∀ i, (a :: (run ++ b :: rest))[i + s]? = (b :: rest)[i]? := by
      intro i
      have : a :: (run ++ b :: rest) = (a :: run) ++ (b :: rest) := by simp
      rw [this, List.getElem?_append_right (by simp [s])]
      congr 1; simp [s]
    refine ⟨0 :: (0 :: idx'').map (· + s), ?_, ?_, ?_, ?_⟩
    · rw [List.pairwise_cons]
      refine ⟨?_, ?_⟩
      · intro x hx
        obtain ⟨y, _, rfl⟩ := List.mem_map.mp hx
        simp [s]
      · exact List.Pairwise.map _ (fun x y hxy => by simpa using hxy) hpw
    · simp only [List.map_cons, List.map_map]
      rw [hmap]
      simp only [List.map_cons, List.getElem?_cons_zero, List.cons.injEq, true_and]
      refine ⟨?_, ?_⟩
      · have := hv 0; simp only [Nat.zero_add] at this; simp [this]
      · apply List.map_congr_left
        intro i _
        simp only [Function.comp]
        exact (hv i).symm
    · intro _
      refine ⟨rfl, ?_⟩
      have e : (0 :: (0 :: idx'').map (· + s)).getLast? = ((0 :: idx'').map (· + s)).getLast? := by
        rw [List.map_cons, List.getLast?_cons_cons]
      rw [e, List.getLast?_map, hl]
      simp [s]; omega
    · intro k p hk hn
      simp only [List.map_cons, List.mem_cons, List.mem_map, not_or] at hn
      obtain ⟨hk0, hks, hrest⟩ := hn
      by_cases hlt : k < s
      · refine ⟨0, 0 + s, [], idx''.map (· + s), a, b, by simp, by omega, by omega, by simp, ?_, ?_⟩
        · have := hv 0; simp only [Nat.zero_add] at this ⊢; simp [this]
        · apply hclose
          have hk' : k - 1 < run.length := by simp [s] at hlt; omega
          have : (a :: (run ++ b :: rest))[k]? = run[k - 1]? := by
            obtain ⟨k', rfl⟩ : ∃ k', k = k' + 1 := ⟨k - 1, by omega⟩
            simp only [List.getElem?_cons_succ, Nat.add_sub_cancel]
            rw [List.getElem?_append_left (by simpa using hk')]
          rw [this] at hk
          exact List.mem_of_getElem? hk
      · obtain ⟨k', rfl⟩ : ∃ k', k = k' + s := ⟨k - s, by omega⟩
        rw [hv] at hk
        have hn' : k' ∉ (0 :: idx'') := by
          intro hmem
          rcases List.mem_cons.mp hmem with rfl | hmem
          · exact hks (by simp)
          · exact hrest ⟨k', hmem, rfl⟩
        obtain ⟨i, j, l1, l2, a', b', hidx, hik, hkj, hi, hj, hd⟩ := hdel k' p hk hn'
        refine ⟨i + s, j + s, 0 :: l1.map (· + s), l2.map (· + s), a', b', ?_, by omega, by omega, ?_, ?_, hd⟩
        · rw [hidx]; simp
        · rw [hv]; exact hi
        · rw [hv]; exact hj

end
end C09
end Plotink
