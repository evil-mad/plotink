import Plotink.Proofs.ContractT3
import Plotink.Proofs.FwAlg
import Plotink.Proofs.NumExact

/-! # C02 — numeric helper lemmas beyond `NumExact`: the remaining tag dispatch, `int()` of an inexact
quotient by 6, and the error of one 103-bit rounding at the sites of `move_dist_t3`. -/

namespace Plotink
namespace T3
open Py Py.Val Fw

theorem div_flt_int (R : Rounding) (p) (a : Rat) (b : Int) (hb : b ≠ 0) :
    Py.truediv R p (.flt a) (.int b) = .flt (R.f64 (a / (b : Rat))) := by
  simp [Py.truediv, Py.num, hb, Py.join, Py.kind, Py.pack]
theorem div_int_mpf (R : Rounding) (p) (a : Int) (b : Rat) (hb : b ≠ 0) :
    Py.truediv R p (.int a) (.mpf b) = .mpf (R.mp p ((a : Rat) / b)) := by
  simp [Py.truediv, Py.num, hb, Py.join, Py.kind, Py.pack]
theorem abs_int (a : Int) : Py.abs_ (.int a) = .int |a| := by
  simp only [Py.abs_]
  split_ifs with h
  · rw [abs_of_neg h]
  · rw [abs_of_nonneg (not_lt.mp h)]
theorem abs_mpf (a : Rat) : Py.abs_ (.mpf a) = .mpf |a| := by
  simp only [Py.abs_]
  split_ifs with h
  · rw [abs_of_neg h]
  · rw [abs_of_nonneg (not_lt.mp h)]
/-- one step of the left fold that `max` of a list is (it keeps the earlier of equal elements) -/
theorem max_step (m v : Int) : (if Py.gt (.int v) (.int m) = true then Val.int v else .int m) = .int (max m v) := by
  simp only [gt_int_int, decide_eq_true_eq]
  rcases lt_or_ge m v with h | h
  · rw [if_pos h, max_eq_right h.le]
  · rw [if_neg (not_lt.mpr h), max_eq_left h]
theorem max_int_int (a b : Int) : Py.max_ [.int a, .int b] = .int (max a b) := by
  simp only [Py.max_, List.foldl, max_step]
theorem max_int3 (a b c : Int) : Py.max_ [.int a, .int b, .int c] = .int (max (max a b) c) := by
  simp only [Py.max_, List.foldl, max_step]
theorem lt_mpf_flt (a b : Rat) : Py.lt (.mpf a) (.flt b) = decide (a < b) := rfl
theorem lt_flt_flt (a b : Rat) : Py.lt (.flt a) (.flt b) = decide (a < b) := rfl
theorem sub_int_mpf' (R : Rounding) (p) (a : Int) (b : Rat) :
    Py.sub R p (.int a) (.mpf b) = .mpf (R.mp p ((a : Rat) - b)) := rfl

theorem floor_eq (y : Rat) (n : Int) (h1 : (n : Rat) ≤ y) (h2 : y < n + 1) : y.floor = n := by
  have : ⌊y⌋ = n := Int.floor_eq_iff.mpr ⟨h1, h2⟩
  exact this

theorem intOfRat_eq (y : Rat) (n : Int)
    (h : (0 ≤ y ∧ (n : Rat) ≤ y ∧ y < n + 1) ∨ (y < 0 ∧ (n : Rat) - 1 < y ∧ y ≤ n)) : intOfRat y = n := by
  unfold intOfRat
  rcases h with ⟨h0, h1, h2⟩ | ⟨h0, h1, h2⟩
  · rw [if_pos h0]; exact floor_eq y n h1 h2
  · rw [if_neg (not_le.mpr h0)]
    have : (-y).floor = -n := floor_eq (-y) (-n) (by push_cast; linarith) (by push_cast; linarith)
    rw [this]; ring

theorem tdiv6_spec (a : Int) : ∃ f : Int, a = 6 * tdiv a 6 + f ∧
    ((0 ≤ a ∧ 0 ≤ f ∧ f ≤ 5 ∧ 0 ≤ tdiv a 6) ∨ (a < 0 ∧ -5 ≤ f ∧ f ≤ 0 ∧ tdiv a 6 ≤ 0)) := by
  unfold tdiv
  split_ifs with h
  · exact ⟨a - 6 * (a / 6), by ring, Or.inl (by omega)⟩
  · exact ⟨a - 6 * (-(-a / 6)), by ring, Or.inr (by omega)⟩

theorem tdiv6_abs (a : Int) : |tdiv a 6| ≤ |a| := tdiv_abs a 6 (by norm_num)

section
variable {R : Rounding} (hR : Contract R)
include hR

/-- `int(jerk / 6)` with a correctly rounded binary64 quotient is still truncation toward zero: the quotient is
either an integer, hence exact, or at least `1/6` away from the integers on both sides -/
theorem intOfRat_sixth (j : Int) (hj : |j| ≤ 2 ^ 40) : intOfRat (R.f64 ((j : Rat) / 6)) = tdiv j 6 := by
  obtain ⟨f, hf, h⟩ := tdiv6_spec j
  have e : (j : Rat) / 6 = (tdiv j 6 : Rat) + (f : Rat) / 6 := by
    have : (j : Rat) = 6 * (tdiv j 6 : Rat) + f := by exact_mod_cast hf
    rw [this]; ring
  by_cases hf0 : f = 0
  · rw [e, hf0, Int.cast_zero, zero_div, add_zero,
      f64_int hR.toExact _ (((tdiv6_abs j).trans hj).trans_lt (by norm_num)), intOfRat_int]
  · have hsmall : |R.f64 ((j : Rat) / 6) - (j : Rat) / 6| < 1 / 12 :=
      ((hR.f64_err _).trans (div_le_div_of_nonneg_right (abs_cast_div_le hj 6 (by norm_num)) (by positivity))).trans_lt
        (by norm_num)
    generalize R.f64 ((j : Rat) / 6) = y at hsmall ⊢
    rw [e] at hsmall
    obtain ⟨s1, s2⟩ := abs_lt.mp hsmall
    apply intOfRat_eq
    rcases h with ⟨_, h1, h2, h3⟩ | ⟨_, h1, h2, h3⟩
    · have hf1 : (1 : Rat) ≤ f := by exact_mod_cast (by omega : 1 ≤ f)
      have hf5 : (f : Rat) ≤ 5 := by exact_mod_cast h2
      have hn : (0 : Rat) ≤ (tdiv j 6 : Int) := by exact_mod_cast h3
      exact Or.inl ⟨by linarith only [s1, hf1, hn], by linarith only [s1, hf1], by linarith only [s2, hf5]⟩
    · have hf1 : (f : Rat) ≤ -1 := by exact_mod_cast (by omega : f ≤ -1)
      have hf5 : (-5 : Rat) ≤ f := by exact_mod_cast h1
      have hn : ((tdiv j 6 : Int) : Rat) ≤ 0 := by exact_mod_cast h3
      exact Or.inr ⟨by linarith only [s2, hf1, hn], by linarith only [s1, hf5], by linarith only [s2, hf1]⟩

theorem mp_near (x B : Rat) (hx : |x| ≤ B) : |R.mp 103 x - x| ≤ B / 2 ^ 103 := by
  refine le_trans (hR.mp_err 103 x) ?_
  apply div_le_div_of_nonneg_right hx; positivity

/-- error propagation through one rounding, in units of `2^-103`: the argument is within `2^a` units of the ideal
value `x`, itself below `2^b`; the rounding adds at most `2^(b+1)` units -/
theorem mp_approx (x' x : Rat) {a b : Nat} (c : Nat) (h : |x' - x| ≤ 2 ^ a / 2 ^ 103) (hx : |x| ≤ 2 ^ b)
    (hab : a ≤ b + 103) (hac : a + 1 ≤ c) (hbc : b + 2 ≤ c) : |R.mp 103 x' - x| ≤ 2 ^ c / 2 ^ 103 := by
  have e1 : (2 : Rat) ^ a / 2 ^ 103 ≤ 2 ^ b := by
    rw [div_le_iff₀ (by positivity), ← pow_add]; exact pow_le_pow_right₀ one_le_two hab
  have e2 : (2 : Rat) ^ (a + 1) ≤ 2 ^ c := pow_le_pow_right₀ one_le_two hac
  have e3 : (2 : Rat) ^ (b + 2) ≤ 2 ^ c := pow_le_pow_right₀ one_le_two hbc
  rw [pow_succ] at e2
  rw [pow_succ, pow_succ] at e3
  have h1 : |x'| ≤ 2 * 2 ^ b := by linarith only [abs_sub_abs_le_abs_sub x' x, h, hx, e1]
  have h2 := mp_near hR x' _ h1
  have h3 := abs_add_le (R.mp 103 x' - x') (x' - x)
  rw [sub_add_sub_cancel] at h3
  linarith only [h3, h2, h, e2, e3]

end

end T3
end Plotink
