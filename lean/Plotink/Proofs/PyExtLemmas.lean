import Plotink.Proofs.PyLemmas
import Mathlib.Tactic.Linarith

/-! The comparisons extended by the `math.inf` sentinels (`ltE` …) and the two-argument `min`/`max` built on them,
evaluated on `float` and `int` arguments. -/
namespace Plotink
namespace Py
open Val

theorem infSign_posInf : infSign posInf = 1 := by decide
theorem infSign_negInf : infSign negInf = -1 := by decide

-- `if_pos` on the test "neither side is a sentinel": `rfl` alone would evaluate that test by unification
theorem ltE_flt (a b : Rat) : ltE (.flt a) (.flt b) = decide (a < b) := if_pos ⟨rfl, rfl⟩
theorem gtE_flt (a b : Rat) : gtE (.flt a) (.flt b) = decide (a > b) := if_pos ⟨rfl, rfl⟩
theorem ltE_int (a b : Int) : ltE (.int a) (.int b) = decide (a < b) :=
  (if_pos ⟨rfl, rfl⟩).trans (decide_eq_decide.2 Int.cast_lt)
theorem gtE_int (a b : Int) : gtE (.int a) (.int b) = decide (a > b) :=
  (if_pos ⟨rfl, rfl⟩).trans (decide_eq_decide.2 Int.cast_lt)
theorem geE_int (a b : Int) : geE (.int a) (.int b) = decide (a ≥ b) :=
  (if_pos ⟨rfl, rfl⟩).trans (decide_eq_decide.2 Int.cast_le)
theorem ltE_flt_posInf (a : Rat) : ltE (.flt a) posInf = true := by
  rw [ltE, infSign_posInf]; rfl
theorem gtE_flt_negInf (a : Rat) : gtE (.flt a) negInf = true := by
  rw [gtE, infSign_negInf]; rfl

theorem minE_pair {α : Type} [LinearOrder α] (f : α → Val) (h : ∀ x a, ltE (f x) (f a) = decide (x < a)) (a x : α) :
    minE [f a, f x] = f (min a x) := by
  show (if ltE (f x) (f a) = true then f x else f a) = _
  rw [h, min_comm, min_def_lt, apply_ite f]
  simp only [decide_eq_true_eq]
theorem maxE_pair {α : Type} [LinearOrder α] (f : α → Val) (h : ∀ x a, gtE (f x) (f a) = decide (x > a)) (a x : α) :
    maxE [f a, f x] = f (max a x) := by
  show (if gtE (f x) (f a) = true then f x else f a) = _
  rw [h, max_def_lt, apply_ite f]
  simp only [decide_eq_true_eq, gt_iff_lt]

theorem maxE_cons_cons (a b : Val) (l : List Val) : maxE (a :: b :: l) = maxE (maxE [a, b] :: l) := rfl

theorem minE_flt (a x : Rat) : minE [.flt a, .flt x] = .flt (min a x) := minE_pair Val.flt ltE_flt a x
theorem maxE_flt (a x : Rat) : maxE [.flt a, .flt x] = .flt (max a x) := maxE_pair Val.flt gtE_flt a x
theorem minE_int (a x : Int) : minE [.int a, .int x] = .int (min a x) := minE_pair Val.int ltE_int a x
theorem maxE_int (a x : Int) : maxE [.int a, .int x] = .int (max a x) := maxE_pair Val.int gtE_int a x
theorem minE_posInf (x : Rat) : minE [posInf, .flt x] = .flt x := if_pos (e := posInf) (ltE_flt_posInf x)
theorem maxE_negInf (x : Rat) : maxE [negInf, .flt x] = .flt x := if_pos (e := negInf) (gtE_flt_negInf x)

end Py
end Plotink
