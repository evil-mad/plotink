import Plotink.Model.C12
import Mathlib.Tactic.NormNum
/-! Lemmas about the converters of `Model/C12.lean`: which rows a unit table written as an
`if … then some a else …` cascade has, which units the parser can produce, and that `getLength` carries the table of
`unitsToUserUnits`. -/
namespace Plotink
namespace C12
open PyFloat

/-- one row of a table written as a cascade of `if`s: the row matches, or the rest of the table decides -/
theorem ite_some_or {α} {c : Prop} [Decidable c] {a f : α} {r : Option α} {P : Prop}
    (hr : r = some f → P) (h : (if c then some a else r) = some f) : (c ∧ f = a) ∨ P := by
  split at h
  · exact Or.inl ⟨‹c›, (Option.some.inj h).symm⟩
  · exact Or.inr (hr h)

/-- the last row -/
theorem ite_some_none {α} {c : Prop} [Decidable c] {a f : α}
    (h : (if c then some a else none) = some f) : c ∧ f = a := by
  split at h
  · exact ⟨‹c›, (Option.some.inj h).symm⟩
  · cases h

theorem mem_ite {α} {c : Prop} [Decidable c] {a b : α} {l : List α} (ha : a ∈ l) (hb : b ∈ l) :
    (if c then a else b) ∈ l := by
  split <;> assumption

theorem splitUnit_unit_mem (s : List Char) :
    (splitUnit s).2 ∈ [['p','x'], ['i','n'], ['m','m'], ['c','m'], ['p','t'], ['p','c'], ['Q'], ['%']] := by
  unfold splitUnit
  simp only [apply_ite Prod.snd]
  repeat' apply mem_ite
  all_goals simp only [List.mem_cons, true_or, or_true]

theorem parseLength_unit_mem (s : Option (List Char)) (v : Num) (u : List Char)
    (h : parseLength s = some (v, u)) :
    u ∈ [['p','x'], ['i','n'], ['m','m'], ['c','m'], ['p','t'], ['p','c'], ['Q'], ['%']] := by
  unfold parseLength at h
  cases s with
  | none => simp at h
  | some s0 =>
    simp only at h
    split at h
    · simp at h
    · simp only [Option.some.injEq, Prod.mk.injEq] at h
      rw [← h.2]; exact splitUnit_unit_mem _

theorem svgFactor_cases (u : List Char) (f : Rat) (h : svgFactor u = some f) :
    (u = ['p','x'] ∧ f = 1) ∨ (u = ['i','n'] ∧ f = 96) ∨ (u = ['m','m'] ∧ f = 96 / (254 / 10)) ∨
    (u = ['c','m'] ∧ f = 96 / (254 / 100)) ∨ (u = ['p','t'] ∧ f = 96 / 72) ∨ (u = ['p','c'] ∧ f = 16) ∨
    (u = ['Q'] ∧ f = 96 / (1016 / 10)) :=
  ite_some_or (ite_some_or (ite_some_or (ite_some_or (ite_some_or (ite_some_or ite_some_none))))) h

theorem svgFactor_ne_zero {u : List Char} {f : Rat} (h : svgFactor u = some f) : f ≠ 0 := by
  rcases svgFactor_cases u f h with h | h | h | h | h | h | h <;> rw [h.2] <;> norm_num

theorem parseLength_factor (s : Option (List Char)) (v : Num) (u : List Char) (h : parseLength s = some (v, u)) :
    u = ['%'] ∨ ∃ f, svgFactor u = some f := by
  have hu := parseLength_unit_mem s v u h
  simp only [List.mem_cons, List.not_mem_nil, or_false] at hu
  rcases hu with rfl | rfl | rfl | rfl | rfl | rfl | rfl | rfl
  · exact Or.inr ⟨1, by decide +kernel⟩
  · exact Or.inr ⟨96, by decide +kernel⟩
  · exact Or.inr ⟨96 / (254 / 10), by decide +kernel⟩
  · exact Or.inr ⟨96 / (254 / 100), by decide +kernel⟩
  · exact Or.inr ⟨96 / 72, by decide +kernel⟩
  · exact Or.inr ⟨16, by decide +kernel⟩
  · exact Or.inr ⟨96 / (1016 / 10), by decide +kernel⟩
  · exact Or.inl rfl

/-- `getLength` is `unitsToUserUnits` with the default as reference, whatever the text parses to: the same tests in the
same order and the same branches, but for the spelling of the `Q` factor (`40.0 * 2.54` against `101.6`) and the order of
the two factors of a percentage -/
theorem getLength_eq_uu (s : List Char) (hs : s ≠ []) (r : Rat) :
    getLength (some s) r = unitsToUserUnits (some s) (some r) := by
  have hQ : GL.cQa * GL.cQb = UU.cQ := by norm_num [GL.cQa, GL.cQb, UU.cQ]
  have hP : (fun x => r * x / GL.cPct) = fun x => x * r / UU.cPctRef := funext fun x => by rw [mul_comm]; rfl
  unfold getLength unitsToUserUnits
  simp only [if_neg hs, hQ, hP]
  -- the other rows differ only in which copy of a constant they name
  cases parseLength (some s) <;> rfl

end C12
end Plotink
