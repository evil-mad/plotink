import Plotink.Model.C13
import Mathlib.Algebra.Order.Ring.Rat

/-! C13: the argmin fold of `nearest`. -/
namespace Plotink
namespace C13

/-- `st` is the running best over the scanned identifiers `l` -/
def Good (g : Grid) (q : Pt) (st : Option (Rat × Nat)) (l : List Nat) : Prop :=
  match st with
  | none => l = []
  | some (d, i) => i ∈ l ∧ d = sqDist q (endPt g i) ∧ ∀ j ∈ l, d ≤ sqDist q (endPt g j)

theorem good_better {g : Grid} {q : Pt} {st : Option (Rat × Nat)} {l : List Nat} (id : Nat)
    (h : Good g q st l) : Good g q (better g q st id) (l ++ [id]) := by
  unfold better
  rcases st with _ | ⟨bd, bi⟩
  · obtain rfl : l = [] := h
    exact ⟨List.mem_singleton_self _, rfl, fun j hj => (List.mem_singleton.mp hj ▸ le_refl _)⟩
  · obtain ⟨hi, hd, hmin⟩ := h
    show Good g q (if sqDist q (endPt g id) < bd then some (sqDist q (endPt g id), id) else some (bd, bi)) (l ++ [id])
    by_cases hlt : sqDist q (endPt g id) < bd
    · rw [if_pos hlt]
      exact ⟨List.mem_append_right _ (List.mem_singleton_self _), rfl, List.forall_mem_append.mpr
        ⟨fun j hj => (le_of_lt hlt).trans (hmin j hj), List.forall_mem_singleton.mpr (le_refl _)⟩⟩
    · rw [if_neg hlt]
      exact ⟨List.mem_append_left _ hi, hd, List.forall_mem_append.mpr ⟨hmin, List.forall_mem_singleton.mpr (not_lt.mp hlt)⟩⟩

theorem scan_append (g : Grid) (q : Pt) (st : Option (Rat × Nat)) (a b : List Nat) :
    scan g q st (a ++ b) = scan g q (scan g q st a) b := List.foldl_append

theorem good_scan (g : Grid) (q : Pt) (ids : List Nat) : Good g q (scan g q none ids) ids := by
  have key : ∀ (ids : List Nat) {st : Option (Rat × Nat)} {l : List Nat}, Good g q st l →
      Good g q (scan g q st ids) (l ++ ids) := by
    intro ids
    induction ids with
    | nil => intro st l h; rwa [List.append_nil]
    | cons id ids ih =>
      intro st l h
      have := ih (good_better id h)
      rwa [List.append_assoc] at this
  exact key ids (l := []) rfl

theorem good_none_iff {g : Grid} {q : Pt} {st : Option (Rat × Nat)} {l : List Nat} (h : Good g q st l) :
    st.map (·.2) = none ↔ l = [] := by
  rcases st with _ | ⟨d, i⟩
  · exact ⟨fun _ => h, fun _ => rfl⟩
  · exact ⟨nofun, fun e => absurd (e ▸ h.1) List.not_mem_nil⟩

theorem good_some {g : Grid} {q : Pt} {st : Option (Rat × Nat)} {l : List Nat} (h : Good g q st l) {r : Nat}
    (hr : st.map (·.2) = some r) : r ∈ l ∧ ∀ j ∈ l, sqDist q (endPt g r) ≤ sqDist q (endPt g j) := by
  rcases st with _ | ⟨d, i⟩
  · nomatch hr
  · obtain ⟨hi, rfl, hmin⟩ := h
    cases hr
    exact ⟨hi, hmin⟩

/-- `nearest` ends with the best of the first scan when that has a non-zero identifier, otherwise with the best of
both scans -/
theorem nearest_eq_scan (g : Grid) (q : Pt) :
    (∃ i, (scan g q none (nbIds g q)).map (·.2) = some (i + 1) ∧ nearest g q = some (i + 1)) ∨
    nearest g q = (scan g q none (nbIds g q ++ restIds g q)).map (·.2) := by
  unfold nearest
  rw [scan_append]
  rcases scan g q none (nbIds g q) with _ | ⟨d, _ | i⟩
  · exact Or.inr rfl
  · exact Or.inr rfl
  · exact Or.inl ⟨i, rfl, rfl⟩

theorem nearest_none_iff (g : Grid) (q : Pt) : nearest g q = none ↔ nbIds g q ++ restIds g q = [] := by
  rcases nearest_eq_scan g q with ⟨i, hs, hn⟩ | hn
  · rw [hn]
    exact ⟨nofun, fun e => absurd ((List.append_eq_nil_iff.mp e).1 ▸ (good_some (good_scan g q _) hs).1) List.not_mem_nil⟩
  · rw [hn]
    exact good_none_iff (good_scan g q _)

theorem nearest_some {g : Grid} {q : Pt} {r : Nat} (hr : nearest g q = some r) :
    r ∈ nbIds g q ++ restIds g q ∧ (∀ j ∈ nbIds g q, sqDist q (endPt g r) ≤ sqDist q (endPt g j)) ∧
    (r ∈ nbIds g q ∨ ∀ j ∈ nbIds g q ++ restIds g q, sqDist q (endPt g r) ≤ sqDist q (endPt g j)) := by
  rcases nearest_eq_scan g q with ⟨i, hs, hn⟩ | hn
  · obtain rfl := Option.some.inj (hn.symm.trans hr)
    obtain ⟨hm, hmin⟩ := good_some (good_scan g q _) hs
    exact ⟨List.mem_append_left _ hm, hmin, Or.inl hm⟩
  · obtain ⟨hm, hmin⟩ := good_some (good_scan g q _) (hn.symm.trans hr)
    exact ⟨hm, fun j hj => hmin j (List.mem_append_left _ hj), Or.inr hmin⟩

end C13
end Plotink
