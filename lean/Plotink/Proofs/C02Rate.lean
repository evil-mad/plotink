import Plotink.Gen.rate_t3
import Plotink.Proofs.C02Num

/-! # C02 — `Gen.rate_t3` equals the firmware rate after `T` ticks (numeric bridge + algebra) -/

namespace Plotink
namespace T3
open Py Py.Val Fw

/-- Magnitude envelope under which every binary64 / 103-bit intermediate of `rate_t3` and
`move_dist_t3` is exactly representable or has a negligible error. It is implied by firmware validity
(`envelope_of_valid` in `Proofs/C02Env.lean`, with room to spare); the numeric theorems only use the envelope, so they
are stronger than the property asks. The bounds are chosen so that the partial sums of `rate_main` stay below `2^53`
(they reach `2^43 + 2^52 + 2^50`). -/
structure EnvT3 (rate accel jerk T : Int) : Prop where
  hT1 : 1 ≤ T
  hT : T ≤ 2 ^ 32
  hr : |rate| ≤ 2 ^ 40
  ha : |accel| ≤ 2 ^ 40
  hj : |jerk| ≤ 2 ^ 40
  haT : |accel| * T ≤ 2 ^ 50
  hjT : |jerk| * T * T ≤ 2 ^ 50

theorem EnvT3.mono {rate accel jerk T : Int} (h : EnvT3 rate accel jerk T) (k : Int) (hk1 : 1 ≤ k) (hkT : k ≤ T) :
    EnvT3 rate accel jerk k := by
  obtain ⟨hT1, hT, hr, ha, hj, haT, hjT⟩ := h
  have ha0 := abs_nonneg accel
  have hj0 := abs_nonneg jerk
  refine ⟨hk1, le_trans hkT hT, hr, ha, hj, ?_, ?_⟩
  · exact (mul_le_mul_of_nonneg_left hkT ha0).trans haT
  · have h1 : |jerk| * k ≤ |jerk| * T := mul_le_mul_of_nonneg_left hkT hj0
    have h2 : |jerk| * k * k ≤ |jerk| * T * T :=
      mul_le_mul h1 hkT (by omega) (mul_nonneg hj0 (by omega))
    exact h2.trans hjT

theorem EnvT3.abs_T {rate accel jerk T : Int} (h : EnvT3 rate accel jerk T) : |T| = T :=
  abs_of_nonneg (le_trans zero_le_one h.hT1)

theorem EnvT3.accel_T {rate accel jerk T : Int} (h : EnvT3 rate accel jerk T) : |accel * T| ≤ 2 ^ 50 := by
  rw [abs_mul, h.abs_T]; exact h.haT

theorem EnvT3.jerk_TT {rate accel jerk T : Int} (h : EnvT3 rate accel jerk T) : |jerk * T * T| ≤ 2 ^ 50 := by
  rw [abs_mul, abs_mul, h.abs_T]; exact h.hjT

theorem EnvT3.jerk_T {rate accel jerk T : Int} (h : EnvT3 rate accel jerk T) : |jerk * T| ≤ 2 ^ 50 := by
  rw [abs_mul, h.abs_T]
  exact (le_mul_of_one_le_right (mul_nonneg (abs_nonneg jerk) (le_trans zero_le_one h.hT1)) h.hT1).trans h.hjT

theorem r0_abs (rate accel jerk : Int) : |r0 rate accel jerk| ≤ |rate| + |accel| + |jerk| := by
  unfold r0
  have h1 := tdiv2_bound accel
  have h2 := tdiv6_abs jerk
  linarith only [h1, h2, abs_add_le (rate - tdiv accel 2) (tdiv jerk 6), abs_sub rate (tdiv accel 2)]

theorem rate_main {R : Rounding} (hR : Contract R) (amb : Nat) (T rate accel jerk : Int)
    (hE : EnvT3 rate accel jerk T) :
    Gen.rate_t3 R amb (.int T) (.int rate) (.int accel) (.int jerk)
      = .int (t3Rate rate accel jerk T.toNat) := by
  have ⟨hT1, hT, hr, ha, hj, haT, hjT⟩ := hE
  have hT0 : T ≠ 0 := by omega
  unfold Gen.rate_t3
  simp only [int_int, eq_int_int, hT0, decide_false, Bool.false_eq_true, ↓reduceIte,
    div_int_int _ _ _ _ (by norm_num : ((2:Int):Rat) ≠ 0), div_int_int _ _ _ _ (by norm_num : ((6:Int):Rat) ≠ 0), int_flt,
    sub_int_int, add_int_int, sub_int_flt, mul_flt_int, mul_int_int, add_int_flt, add_flt_flt, round_flt,
    Int.cast_ofNat]
  have e1 : R.f64 ((accel : Rat) / 2) = (accel : Rat) / 2 :=
    f64_half hR.toExact accel (lt_of_le_of_lt ha (by norm_num))
  have e2 := intOfRat_sixth hR jerk hj
  have e3 : R.f64 ((jerk : Rat) / 2) = (jerk : Rat) / 2 :=
    f64_half hR.toExact jerk (lt_of_le_of_lt hj (by norm_num))
  rw [e1, intOfRat_half, e2, e3]
  change Val.int (roundHE (R.f64 (R.f64 (((r0 rate accel jerk : Int) : Rat) + _) + _))) = _
  -- with `q = r0`, `c = 2·accel − jerk`: `q + (c/2)·T + jerk·T²/2`, every partial sum a half-integer below `2^53`
  set q : Int := r0 rate accel jerk with hq
  set c : Int := 2 * accel - jerk with hc
  have bq : |q| ≤ 2 ^ 42 := (r0_abs rate accel jerk).trans (by linarith only [hr, ha, hj])
  have bc : |c| ≤ 2 * |accel| + |jerk| := by
    have := abs_sub (2 * accel) jerk
    rwa [abs_mul, abs_two] at this
  have bcT : |c * T| ≤ 2 ^ 52 := by
    have := abs_sub (2 * (accel * T)) (jerk * T)
    rw [abs_mul, abs_two, show 2 * (accel * T) - jerk * T = c * T by rw [hc]; ring] at this
    linarith only [this, hE.accel_T, hE.jerk_T]
  have b6 : |2 * q + c * T| ≤ 2 ^ 43 + 2 ^ 52 := by
    have := abs_add_le (2 * q) (c * T)
    rw [abs_mul, abs_two] at this
    linarith only [this, bq, bcT]
  have bj := hE.jerk_TT
  have hcl := rate_closed rate accel jerk T.toNat
  rw [Int.toNat_of_nonneg (by omega : 0 ≤ T), ← hq] at hcl
  set rT := t3Rate rate accel jerk T.toNat
  have hN : 2 * q + c * T + jerk * T * T = 2 * rT := by rw [hcl, hc]; ring
  have b8 : |2 * rT| < 2 ^ 53 := by
    have := abs_add_le (2 * q + c * T) (jerk * T * T)
    rw [hN] at this
    exact lt_of_le_of_lt (le_trans this (add_le_add b6 bj)) (by norm_num)
  have hX := hR.toExact
  rw [f64_half_eq hX ((accel : Rat) - (jerk : Rat) / 2) c (by rw [hc]; push_cast; ring)
      (lt_of_le_of_lt bc (by linarith only [ha, hj])),
    f64_half_eq hX ((c : Rat) / 2 * (T : Rat)) (c * T) (by push_cast; ring) (lt_of_le_of_lt bcT (by norm_num)),
    f64_half_eq hX ((q : Rat) + ((c * T : Int) : Rat) / 2) (2 * q + c * T) (by push_cast; ring)
      (lt_of_le_of_lt b6 (by norm_num)),
    f64_half hX (jerk * T * T) (lt_of_le_of_lt bj (by norm_num)),
    f64_half_eq hX _ (2 * rT) (by rw [← hN]; push_cast; ring) b8,
    Int.cast_mul, Int.cast_ofNat, mul_div_cancel_left₀ _ two_ne_zero, roundHE_int]

end T3
end Plotink
