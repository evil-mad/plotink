import Plotink.Proofs.C19Str

/-! The loops of `Model/C19.lean` as `find?` / `filter`, and the facts the property theorems of `Props/C19.lean` are
put together from. -/
namespace Plotink
namespace C19

/-- the `SER=` tag value of a hardware string of the `SER=… LOCAT` shape -/
def serTag (p : Port) : Option Str :=
  if isInfixB serK p.hwid && isInfixB locatK p.hwid then some (serSlice p.hwid) else none

theorem find?_cons_dev (f : Port → Bool) (p : Port) (ps : List Port) :
    ((p :: ps).find? f).map (·.dev) = if f p = true then some p.dev else (ps.find? f).map (·.dev) := by
  rw [List.find?_cons]; cases f p <;> rfl

theorem firstBy_eq (f : Port → Bool) (ps : List Port) : firstBy f ps = (ps.find? f).map (·.dev) := by
  induction ps with
  | nil => rfl
  | cons p ps ih => rw [firstBy, ih, find?_cons_dev]

theorem listLoop_eq (ps : List Port) : listLoop ps = ps.filter (fun p => descMatch p || idMatch p) := by
  induction ps with
  | nil => rfl
  | cons p ps ih =>
    simp only [listLoop, List.filter_cons]
    cases h1 : descMatch p <;> cases h2 : idMatch p <;> simp [ih]

/-- the test one pass of the `find_named` loop applies to a port (`matches3B` with the needles as given) -/
def hit3 (n n2 pl : Str) (p : Port) : Bool :=
  isInfixB n (lower p.hwid) || isInfixB n2 (lower p.desc) || pl.isPrefixOf ((lower p.desc).drop 11) ||
  pl.isPrefixOf (lower p.dev)

/-- the test one pass of the `find_named_ebb` loop applies to a port -/
def hitL (n n2 n3 pl : Str) (p : Port) : Bool := hit3 n n3 pl p || isInfixB n2 (lower p.hwid)

/-- the chain of tests of one `find_named` pass (the last one repeats the first) is a single disjunction -/
theorem ite_hit3 {α : Type} (a b c d : Bool) (x y : α) :
    (if (a || b) = true then x else if (c || d) = true then x else if a = true then x else y) =
      if (a || b || c || d) = true then x else y := by
  cases a <;> cases b <;> cases c <;> cases d <;> rfl

/-- the same for `find_named_ebb`, whose last two tests repeat the first two -/
theorem ite_hitL {α : Type} (a b c d e : Bool) (x y : α) :
    (if a = true then x else if b = true then x else if c = true then x else if d = true then x else
      if e = true then x else if a = true then x else if b = true then x else y) =
      if (a || c || d || e || b) = true then x else y := by
  cases a <;> cases b <;> cases c <;> cases d <;> cases e <;> rfl

theorem Ebb3.findLoop_eq (n n2 pl : Str) (ps : List Port) :
    Ebb3.findLoop n n2 pl ps = (ps.find? (hit3 n n2 pl)).map (·.dev) := by
  induction ps with
  | nil => rfl
  | cons p ps ih =>
    rw [Ebb3.findLoop, ite_hit3, ih, find?_cons_dev]; rfl

theorem Legacy.findLoop_eq (n n2 n3 pl : Str) (ps : List Port) :
    Legacy.findLoop n n2 n3 pl ps = (ps.find? (hitL n n2 n3 pl)).map (·.dev) := by
  induction ps with
  | nil => rfl
  | cons p ps ih =>
    rw [Legacy.findLoop, ite_hitL, ih, find?_cons_dev]; rfl

theorem Ebb3.findNamed_eq (k : Str) (ports : List Port) :
    Ebb3.findNamed (some k) ports = (ports.find? (matches3B k)).map (·.dev) := Ebb3.findLoop_eq ..

theorem Legacy.findNamed_eq (k : Str) (ports : List Port) :
    Legacy.findNamed (some k) ports = (ports.find? (matchesLB k)).map (·.dev) := Legacy.findLoop_eq ..

theorem matches3B_iff (k : Str) (q : Port) : matches3B k q = true ↔ Matches3 k q := by
  simp only [matches3B, Matches3, Bool.or_eq_true, isInfixB_iff, List.isPrefixOf_iff_prefix, or_assoc]

theorem matchesLB_iff (k : Str) (q : Port) : matchesLB k q = true ↔ MatchesL k q := by
  simp only [matchesLB, MatchesL, Bool.or_eq_true, matches3B_iff, isInfixB_iff]

theorem matches3_of_dev (key : Str) (p : Port) (h : lower key = lower p.dev) : Matches3 key p :=
  Or.inr (Or.inr (Or.inr (h ▸ List.prefix_refl _)))

theorem matches3_of_descName (key t : Str) (p : Port) (h1 : descName p = some t) (hk : lower key = lower t) :
    Matches3 key p := by
  simp only [descName, Option.ite_none_right_eq_some, Option.some.injEq] at h1
  refine Or.inr (Or.inr (Or.inl ?_))
  rw [hk, ← h1.2.2, lower_drop]
  exact List.prefix_refl _

theorem matches3_of_serTag (key t : Str) (p : Port) (h : serTag p = some t) (hk : lower key = lower t) :
    Matches3 key p := by
  simp only [serTag, Option.ite_none_right_eq_some, Bool.and_eq_true, Option.some.injEq] at h
  obtain ⟨⟨hs, -⟩, rfl⟩ := h
  exact Or.inl (lower_tag_infix hk (serSlice_spec p.hwid hs))

/-- a name taken from the `SER=` tag is that tag (`serName` is `serTag` with the length test) -/
theorem matches3_of_serName (key t : Str) (p : Port) (h : serName p = some t) (hk : lower key = lower t) :
    Matches3 key p := by
  refine matches3_of_serTag key t p ?_ hk
  simp only [serName, Option.ite_none_right_eq_some, Option.ite_none_left_eq_some, Option.some.injEq] at h
  rw [serTag, if_pos h.1, h.2.2]

theorem matchesL_of_snrName (key t : Str) (p : Port) (h : snrName p = some t) (hk : lower key = lower t) :
    MatchesL key p := by
  simp only [snrName, Option.ite_none_right_eq_some, Option.ite_none_left_eq_some, Option.some.injEq] at h
  obtain ⟨hc, -, rfl⟩ := h
  obtain ⟨i, hi⟩ := findIdx_isSome snrK p.hwid hc
  refine Or.inr (lower_tag_infix hk ?_)
  simp only [hi]
  exact snrTail_spec p.hwid i hi

theorem matches3_of_name (key : Str) (p : Port) (hk : lower key = lower (Ebb3.nameOf p)) : Matches3 key p := by
  unfold Ebb3.nameOf at hk
  split at hk
  · exact matches3_of_descName key _ p ‹_› hk
  · split at hk
    · exact matches3_of_serName key _ p ‹_› hk
    · exact matches3_of_dev key p hk

theorem matchesL_of_name (key : Str) (p : Port) (hk : lower key = lower (Legacy.nameOf p)) : MatchesL key p := by
  unfold Legacy.nameOf at hk
  split at hk
  · exact Or.inl (matches3_of_descName key _ p ‹_› hk)
  · split at hk
    · exact Or.inl (matches3_of_serName key _ p ‹_› hk)
    · split at hk
      · exact matchesL_of_snrName key _ p ‹_› hk
      · exact Or.inl (matches3_of_dev key p hk)

theorem find?_dev_iff (f : Port → Bool) (M : Port → Prop) (hfM : ∀ q, f q = true ↔ M q) (ports : List Port) (d : Str) :
    ((ports.find? f).map (·.dev) = some d ↔
      ∃ pre p post, ports = pre ++ p :: post ∧ p.dev = d ∧ M p ∧ ∀ q ∈ pre, ¬ M q) ∧
    ((ports.find? f).map (·.dev) = none ↔ ∀ q ∈ ports, ¬ M q) := by
  constructor
  · rw [Option.map_eq_some_iff]
    constructor
    · rintro ⟨p, hp, rfl⟩
      obtain ⟨hfp, pre, post, rfl, hpre⟩ := List.find?_eq_some_iff_append.mp hp
      refine ⟨pre, p, post, rfl, rfl, (hfM p).mp hfp, fun q hq hm => ?_⟩
      have := hpre q hq
      rw [(hfM q).mpr hm] at this
      cases this
    · rintro ⟨pre, p, post, rfl, rfl, hp, hpre⟩
      refine ⟨p, List.find?_eq_some_iff_append.mpr ⟨(hfM p).mpr hp, pre, post, rfl, fun q hq => ?_⟩, rfl⟩
      rw [Bool.eq_false_iff.mpr (mt (hfM q).mp (hpre q hq))]; rfl
  · rw [Option.map_eq_none_iff, List.find?_eq_none]
    exact ⟨fun h q hq hm => h q hq ((hfM q).mpr hm), fun h q hq hf => h q hq ((hfM q).mp hf)⟩

theorem find?_dev_mem (f : Port → Bool) (ports : List Port) (d : Str) (h : (ports.find? f).map (·.dev) = some d) :
    ∃ p ∈ ports, p.dev = d := by
  obtain ⟨p, hp, rfl⟩ := Option.map_eq_some_iff.mp h
  exact ⟨p, List.mem_of_find?_eq_some hp, rfl⟩

theorem findFirst_eq_spec (ports : List Port) : Ebb3.findFirst ports = specFirst ports := by
  unfold Ebb3.findFirst specFirst
  rw [firstBy_eq, firstBy_eq]
  cases ports.find? descMatch <;> rfl

theorem specFirst_mem (ports : List Port) (d : Str) (h : specFirst ports = some d) : ∃ p ∈ ports, p.dev = d := by
  unfold specFirst at h
  cases h1 : ports.find? descMatch with
  | none => rw [h1] at h; exact find?_dev_mem idMatch ports d h
  | some p => exact find?_dev_mem descMatch ports d (by rw [h1] at h ⊢; exact h)

theorem listPorts_eq_spec (ports : List Port) : Ebb3.listPorts ports = specList ports := by
  simp only [Ebb3.listPorts, specList, listLoop_eq, List.isEmpty_iff]

theorem specList_mem {ports l : List Port} (h : specList ports = some l) : ∀ p ∈ l, p ∈ ports := by
  simp only [specList, Option.ite_none_left_eq_some, Option.some.injEq] at h
  exact fun p hp => (List.mem_filter.mp (h.2 ▸ hp)).1

theorem find?_congr {α : Type} (f g : α → Bool) (l : List α) (h : ∀ x ∈ l, f x = g x) : l.find? f = l.find? g := by
  induction l with
  | nil => rfl
  | cons a t ih =>
    simp only [List.find?_cons, h a List.mem_cons_self]
    rw [ih (fun x hx => h x (List.mem_cons_of_mem _ hx))]

theorem nameOf_eq_of_not_snr (p : Port) (h : ¬ snrK <:+: p.hwid) : Legacy.nameOf p = Ebb3.nameOf p := by
  have : snrName p = none := by simp only [snrName, (isInfixB_false_iff _ _).mpr h, Bool.false_eq_true, if_false]
  simp only [Legacy.nameOf, Ebb3.nameOf, this]

end C19
end Plotink
