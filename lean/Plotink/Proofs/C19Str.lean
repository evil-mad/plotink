import Plotink.Model.C19

/-! The string primitives of `Model/C19.lean` in terms of `<:+:` / `<+:`: `isInfixB` is infix, `findIdx` returns the
position of an occurrence, `lower` commutes with `++`, `drop` and both relations, and the text the naming steps cut out
behind a four-character tag stands behind that tag in the string (`serSlice_spec`, `snrTail_spec`). -/
namespace Plotink
namespace C19

theorem isInfixB_iff (n h : Str) : isInfixB n h = true ↔ n <:+: h := by
  induction h with
  | nil => simp [isInfixB, List.isPrefixOf_iff_prefix]
  | cons c t ih =>
    rw [isInfixB, Bool.or_eq_true, ih, List.isPrefixOf_iff_prefix, List.infix_cons_iff]

theorem isInfixB_false_iff (n h : Str) : isInfixB n h = false ↔ ¬ n <:+: h := by
  rw [← isInfixB_iff]; simp

theorem findIdx_some (n h : Str) (i : Nat) (hf : findIdx n h = some i) :
    ∃ a c, h = a ++ n ++ c ∧ a.length = i := by
  induction h generalizing i with
  | nil =>
    simp only [findIdx, Option.ite_none_right_eq_some, List.isPrefixOf_iff_prefix, List.prefix_nil,
      Option.some.injEq] at hf
    exact ⟨[], [], by rw [hf.1]; rfl, hf.2⟩
  | cons c t ih =>
    rw [findIdx] at hf
    split at hf
    · obtain ⟨r, hr⟩ := List.isPrefixOf_iff_prefix.mp ‹_›
      exact ⟨[], r, hr.symm, Option.some.inj hf⟩
    · obtain ⟨j, hj, rfl⟩ := Option.map_eq_some_iff.mp hf
      obtain ⟨a, r, hh, hl⟩ := ih j hj
      exact ⟨c :: a, r, by rw [hh]; rfl, congrArg (· + 1) hl⟩

theorem findIdx_isSome (n h : Str) (hi : isInfixB n h = true) : ∃ i, findIdx n h = some i := by
  induction h with
  | nil => exact ⟨0, if_pos hi⟩
  | cons c t ih =>
    rw [findIdx]
    split
    · exact ⟨0, rfl⟩
    · rw [isInfixB, Bool.or_eq_true] at hi
      obtain ⟨j, hj⟩ := ih (hi.resolve_left ‹_›)
      exact ⟨j + 1, by rw [hj]; rfl⟩

theorem sliceTo_prefix (h : Str) (i : Nat) (j : Option Nat) : sliceTo h i j <+: h.drop i := by
  cases j <;> (rw [sliceTo, List.drop_take]; exact List.take_prefix _ _)

theorem lower_append (a b : Str) : lower (a ++ b) = lower a ++ lower b := by simp [lower]
theorem lower_drop (a : Str) (n : Nat) : lower (a.drop n) = (lower a).drop n := by simp [lower, List.map_drop]
theorem lower_cons (c : Char) (a : Str) : lower (c :: a) = lowerC c :: lower a := rfl
theorem lower_length (a : Str) : (lower a).length = a.length := by simp [lower]

theorem lower_infix {n h : Str} (hi : n <:+: h) : lower n <:+: lower h := by
  obtain ⟨a, c, rfl⟩ := hi
  exact ⟨lower a, lower c, by simp [lower_append]⟩

theorem lower_prefix {n h : Str} (hp : n <+: h) : lower n <+: lower h := by
  obtain ⟨c, rfl⟩ := hp
  exact ⟨lower c, by simp [lower_append]⟩

theorem lit_ebbName : ebbName = ['E', 'i', 'B', 'o', 't', 'B', 'o', 'a', 'r', 'd'] := String.toList_ofList
theorem lit_vidpid : vidpid = ['U', 'S', 'B', ' ', 'V', 'I', 'D', ':', 'P', 'I', 'D', '=', '0', '4', 'D', '8', ':', 'F', 'D', '9', '2'] :=
  String.toList_ofList
theorem lit_serK : serK = ['S', 'E', 'R', '='] := String.toList_ofList
theorem lit_snrK : snrK = ['S', 'N', 'R', '='] := String.toList_ofList
theorem lit_locatK : locatK = [' ', 'L', 'O', 'C', 'A', 'T'] := String.toList_ofList

theorem lower_tag_infix {K key t h : Str} (hk : lower key = lower t) (hi : K ++ t <:+: h) :
    lower (K ++ key) <:+: lower h := by
  rw [lower_append, hk, ← lower_append]; exact lower_infix hi

/-- `i + 4`: the tags `SER=` and `SNR=` have four characters -/
theorem drop_after_tag (K h : Str) (i : Nat) (hK : K.length = 4) (hi : findIdx K h = some i) :
    K ++ h.drop (i + 4) <:+: h := by
  obtain ⟨a, r, hh, hl⟩ := findIdx_some K h i hi
  have : h.drop (i + 4) = r := by rw [hh, ← hl, ← hK, ← List.length_append, List.drop_left]
  exact ⟨a, [], by rw [this, List.append_nil, ← List.append_assoc]; exact hh.symm⟩

theorem serSlice_spec (h : Str) (hs : isInfixB serK h = true) : serK ++ serSlice h <:+: h := by
  obtain ⟨i, hi⟩ := findIdx_isSome serK h hs
  have hp : serSlice h <+: h.drop (i + 4) := by
    simpa only [serSlice, hi] using sliceTo_prefix h (i + 4) (findFrom locatK h (i + 4))
  exact ((List.prefix_append_right_inj serK).mpr hp).isInfix.trans (drop_after_tag serK h i (by rw [lit_serK]; rfl) hi)

theorem snrTail_spec (h : Str) (i : Nat) (hi : findIdx snrK h = some i) : snrK ++ h.drop (i + 4) <:+: h :=
  drop_after_tag snrK h i (by rw [lit_snrK]; rfl) hi

end C19
end Plotink
