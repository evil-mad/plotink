import Plotink.Proofs.C04Latch
/-!
# `command` / `query` / `query_statusbyte` on any device: one exchange, then a verdict

The only place where `command`, `query` and `query_statusbyte` touch their device is `exchange` (one write, the bounded
read loop).  What follows is a function of the exchange's outcome `r : Option Str` alone: the message to record
(`cmdVerdict`, `qryVerdictX`; `none` = success) and, for a query, the value (`qryVal`).  `commandCore_of_exchange`,
`queryCore_of_exchange`, `queryStatusByteBody_eq` are the normal forms, for every device; a particular device (a script, a
conforming device) only has to say what its `exchange` returns.  Core Lean only.
-/
namespace Plotink
namespace Ebb3
open M

variable {σ : Type}

/-- `record_error(m)` for `some m`, nothing for `none` -/
def recordOpt : Option Str → St → St
  | .none, st => st
  | some m, st => recordErrorSt m st

def record (v : Option Str) : M σ Unit := modifySt (recordOpt v)

theorem recordOpt_of_none {st : St} (h : st.err = .none) (v : Option Str) : recordOpt v st = { st with err := v } := by
  cases v with
  | none => cases st; simp only at h; subst h; rfl
  | some m => simp [recordOpt, recordErrorSt, h]

theorem recordOpt_port (v : Option Str) (st : St) : (recordOpt v st).port = st.port := by
  cases v with
  | none => rfl
  | some m => show (recordErrorSt m st).port = _; unfold recordErrorSt; split <;> rfl

/-- first error wins: a second `record_error` right after a first changes nothing -/
theorem recordErrorSt_twice (m₁ m₂ : Str) (st : St) : recordErrorSt m₂ (recordErrorSt m₁ st) = recordErrorSt m₁ st := by
  cases h : st.err <;> simp [recordErrorSt, h]

theorem startsWith_nil_right {name : Str} (h : name ≠ []) : startsWith name [] = false := by
  cases name with
  | nil => exact absurd rfl h
  | cons a as => rfl

theorem cmdName_ok_of_ne {t : Str} (h : t ≠ []) : ∃ name, cmdName t = .ok name ∧ name ≠ [] := by
  match t, h with
  | [c], _ => exact ⟨[c], rfl, by simp⟩
  | c :: d :: r, _ =>
    by_cases hd : d = ','
    · exact ⟨[c], by simp [cmdName, hd], by simp⟩
    · exact ⟨[c, d], by simp [cmdName, hd], by simp⟩

theorem cmdName_ne {req name : Str} (h : cmdName req = .ok name) : name ≠ [] := by
  cases req with
  | nil => cases h
  | cons c cs =>
    cases cs with
    | nil => injection h with h; rw [← h]; simp
    | cons d ds =>
      simp only [cmdName] at h
      split at h <;> (injection h with h; rw [← h]; simp)

/-- what `command` records for the outcome of its exchange (`none` in: an I/O call raised; `none` out: success) -/
def cmdVerdict (P : Params) (cmd name : Str) : Option Str → Option Str
  | .none => if P.ignoreCmd.contains (lower name) then .none else some (Msg.cmdUsb cmd)
  | some resp =>
    if startsWith name resp then (if hasErr resp then some (Msg.cmdErr cmd resp) else .none)
    else if resp.isEmpty then some (Msg.cmdTimeout cmd) else some (Msg.cmdUnexpected cmd resp)

/-- what `query` records for a (possibly empty) response -/
def qryVerdict (q name resp : Str) : Option Str :=
  if hasErr resp || !(startsWith name resp) then
    some (if resp.isEmpty then Msg.qryTimeout q else Msg.qryUnexpected q resp)
  else .none

/-- … and for the outcome of its exchange: an ignored I/O error falls through with the empty response -/
def qryVerdictX (P : Params) (q name : Str) : Option Str → Option Str
  | some resp => qryVerdict q name resp
  | .none => if P.ignoreQry.contains (lower name) then qryVerdict q name [] else some (Msg.qryUsb q)

/-- the value `query` returns -/
def qryVal (P : Params) (q name : Str) (r : Option Str) : Val :=
  match qryVerdictX P q name r with
  | some _ => .none
  | .none => .str (stripHeader name (r.getD []))

theorem qryVal_of_some {P : Params} {q name : Str} {r : Option Str} {m : Str} (h : qryVerdictX P q name r = some m) :
    qryVal P q name r = .none := by
  simp only [qryVal, h]

theorem qryVal_of_none {P : Params} {q name : Str} {r : Option Str} (h : qryVerdictX P q name r = .none) :
    qryVal P q name r = .str (stripHeader name (r.getD [])) := by
  simp only [qryVal, h]

/-- the outcome of an exchange (what `exchange` returns) is a reply that begins with the request's name and carries no
`Err:`; `Spec.accepted` is the same test on the specification's `Reply`, where a timeout is a constructor of its own and
not the empty text -/
def Accepted (name : Str) : Option Str → Prop
  | some t => startsWith name t = true ∧ hasErr t = false
  | .none => False

theorem commandJudge_eq (P : Params) (cmd name : Str) (r : Option Str) :
    (commandJudge P cmd name r : M σ Unit) = record (cmdVerdict P cmd name r) := by
  cases r with
  | none =>
    show (if _ then _ else _) = _
    unfold cmdVerdict
    split <;> rfl
  | some resp =>
    unfold commandJudge cmdVerdict
    by_cases hs : startsWith name resp = true
    · by_cases he : hasErr resp = true <;> simp only [hs, he, if_true] <;> rfl
    · by_cases hemp : resp.isEmpty = true
      · -- an empty response carries no `Err:`
        have he : hasErr resp = false := by rw [List.isEmpty_iff.mp hemp]; rfl
        simp only [hs, hemp, he, if_true]; rfl
      · by_cases he : hasErr resp = true <;> simp only [hs, hemp, he, if_true]
        · -- `Unexpected response` was recorded first, so `Error reported` is dropped
          funext w
          show (_, { w with st := recordErrorSt _ (recordErrorSt _ w.st) }) = _
          rw [recordErrorSt_twice]; rfl
        · rfl

theorem queryJudge_eq (q name resp : Str) :
    (queryJudge q name resp : M σ Val) =
      match qryVerdict q name resp with
      | some m => recordError m >>= fun _ => pure .none
      | .none => pure (.str (stripHeader name resp)) := by
  unfold queryJudge qryVerdict
  split
  · split <;> rfl
  · rfl

theorem cmdVerdict_accepted (P : Params) (cmd : Str) {name : Str} {r : Option Str} (h : Accepted name r) :
    cmdVerdict P cmd name r = .none := by
  cases r with
  | none => exact h.elim
  | some t => simp [cmdVerdict, h.1, h.2]

theorem qryVerdict_nil (q : Str) {name : Str} (hne : name ≠ []) : qryVerdict q name [] = some (Msg.qryTimeout q) := by
  simp [qryVerdict, startsWith_nil_right hne]

theorem qryVerdictX_none (P : Params) (q : Str) {name : Str} (hne : name ≠ []) :
    ∃ m, qryVerdictX P q name .none = some m := by
  show ∃ m, (if P.ignoreQry.contains (lower name) then qryVerdict q name [] else some (Msg.qryUsb q)) = some m
  split
  · exact ⟨_, qryVerdict_nil q hne⟩
  · exact ⟨_, rfl⟩

theorem qryVerdictX_none_iff (P : Params) (q : Str) {name : Str} (hne : name ≠ []) (r : Option Str) :
    qryVerdictX P q name r = .none ↔ Accepted name r := by
  cases r with
  | none =>
    obtain ⟨m, hm⟩ := qryVerdictX_none P q hne
    simp [hm, Accepted]
  | some t =>
    cases hs : startsWith name t <;> cases he : hasErr t <;> simp [qryVerdictX, qryVerdict, Accepted, hs, he]

/-- a text that begins with a literal is not empty: the literal is a `cons` (`String.toList_ofList` is `h` for a literal,
which is `String.ofList` of its characters) -/
theorem cons_append_isEmpty {c : Char} {l pre : Str} (h : pre = c :: l) (rest : Str) :
    (pre ++ rest).isEmpty = false := by
  rw [h]; rfl

/-- the messages `query` records are not empty (`if self.err:` in `query_steps` sees them) -/
theorem qryVerdictX_nonempty {P : Params} {q name : Str} {r : Option Str} {m : Str}
    (h : qryVerdictX P q name r = some m) : m.isEmpty = false := by
  have h1 : (Msg.qryTimeout q).isEmpty = false := cons_append_isEmpty String.toList_ofList _
  have h2 : (Msg.qryUsb q).isEmpty = false := cons_append_isEmpty String.toList_ofList _
  have h3 : ∀ t, (Msg.qryUnexpected q t).isEmpty = false := fun t => by
    unfold Msg.qryUnexpected
    rw [List.append_assoc, List.append_assoc]
    exact cons_append_isEmpty String.toList_ofList _
  have hv : ∀ {t m}, qryVerdict q name t = some m → m.isEmpty = false := by
    intro t m h
    unfold qryVerdict at h
    split at h
    · have := Option.some.inj h
      split at this
      · exact this ▸ h1
      · exact this ▸ h3 _
    · cases h
  cases r with
  | some t => exact hv h
  | none =>
    simp only [qryVerdictX] at h
    split at h
    · exact hv h
    · exact Option.some.inj h ▸ h2

theorem qgJudge_run (resp : Str) (w : World σ) :
    ∃ val v, qgJudge resp w = (.ok val, { w with st := recordOpt v w.st }) ∧
      (Accepted "QG".toList (some resp) → v = .none) ∧ (val = .none ∨ v = .none) := by
  unfold qgJudge
  split
  · rename_i hs
    refine ⟨.none, some (if resp.isEmpty then Msg.qgTimeout else Msg.qgUnexpected resp), ?_, fun h => ?_, Or.inl rfl⟩
    · split <;> rfl
    · rw [h.1] at hs; cases hs
  · split
    · rename_i he
      exact ⟨.none, some (Msg.qgErr resp), rfl, (fun h => by rw [h.2] at he; cases he), Or.inl rfl⟩
    · cases pyInt 16 (resp.drop 3) with
      | some z => exact ⟨.int z, .none, rfl, fun _ => rfl, Or.inr rfl⟩
      | none => exact ⟨.none, .none, rfl, fun _ => rfl, Or.inr rfl⟩

theorem portRead_st (D : Device σ) (w : World σ) :
    ∃ r w', portRead D w = (.ok r, w') ∧ w'.st = w.st ∧ w'.out = w.out := ⟨_, _, rfl, rfl, rfl⟩

theorem readLoop_st (D : Device σ) : ∀ (n : Nat) (w : World σ),
    ∃ r w', readLoop D n w = (.ok r, w') ∧ w'.st = w.st ∧ w'.out = w.out
  | 0, w => ⟨_, w, rfl, rfl, rfl⟩
  | n + 1, w => by
    obtain ⟨r, w1, h1, hs, ho⟩ := portRead_st D w
    rw [readLoop, bind_ok h1]
    cases r with
    | none => exact ⟨_, w1, rfl, hs, ho⟩
    | some l =>
      dsimp only
      split
      · obtain ⟨r2, w2, h2, hs2, ho2⟩ := readLoop_st D n w1
        exact ⟨r2, w2, h2, hs2.trans hs, ho2.trans ho⟩
      · exact ⟨_, w1, rfl, hs, ho⟩

theorem exchange_st (D : Device σ) (n : Nat) (t : Str) (w : World σ) :
    ∃ r w', exchange D n t w = (.ok r, w') ∧ w'.st = w.st ∧ w'.out = w.out ++ [t ++ ['\r']] := by
  unfold exchange
  rw [bind_ok (rfl : portWrite D (t ++ ['\r']) w = (.ok _, _))]
  split
  · exact readLoop_st D (n + 1) _
  · exact ⟨_, _, rfl, rfl, rfl⟩

theorem exchange_st_eq {D : Device σ} {n : Nat} {t : Str} {w w' : World σ} {r : Option Str}
    (hx : exchange D n t w = (.ok r, w')) : w'.st = w.st :=
  let ⟨_, _, h, hs, _⟩ := exchange_st D n t w
  (ok_inv (h.symm.trans hx)).2 ▸ hs

theorem commandCore_of_exchange (P : Params) (D : Device σ) {cmd name : Str} (hn : cmdName cmd = .ok name)
    {w w1 : World σ} {r : Option Str} (hx : exchange D P.retryCmd cmd w = (.ok r, w1)) :
    commandCore P D cmd w =
      (.ok (.bool (recordOpt (cmdVerdict P cmd name r) w1.st).err.isNone),
       { w1 with st := recordOpt (cmdVerdict P cmd name r) w1.st }) := by
  unfold commandCore
  simp only [hn]
  rw [bind_ok hx, commandJudge_eq]
  rfl

theorem queryCore_of_exchange (P : Params) (D : Device σ) {q name : Str} (hn : cmdName q = .ok name)
    {w w1 : World σ} {r : Option Str} (hx : exchange D P.retryQry q w = (.ok r, w1)) :
    queryCore P D q w =
      (.ok (qryVal P q name r), { w1 with st := recordOpt (qryVerdictX P q name r) w1.st }) := by
  unfold queryCore
  simp only [hn]
  rw [bind_ok hx]
  unfold qryVal
  cases r with
  | some resp =>
    simp only [queryJudge_eq, qryVerdictX]
    cases qryVerdict q name resp <;> rfl
  | none =>
    simp only [qryVerdictX]
    split
    · simp only [queryJudge_eq]
      cases qryVerdict q name [] <;> rfl
    · rfl

/-- `command` returns, having written its text, whatever the device answers -/
theorem commandCore_out (P : Params) (D : Device σ) {cmd name : Str} (hn : cmdName cmd = .ok name) (w : World σ) :
    ∃ v w', commandCore P D cmd w = (.ok v, w') ∧ w'.out = w.out ++ [cmd ++ ['\r']] :=
  let ⟨_, _, hx, _, ho⟩ := exchange_st D P.retryCmd cmd w
  ⟨_, _, commandCore_of_exchange P D hn hx, ho⟩

theorem queryCore_out (P : Params) (D : Device σ) {q name : Str} (hn : cmdName q = .ok name) (w : World σ) :
    ∃ v w', queryCore P D q w = (.ok v, w') ∧ w'.out = w.out ++ [q ++ ['\r']] :=
  let ⟨_, _, hx, _, ho⟩ := exchange_st D P.retryQry q w
  ⟨_, _, queryCore_of_exchange P D hn hx, ho⟩

/-- `command` / `query` on a text that is not blank return (a value, not an exception), whatever the device and the state
of the object -/
theorem commandRun_ok (P : Params) (D : Device σ) (text : Str) (hnb : strip text ≠ []) (w : World σ) :
    ∃ v w', (commandP P D (some text)).run w = (.ok v, w') := by
  rcases Prog.run_cases (commandP P D (some text)) _ rfl w with h | ⟨-, h⟩
  · exact ⟨_, _, h⟩
  · obtain ⟨name, hn, -⟩ := cmdName_ok_of_ne hnb
    obtain ⟨v, w', h', -⟩ := commandCore_out P D hn w
    exact ⟨v, w', h.trans h'⟩

theorem queryRun_ok (P : Params) (D : Device σ) (text : Str) (hnb : strip text ≠ []) (w : World σ) :
    ∃ v w', (queryP P D (some text)).run w = (.ok v, w') := by
  rcases Prog.run_cases (queryP P D (some text)) _ rfl w with h | ⟨-, h⟩
  · exact ⟨_, _, h⟩
  · obtain ⟨name, hn, -⟩ := cmdName_ok_of_ne hnb
    obtain ⟨v, w', h', -⟩ := queryCore_out P D hn w
    exact ⟨v, w', h.trans h'⟩

/-- `query_statusbyte` is an exchange without retry -/
theorem queryStatusByteBody_eq (D : Device σ) :
    queryStatusByteBody D = exchange D 0 "QG".toList >>= fun r =>
      match r with
      | .none => qgUsbFail
      | some t => qgJudge t := by
  funext w
  unfold queryStatusByteBody exchange
  show (portWrite D "QG\r".toList >>= _) w = (portWrite D "QG\r".toList >>= _ >>= _) w
  rw [bind_ok (rfl : portWrite D "QG\r".toList w = (.ok _, _)), bind_apply (portWrite D _ >>= _),
    bind_ok (rfl : portWrite D "QG\r".toList w = (.ok _, _))]
  split
  · obtain ⟨r, w1, h1, -⟩ := portRead_st D { w with dev := (D.write w.dev "QG\r".toList).2, out := w.out ++ ["QG\r".toList] }
    rw [readLoop, bind_ok h1, bind_ok h1]
    cases r with
    | none => rfl
    | some l =>
      dsimp only
      -- a blank line makes the loop return `''`, which is what `strip` made of it
      by_cases he : (strip l).isEmpty = true
      · simp only [he, if_true, readLoop]
        rw [List.isEmpty_iff.mp he]; rfl
      · simp only [he]; rfl
  · rfl

end Ebb3
end Plotink
