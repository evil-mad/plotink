import Plotink.Proofs.Ebb3GenHelpers
import Plotink.Proofs.Ebb3GenPrims
import Plotink.Proofs.Ebb3GenDecode
import Plotink.Proofs.C19Gen1
import Plotink.Proofs.Ebb3GenFrameAll

/-! # Bridges of `find_first`, `_get_port_name` and `connect`

The model's `connect` takes the environment of the call as two extra arguments: `found` (what the port search yields)
and `openOk` (does `serial.Serial(...)` open).  The regenerated code reads them from `World.ext`.  `PortIn` ties the
two: with no name given, `found` is C19's `findFirst` of the `comports()` list (through `C19Gen.find_first_bridge`);
with a name, it is what `find_named` returns.

`connect` is walked once, for any relation `S` between the two ends that contains `Sim` (`connect_bridge_rel`): up to
the future-syntax exchange at its end every fuel and every class of fault the handlers name will do; the exchange
itself (`conn_tail`) lets a fault escape and calls `query_nickname`. -/

namespace Plotink
namespace Ebb3Gen
open PyObj Gen

/-- `if self.port_name is None: self.record_error(<message>)` -/
theorem noPort_stmt {σ : Type} (fuel : Nat) (env : σ) (e : Expr EBB3_Obj σ) (m : List Char)
    (he : e fuel env = ok (.str m)) (w : World EBB3_Obj) (ho : ObjOk w.obj) :
    ifte (fun _ _ => app1 op_is_none (getattr (·.port_name)))
        (expr (fun fuel env => mcall1 (EBB3_record_error fuel) (e fuel env))) pass fuel env w
      = .norm env { w with obj := if isNone w.obj.port_name then recErr m w.obj else w.obj } := by
  rw [ifte_of (v := .bool (isNone w.obj.port_name)) (w' := w) (by
    simp only [app1, PyObj.bind, getattr_optStr w ho.port_name, ofP, op_is_none, ok])]
  cases isNone w.obj.port_name
  · rfl
  · simp only [truthy_bool, ↓reduceIte, expr, he, mcall1_ok_apply, record_error_eval fuel m w ho, ofOut_val]

/-- the port-search inputs of the world, against the `found` argument of the model's `find_first` / `connect` -/
def PortIn (given found : Option Ebb3.Str) (ext : Ext) : Prop :=
  match given with
  | Option.none => ∃ ports : List C19.Port,
      ext.comports = .ok (.list (ports.map LegacyGen.encPort)) ∧ found = C19.Ebb3.findFirst ports
  | some _ => ext.findNamed = encReq found

theorem encOptStr_eq (o : Option Ebb3.Str) : LegacyGen.encOptStr o = encReq o := by cases o <;> rfl

theorem absOpt_encReq (o : Option Ebb3.Str) : absOpt (encReq o) = o := by cases o <;> rfl

theorem isOptStr_encReq (o : Option Ebb3.Str) : IsOptStr (encReq o) := by cases o <;> trivial

theorem objOk_setPortName (o : EBB3_Obj) (ho : ObjOk o) (f : Option Ebb3.Str) :
    ObjOk { o with port_name := encReq f } :=
  { ho with port_name := isOptStr_encReq f }

/-- **`find_first`**: the scan of `comports()` (C19) stores what the model's `find_first` is given -/
theorem find_first_bridge' (fuel : Nat) (found : Option Ebb3.Str) (w : World EBB3_Obj) (hg : Good w)
    (hin : PortIn Option.none found w.ext) :
    Sim (EBB3_find_first fuel w) (Ebb3.run Ebb3.srcParams Ebb3.scriptDev (.find_first found) (absWorld w)) := by
  obtain ⟨ports, hc, rfl⟩ := hin
  rw [C19Gen.find_first_bridge fuel ports w hc, encOptStr_eq]
  refine ⟨rfl, ?_, hg.setObj (objOk_setPortName _ hg.obj _)⟩
  show _ = (Ebb3.World.mk _ _ _ _)
  simp only [absWorld, absSt, absOpt_encReq]

/-- what `_get_port_name(given)` does to the attributes -/
def gpnObj (given found : Option Ebb3.Str) (o : EBB3_Obj) : EBB3_Obj :=
  if found.isNone then
    recErr (match given with | Option.none => Ebb3.Msg.noDevice | some g => Ebb3.Msg.noNamed g)
      { o with port_name := encReq found }
  else { o with port_name := encReq found }

theorem getattr_port_name (w : World EBB3_Obj) (ho : ObjOk w.obj) :
    getattr (fun o : EBB3_Obj => o.port_name) w = (.ok w.obj.port_name, w) := getattr_optStr w ho.port_name

theorem get_port_name_eval (fuel : Nat) (given found : Option Ebb3.Str) (w : World EBB3_Obj) (ho : ObjOk w.obj)
    (hin : PortIn given found w.ext) :
    EBB3__get_port_name fuel (encReq given) w = .val .none { w with obj := gpnObj given found w.obj } := by
  unfold EBB3__get_port_name EBB3__get_port_name_main EBB3__get_port_name_if1
  have ho' : ObjOk (World.obj { w with obj := { w.obj with port_name := encReq found } }) :=
    objOk_setPortName w.obj ho found
  cases given with
  | none =>
    obtain ⟨ports, hc, hf⟩ := hin
    simp only [encReq, PyObj.run, ifte, app1_ok, op_is_none, isNone, ofP_ok, ok_apply, truthy_bool, ↓reduceIte]
    rw [block_cons2, block_one, seq_norm (expr_of (v := .none)
      (w' := { w with obj := { w.obj with port_name := encReq found } }) (by
        simp only [mcall0_apply, C19Gen.find_first_bridge fuel ports w hc, encOptStr_eq, ofOut_val, hf]))]
    unfold EBB3__get_port_name_if2 gpnObj
    rw [noPort_stmt fuel _ _ Ebb3.Msg.noDevice _ _ ho']
    · cases found <;> rfl
    · unfold Ebb3.Msg.noDevice
      rw [String.toList_ofList]
  | some g =>
    have hf : w.ext.findNamed = encReq found := hin
    simp only [encReq, PyObj.run, ifte, app1_ok, op_is_none, isNone, ofP_ok, ok_apply, truthy_bool, Bool.false_eq_true,
      ↓reduceIte]
    rw [block_cons2, block_one, seq_norm (setattr_of (v := encReq found) (w' := w) (by
      simp only [eff1, PyObj.bind, ok, ext_find_named, hf]))]
    unfold EBB3__get_port_name_if3 gpnObj
    rw [noPort_stmt fuel _ _ (Ebb3.Msg.noNamed g) _ _ ho']
    · cases found <;> rfl
    · unfold Ebb3.Msg.noNamed
      rw [String.toList_ofList, String.toList_ofList]
      fstr_eval

theorem objOk_gpn (given found : Option Ebb3.Str) (o : EBB3_Obj) (ho : ObjOk o) : ObjOk (gpnObj given found o) := by
  unfold gpnObj
  split
  · exact objOk_recErr _ _ (objOk_setPortName o ho found)
  · exact objOk_setPortName o ho found

theorem gpn_port (given found : Option Ebb3.Str) (o : EBB3_Obj) : (gpnObj given found o).port = o.port := by
  unfold gpnObj; split
  · rw [recErr_port]
  · rfl

theorem gpn_port_name (given found : Option Ebb3.Str) (o : EBB3_Obj) :
    (gpnObj given found o).port_name = encReq found := by
  unfold gpnObj recErr; split
  · split <;> rfl
  · rfl

theorem getPortName_sim (given found : Option Ebb3.Str) (w : World EBB3_Obj) (ho : ObjOk w.obj) :
    (Ebb3.getPortName given found : Ebb3.M Ebb3.Script Unit) (absWorld w)
      = (.ok (), absWorld { w with obj := gpnObj given found w.obj }) := by
  have ho' := objOk_setPortName w.obj ho found
  have h1 : (Ebb3.M.modifySt (fun st => { st with portName := found }) : Ebb3.M Ebb3.Script Unit) (absWorld w)
      = (.ok (), absWorld { w with obj := { w.obj with port_name := encReq found } }) := by
    simp only [Ebb3.modifySt_apply, absWorld, absSt, absOpt_encReq]
  unfold Ebb3.getPortName gpnObj
  refine (Ebb3.bind_ok h1).trans ?_
  cases found with
  | none => exact recordError_model _ _ ho'
  | some pn => rfl

/-- `if str_version: if "EBB" in str_version: verified = True` -/
theorem conn_if3 (fuel : Nat) (env : EBB3_connect_Env) (hv : env.verified = .bool false) (s : List Char)
    (hs : env.str_version = .str s) (w : World EBB3_Obj) :
    EBB3_connect_if3 fuel env w = .norm { env with verified := .bool (Ebb3.isEbbReply s) } w := by
  obtain ⟨gn, cl, vf, sv, em⟩ := env
  subst hv hs
  unfold EBB3_connect_if3 EBB3_connect_if4 Ebb3.isEbbReply
  rw [String.toList_ofList]
  simp only [ifte, load_str, ok_apply, truthy_str, app2_ok, op_in, ofP_ok, truthy_bool]
  rcases Bool.eq_false_or_eq_true s.isEmpty with hs | hs
  · simp only [hs, Bool.not_true, Bool.false_eq_true, ↓reduceIte, Bool.false_and, pass]
  · simp only [hs, Bool.not_false, ↓reduceIte, Bool.true_and]
    cases Ebb3.hasSub ['E', 'B', 'B'] s <;> rfl

/-- `str_version = self.port.readline().decode('ascii').strip()` -/
abbrev rStmt : Stmt EBB3_Obj EBB3_connect_Env :=
  assign (fun env v => { env with str_version := v }) (fun _ _ => readX)

section Walk
variable {S : EndRel} {fuel : Nat} {fs : List (Frame EBB3_Obj EBB3_connect_Env)}

/-- one round of the identification, `write("v\r")` and the read, against the model's `probe`, then `kont` -/
theorem probe_round (env : EBB3_connect_Env) (w : World EBB3_Obj) (hp : w.obj.port = .port) (hg : Good w)
    {b : Stmt EBB3_Obj EBB3_connect_Env} {l : List (Stmt EBB3_Obj EBB3_connect_Env)}
    {kont : Option Ebb3.Str → Ebb3.M Ebb3.Script Ebb3.Val}
    (hok : ∀ s w1, PortStep w w1 →
      SimK S fuel fs (block (b :: l) fuel { env with str_version := .str s } w1) (kont (some s) (absWorld w1)))
    (hex : ∀ cl w1, IoClass cl → PortStep w w1 → SimK S fuel fs (.exc cl env w1) (kont Option.none (absWorld w1))) :
    SimK S fuel fs (block (wStmt ['v', '\r'] :: rStmt :: b :: l) fuel env w)
      ((Ebb3.probe Ebb3.scriptDev >>= kont) (absWorld w)) := by
  unfold Ebb3.probe wStmt rStmt
  rw [String.toList_ofList, M_bind_assoc]
  refine SimK.block ?_
  rw [expr_onRes]
  refine SimK.writeK hg hp (wStmt_eval _ (by decide) fuel env w hp) (fun w1 h1 => SimK.next (SimK.block ?_))
    fun cl w1 hcl h1 _ => SimK.skip (hex cl w1 hcl h1)
  rw [if_pos rfl, M_bind_assoc, assign_onRes]
  exact SimK.read h1.good (h1.obj ▸ hp) (fun l w2 h2 => SimK.next (hok (Ebb3.strip l) w2 (h1.trans h2)))
    fun cl w2 hcl h2 => SimK.skip (hex cl w2 hcl (h1.trans h2))

theorem good_disc_recErr (m : List Char) (w : World EBB3_Obj) (hg : Good w) :
    Good { w with obj := { recErr m w.obj with port := .none } } :=
  hg.setObj (objOk_disc _ (objOk_recErr m _ hg.obj))

/-- `self.record_error(f"<A>{self.port_name})")`, `self.disconnect()`, then the rest of the block, against the model's
`recordError (A ++ pn ++ ")")`, `disconnectM`, then `k` (`probeFail`, `connectFailed`) -/
theorem recDisc_stmts (env : EBB3_connect_Env) (A pn : List Char) (w : World EBB3_Obj) (hg : Good w)
    (hpn : w.obj.port_name = .str pn) {l : List (Stmt EBB3_Obj EBB3_connect_Env)} {k : Ebb3.M Ebb3.Script Ebb3.Val}
    (hk : ∀ w2, Good w2 → w2.obj.port_name = .str pn → SimK S fuel fs (block l fuel env w2) (k (absWorld w2))) :
    SimK S fuel fs (block (expr (fun fuel _ => mcall1 (EBB3_record_error fuel)
          (fstr [ok (Val.str A), getattr (·.port_name), ok (Val.str [')'])])) ::
        expr (fun fuel _ => mcall0 (EBB3_disconnect fuel)) :: l) fuel env w)
      ((Ebb3.recordError (A ++ (pn ++ [')'])) >>= fun _ => Ebb3.disconnectM >>= fun _ => k) (absWorld w)) := by
  refine SimK.block ?_
  rw [expr_onRes]
  refine SimK.recordError hg (by
    simp only [mcall1, fstr, evalList, PyObj.bind, ok, getattr_port_name w hg.obj, hpn, List.map, strOf,
      List.flatten, List.append_nil, List.append_eq]) fun w1 hg1 h1 => SimK.next ?_
  subst h1
  have hd : expr (fun fuel (_ : EBB3_connect_Env) => mcall0 (EBB3_disconnect fuel)) fuel env
      { w with obj := recErr (A ++ (pn ++ [')'])) w.obj }
      = .norm env { w with obj := { recErr (A ++ (pn ++ [')'])) w.obj with port := .none } } :=
    expr_of (v := .none) (by rw [mcall0_apply, disconnect_eval fuel _ hg1.obj, ofOut_val])
  have hk' := hk _ (good_disc_recErr (A ++ (pn ++ [')'])) w hg)
    (show (recErr (A ++ (pn ++ [')'])) w.obj).port_name = _ by unfold recErr; split <;> exact hpn)
  rw [Ebb3.bind_ok (disconnectM_sim _)]
  cases l with
  | nil => rw [block_one, hd]; exact hk'
  | cons c l' => rw [block_cons2, seq_norm hd]; exact hk'

/-- an I/O exception inside the `try:` block: the handler records the error and disconnects, as `probeFail` does -/
theorem conn_fail (env : EBB3_connect_Env) {cl : PyIO.ExcClass} (hc : IoClass cl) (w : World EBB3_Obj) (hg : Good w)
    (pn : List Char) (hpn : w.obj.port_name = .str pn) {kont : Option Ebb3.Str → Ebb3.M Ebb3.Script Ebb3.Val}
    (hno : ∀ w2, Good w2 → w2.obj.port_name = .str pn → SimK S fuel fs (.norm env w2) (kont Option.none (absWorld w2))) :
    SimK S fuel (.catch_ EBB3_connect_handlers1 :: fs) (.exc cl env w) ((Ebb3.probeFail pn >>= kont) (absWorld w)) := by
  unfold EBB3_connect_handlers1 Ebb3.probeFail Ebb3.Msg.usbTest
  rw [String.toList_ofList, String.toList_ofList, List.append_assoc]
  simp only [M_bind_assoc]
  exact SimK.caught hc (recDisc_stmts env _ pn w hg hpn hno)

/-- the `try:` statement of `connect` against the model's `identify`, then `kont` -/
theorem conn_try (env : EBB3_connect_Env) (hv : env.verified = .bool false) (w : World EBB3_Obj) (hg : Good w)
    (pn : List Char) (hpn : w.obj.port_name = .str pn) {kont : Option Ebb3.Str → Ebb3.M Ebb3.Script Ebb3.Val}
    (hok : ∀ sv w2, Good w2 → w2.obj.port = .port → Fr w w2 →
      SimK S fuel fs (.norm { env with verified := .bool true, str_version := .str sv } w2) (kont (some sv) (absWorld w2)))
    (hno : ∀ sv w2, Good w2 → w2.obj.port_name = .str pn →
      SimK S fuel fs (.norm { env with str_version := sv } w2) (kont Option.none (absWorld w2))) :
    SimK S fuel fs (tryExcept EBB3_connect_try1 EBB3_connect_handlers1 fuel env w)
      ((Ebb3.identify Ebb3.scriptDev pn w.ext.openOk >>= kont) (absWorld w)) := by
  obtain ⟨gn, cr, vf, sv0, em⟩ := env
  dsimp only at hv hok hno
  subst hv
  unfold EBB3_connect_try1 Ebb3.identify
  refine SimK.try_ (SimK.block ?_)
  cases ho : w.ext.openOk with
  | false =>
    rw [setattr_exc (c := .serialException) (w' := w) (by
      simp only [eff1, PyObj.bind, getattr_port_name w hg.obj, ext_serial_open, ho, Bool.false_eq_true, ↓reduceIte]),
      if_neg Bool.false_ne_true]
    exact SimK.skip (conn_fail _ (cl := .serialException) rfl w hg pn hpn fun w2 hg2 hpn2 => hno sv0 w2 hg2 hpn2)
  | true =>
    have hg1 : Good { w with obj := { w.obj with port := .port } } := hg.setObj { hg.obj with port := Or.inl rfl }
    rw [setattr_of (v := .port) (w' := w) (by
      simp only [eff1, PyObj.bind, getattr_port_name w hg.obj, ext_serial_open, ho, ↓reduceIte])]
    refine SimK.next (SimK.block ?_)
    rw [expr_of (v := .none) (w' := { w with obj := { w.obj with port := .port } }) (by
      simp only [eff1, PyObj.bind, getattr_port _ hg1.obj, meth_reset_input_buffer, ok])]
    refine SimK.next ?_
    -- `portReset` does nothing to a script
    rw [if_pos rfl, M_bind_assoc, Ebb3.bind_ok (show (Ebb3.M.modifySt fun st => { st with port := true }) (absWorld w)
        = (.ok (), absWorld { w with obj := { w.obj with port := .port } }) from rfl),
      M_bind_assoc, Ebb3.bind_ok (show Ebb3.portReset Ebb3.scriptDev _ = (.ok (), absWorld _) from rfl), M_bind_assoc]
    have hfail : ∀ cl w', IoClass cl → PortStep { w with obj := { w.obj with port := .port } } w' →
        ∀ sv, SimK S fuel (.catch_ EBB3_connect_handlers1 :: fs) (.exc cl ⟨gn, cr, .bool false, sv, em⟩ w')
          ((Ebb3.probeFail pn >>= kont) (absWorld w')) := fun cl w' hcl h' sv =>
      conn_fail _ hcl w' h'.good pn (by rw [h'.obj]; exact hpn) fun w2 hg2 hpn2 => hno sv w2 hg2 hpn2
    refine probe_round _ _ rfl hg1 (fun s1 w2 h2 => ?_) fun cl w2 hcl h2 => hfail cl w2 hcl h2 sv0
    rw [block_cons2, seq_norm (conn_if3 fuel ⟨gn, cr, .bool false, .str s1, em⟩ rfl s1 rfl w2), block_one]
    dsimp only
    unfold EBB3_connect_if5
    cases hr1 : Ebb3.isEbbReply s1 with
    | true =>
      exact SimK.ifF rfl (SimK.leave (hok s1 w2 h2.good (by rw [h2.obj]) h2.fr))
    | false =>
      -- `if not verified:` the second round (`EBB3_connect_if6` is `EBB3_connect_if3` again)
      refine SimK.ifT rfl ?_
      rw [if_neg Bool.false_ne_true, M_bind_assoc]
      refine probe_round _ w2 (by rw [h2.obj]) h2.good (fun s2 w3 h3 => ?_)
        fun cl w3 hcl h3 => hfail cl w3 hcl (h2.trans h3) (.str s1)
      rw [block_one, show EBB3_connect_if6 = EBB3_connect_if3 from rfl, conn_if3 fuel _ rfl s2 rfl w3]
      dsimp only
      cases Ebb3.isEbbReply s2 with
      | true => exact SimK.leave (hok s2 w3 h3.good (by rw [h3.obj, h2.obj]) (h2.trans h3).fr)
      | false => exact SimK.leave (hno (.str s2) w3 h3.good (by rw [h3.obj, h2.obj]; exact hpn))

/-- every fault the port can raise is a `SerialException` (the one raise outcome of the model; `connect` lets a fault
of its last exchange escape, so its class is visible) -/
def SerialOnly (w : World EBB3_Obj) : Prop :=
  (∀ c, PyIO.Rd.raise c ∈ w.port.reads → c = .serialException) ∧
  (∀ c, PyIO.Wr.raise c ∈ w.port.writes → c = .serialException)

theorem SerialOnly.fr {w w' : World EBB3_Obj} (h : SerialOnly w) (hf : Fr w w') : SerialOnly w' :=
  ⟨fun c hc => h.1 c (hf.reads hc), fun c hc => h.2 c (hf.writes hc)⟩

theorem port_kept {w w' : World EBB3_Obj} (hg' : Good w') (hp : w.obj.port = .port)
    (h : (absWorld w').st.port = (absWorld w).st.port) : w'.obj.port = .port := by
  rcases hg'.obj.port with hp' | hp'
  · exact hp'
  · simp [absWorld, absSt, hp, hp', absPort] at h

theorem parseVersionM_port (s : Ebb3.Str) (aw : Ebb3.World Ebb3.Script) :
    ((Ebb3.parseVersionM s : Ebb3.M Ebb3.Script Unit) aw).2.st.port = aw.st.port := by
  unfold Ebb3.parseVersionM
  cases Ebb3.splitSub1 "Firmware Version ".toList s with
  | none => rfl
  | some ab =>
    show ((Ebb3.setVersion (Ebb3.strip ab.2) : Ebb3.M Ebb3.Script Unit) aw).2.st.port = _
    unfold Ebb3.setVersion
    cases Ebb3.parseRelease (Ebb3.strip ab.2) <;> rfl

theorem minVersionM_apply (vs : Ebb3.Str) (aw : Ebb3.World Ebb3.Script) :
    ((Ebb3.minVersionM vs : Ebb3.M Ebb3.Script Ebb3.Val) aw).2 = aw ∧
      ∀ v, (Ebb3.minVersionM vs aw).1 = .ok v → v = .none ∨ ∃ b, v = .bool b := by
  unfold Ebb3.minVersionM
  cases Ebb3.parseRelease vs with
  | none => exact ⟨rfl, fun v h => Or.inl (Except.ok.inj h).symm⟩
  | some want =>
    dsimp only [Ebb3.bind_apply, Ebb3.getSt_apply]
    cases aw.st.versionParsed with
    | none => exact ⟨rfl, fun v h => nomatch h⟩
    | some hv => exact ⟨rfl, fun v h => Or.inr ⟨_, (Except.ok.inj h).symm⟩⟩

/-- `if caller is not None: self.caller = caller`, then the rest -/
theorem conn_if10 (env : EBB3_connect_Env) (caller : Option Ebb3.Str) (hcl : env.caller = encReq caller)
    (w : World EBB3_Obj) (hg : Good w) {k : Ebb3.M Ebb3.Script Ebb3.Val}
    (hk : ∀ w1, Good w1 → SimK S fuel fs (.norm env w1) (k (absWorld w1))) :
    SimK S fuel fs (EBB3_connect_if10 fuel env w) ((Ebb3.setCaller caller >>= fun _ => k) (absWorld w)) := by
  unfold EBB3_connect_if10
  cases caller with
  | none =>
    exact SimK.ifF (by simp only [hcl, encReq, app1_ok, op_is_not_none, isNone, ofP_ok, ok_apply, Bool.not_true])
      (hk w hg)
  | some c =>
    refine SimK.ifT (by simp only [hcl, encReq, app1_ok, op_is_not_none, isNone, ofP_ok, ok_apply, Bool.not_false]) ?_
    rw [setattr_of (v := .str c) (w' := w) (by rw [hcl]; rfl)]
    exact hk _ (hg.setObj { hg.obj with caller := trivial })

end Walk

/-- the statements of `connect` after the version check -/
abbrev connTail : Stmt EBB3_Obj EBB3_connect_Env :=
  block [
    wStmt ['C', 'U', ',', '1', '0', ',', '1', '\r'],
    expr (fun _ _ => eff1 meth_readline (getattr (·.port))),
    expr (fun _ _ => eff1 meth_reset_input_buffer (getattr (·.port))),
    expr (fun fuel _ => mcall0 (EBB3_query_nickname fuel)),
    EBB3_connect_if10,
    return_ (fun _ _ => ok (.bool true))]

/-- the future-syntax exchange at the end of `connect` (not inside a `try`: a fault escapes, so its class must be the
model's), the nickname, the caller -/
theorem conn_tail (fuel : Nat) (hf : 26 ≤ fuel) (env : EBB3_connect_Env) (caller : Option Ebb3.Str)
    (hcl : env.caller = encReq caller) (w : World EBB3_Obj) (hp : w.obj.port = .port) (hg : Good w)
    (hso : SerialOnly w) :
    Sim (PyObj.run connTail fuel env w) (Ebb3.enterFuture Ebb3.srcParams Ebb3.scriptDev caller (absWorld w)) := by
  unfold Ebb3.enterFuture connTail
  rw [String.toList_ofList]
  refine SimK.run (SimK.block (SimK.write hg hp (by decide) (fun w1 h1 => SimK.next (SimK.block ?_))
    fun cl w1 _ h1 ⟨ws, h⟩ => ?_))
  · rcases readline_sim w1 (h1.obj ▸ hp) h1.good with ⟨c, w2, hc, f2, m2, _, hg2, _⟩ | ⟨l, w2, _, f2, m2, ho2, hg2, _⟩
    · rw [expr_exc f2, Ebb3.bind_ok m2, (hso.fr h1.fr).1 c hc]
      exact SimK.raised (ex := .serialException) hg2
    · rw [expr_of f2, Ebb3.bind_ok m2]
      refine SimK.next (SimK.block ?_)
      rw [expr_of (v := .none) (w' := w2) (by
        simp only [eff1, PyObj.bind, getattr_port w2 hg2.obj, ho2, h1.obj, hp, meth_reset_input_buffer, ok])]
      refine SimK.next (SimK.block ?_)
      -- `portReset` does nothing to a script
      show SimK _ _ _ _ (((Ebb3.queryNicknameP Ebb3.srcParams Ebb3.scriptDev).run >>= fun _ => _) (absWorld w2))
      rw [expr_onRes]
      exact SimK.call (query_nickname_bridge fuel hf w2 hg2) (mcall0_apply _ _) fun _ w3 hg3 _ _ =>
        SimK.next (SimK.block (conn_if10 env caller hcl w3 hg3 fun w4 hg4 =>
          SimK.next (SimK.ret (v := .bool true) hg4 rfl)))
  · rw [hso.2 cl (by rw [h]; exact List.mem_cons_self)]
    exact SimK.raised (ex := .serialException) h1.good

theorem lit_None : "None".toList = ['N', 'o', 'n', 'e'] := String.toList_ofList

theorem strOf_version (o : EBB3_Obj) (ho : ObjOk o) : strOf o.version = (absSt o).version.getD "None".toList := by
  have h := ho.version
  unfold absSt
  cases hv : o.version <;> rw [hv] at h <;> simp only [IsOptStr] at h <;> simp [strOf, absOpt]

/-- the part of `connect` after a verified identification: the version check, then the statements `t :: l` (the
future-syntax exchange), of which only `htail` is used -/
theorem conn_after {S : EndRel} (hS : SimIn S) (fuel : Nat) (env : EBB3_connect_Env)
    (caller : Option Ebb3.Str) (sv : List Char) (hv : env.verified = .bool true)
    (hs : env.str_version = .str sv) (w : World EBB3_Obj) (hp : w.obj.port = .port) (hg : Good w)
    {t : Stmt EBB3_Obj EBB3_connect_Env} {l : List (Stmt EBB3_Obj EBB3_connect_Env)}
    (htail : ∀ w4, Good w4 → w4.obj.port = .port → Fr w w4 →
      SimK S fuel [] (block (t :: l) fuel env w4) (Ebb3.enterFuture Ebb3.srcParams Ebb3.scriptDev caller (absWorld w4))) :
    SimK S fuel [] (block (EBB3_connect_if8 ::
        expr (fun fuel env => mcall1 (EBB3_parse_version fuel) (load env.str_version)) :: EBB3_connect_if9 :: t :: l)
        fuel env w)
      (Ebb3.checkVersion Ebb3.srcParams Ebb3.scriptDev caller sv (absWorld w)) := by
  refine SimK.block ?_
  unfold EBB3_connect_if8
  refine SimK.ifF (by simp only [hv, load_bool, not_ok, ok_apply, truthy_bool, Bool.not_true]) (SimK.next (SimK.block ?_))
  unfold Ebb3.checkVersion
  rw [show Ebb3.srcParams.minVersion = ['3', '.', '0', '.', '2'] by decide, expr_onRes, bind_via Ebb3.Val.none]
  refine SimK.call (parse_version_bridge fuel sv w hg) (by simp only [hs, load_str, mcall1_ok_apply])
    (fun _ w3 hg3 hpm hout => SimK.next (SimK.block ?_)) rfl hS
  have hp3 : w3.obj.port = .port := port_kept hg3 hp (by
    obtain ⟨_, aw, h1, h2⟩ := Ebb3.bind_inv hpm
    have := parseVersionM_port sv (absWorld w)
    rw [h1] at this
    cases h2
    exact this)
  have hfr3 : Fr w w3 := by
    have := fr_EBB3_parse_version fuel (.str sv) w
    rwa [hout] at this
  unfold EBB3_connect_if9
  rw [ifte_onRes, onRes_not]
  refine SimK.call (min_version_bridge fuel ['3', '.', '0', '.', '2'] w3 hg3) (mcall1_ok_apply ..)
    (fun mv w4 hg4 hr4 hout4 => ?_) rfl hS
  obtain ⟨haw, hmvs⟩ := minVersionM_apply ['3', '.', '0', '.', '2'] (absWorld w3)
  rw [hr4] at haw hmvs
  by_cases hmt : mv = .bool true
  · subst hmt
    rw [if_pos rfl]
    have hfr4 : Fr w3 w4 := by
      have := fr_EBB3_min_version fuel (.str ['3', '.', '0', '.', '2']) w3
      rwa [hout4] at this
    exact SimK.next (htail w4 hg4 (port_kept hg4 hp3 (congrArg (·.st.port) haw)) (hfr3.trans hfr4))
  · have htv : truthy (encVal mv) = false := by
      rcases hmvs mv rfl with rfl | ⟨b, rfl⟩
      · rfl
      · cases b
        · rfl
        · exact absurd rfl hmt
    -- an old firmware: the three assignments build the model's message, `record_error`, `return False`
    rw [if_neg hmt, Ebb3.bind_ok (Ebb3.getSt_apply _)]
    dsimp only
    rw [htv, Ebb3.bind_ok (recordError_model _ w4 hg4.obj)]
    simp only [Bool.not_false, truthy_bool, ↓reduceIte, block_cons2, block_one, seq, assign, fstr, evalList, PyObj.bind,
      ok, getattr_optStr w4 hg4.obj.version, app2, load, ofP, op_add, expr, mcall1, return_,
      record_error_eval fuel _ _ hg4.obj, ofOut, List.map, List.flatten]
    rw [show (absWorld w4).st = absSt w4.obj from rfl, ← strOf_version _ hg4.obj]
    unfold Ebb3.Msg.oldFirmware
    rw [String.toList_ofList, String.toList_ofList, String.toList_ofList]
    simp only [strOf_str, List.append_eq, List.append_assoc, List.cons_append, List.nil_append, List.append_nil]
    exact SimK.done (v := .bool false) (hg4.setObj (objOk_recErr _ _ hg4.obj)) hS

/-- `connect` against the model's `connect`, for any relation between the two ends that the bridge of the last part of
the body (`connTail`: the future-syntax exchange, the nickname, the caller) establishes: everything in front of it is
simulated here, for every fuel.  What `_get_port_name` does enters as the equation `hgpn`; the model's `openOk` is
`ext.openOk`. -/
theorem connect_bridge_rel {S : EndRel} (hS : SimIn S) (fuel : Nat) (given caller found : Option Ebb3.Str)
    (w : World EBB3_Obj) (hg : Good w)
    (hgpn : EBB3__get_port_name fuel (encReq given) w = .val .none { w with obj := gpnObj given found w.obj })
    (htail : ∀ env w4, env.caller = encReq caller → Good w4 → w4.obj.port = .port → Fr w w4 →
      S (PyObj.run connTail fuel env w4) (Ebb3.enterFuture Ebb3.srcParams Ebb3.scriptDev caller (absWorld w4))) :
    S (EBB3_connect fuel (encReq given) (encReq caller) w)
      (Ebb3.run Ebb3.srcParams Ebb3.scriptDev (.connect given caller found w.ext.openOk) (absWorld w)) := by
  show S _ (Ebb3.connectBody Ebb3.srcParams Ebb3.scriptDev given caller found w.ext.openOk (absWorld w))
  unfold EBB3_connect EBB3_connect_main EBB3_connect_if1 EBB3_connect_if2 Ebb3.connectBody
  refine SimK.run (SimK.block ?_)
  rw [Ebb3.bind_ok (Ebb3.getSt_apply _)]
  have htest : app1 op_is_not_none (getattr (fun o : EBB3_Obj => o.port)) w = (.ok (.bool (!isNone w.obj.port)), w) := by
    simp only [app1, PyObj.bind, getattr_port w hg.obj, ofP, op_is_not_none, ok]
  rcases hg.obj.port with hp | hp
  · rw [if_pos (by simp [absWorld, absSt, hp, absPort])]
    exact SimK.ifT (by rw [htest, hp]; rfl) (SimK.ret (v := .bool true) hg rfl hS)
  · rw [if_neg (by simp [absWorld, absSt, hp, absPort])]
    refine SimK.ifF (by rw [htest, hp]; rfl) (SimK.next (SimK.block ?_))
    have hg1 : Good { w with obj := gpnObj given found w.obj } := hg.setObj (objOk_gpn given found w.obj hg.obj)
    rw [expr_of (v := .none) (w' := { w with obj := gpnObj given found w.obj }) (by
      simp only [mcall1_ok_apply, hgpn, ofOut_val]), Ebb3.bind_ok (getPortName_sim given found w hg.obj)]
    refine SimK.next (SimK.block ?_)
    have htest2 : app1 op_is_none (getattr (fun o : EBB3_Obj => o.port_name)) { w with obj := gpnObj given found w.obj }
        = (.ok (.bool (isNone (encReq found))), { w with obj := gpnObj given found w.obj }) := by
      simp only [app1, PyObj.bind, getattr_port_name _ hg1.obj, gpn_port_name, ofP, op_is_none, ok]
    cases found with
    | none => exact SimK.ifT htest2 (SimK.ret (v := .bool false) hg1 rfl hS)
    | some pn =>
      refine SimK.ifF htest2 (SimK.next (SimK.block ?_))
      rw [assign_of (v := .bool false) (w' := { w with obj := gpnObj given (some pn) w.obj }) rfl]
      refine SimK.next (SimK.block ?_)
      refine conn_try _ rfl _ hg1 pn (gpn_port_name given (some pn) w.obj)
        (fun sv w2 hg2 hp2 hfr2 => SimK.next (conn_after hS fuel _ caller sv rfl rfl w2 hp2 hg2
          fun w4 hg4 hp4 hfr4 => SimK.ofRun (htail _ w4 rfl hg4 hp4 (hfr2.trans hfr4))))
        fun sv w2 hg2 hpn2 => SimK.next (SimK.block ?_)
      -- not verified: `connectFailed`
      unfold EBB3_connect_if8 Ebb3.connectFailed Ebb3.Msg.connectFail
      rw [String.toList_ofList, String.toList_ofList, List.append_assoc]
      exact SimK.ifT rfl (recDisc_stmts _ _ pn w2 hg2 hpn2 fun w3 hg3 _ => SimK.ret (v := .bool false) hg3 rfl hS)

/-- **`connect`**: the regenerated method is the model's `connect`, with the model's environment arguments read off
the world: `found` tied to the port-search inputs by `PortIn`, `openOk` = `ext.openOk` -/
theorem connect_bridge (fuel : Nat) (hf : 26 ≤ fuel) (given caller found : Option Ebb3.Str) (w : World EBB3_Obj)
    (hg : Good w) (hin : PortIn given found w.ext) (hso : SerialOnly w) :
    Sim (EBB3_connect fuel (encReq given) (encReq caller) w)
      (Ebb3.run Ebb3.srcParams Ebb3.scriptDev (.connect given caller found w.ext.openOk) (absWorld w)) :=
  connect_bridge_rel id fuel given caller found w hg (get_port_name_eval fuel given found w hg.obj hin)
    fun env w4 hcl hg4 hp4 hfr => conn_tail fuel hf env caller hcl w4 hp4 hg4 (hso.fr hfr)

/-- **the head of `connect`**, for every fuel and every class of fault the handlers name: the regenerated method and
the model end alike, or both stand in front of the future-syntax exchange, in related worlds -/
theorem connect_head (fuel : Nat) (given caller found : Option Ebb3.Str) (w : World EBB3_Obj) (hg : Good w)
    (hgpn : EBB3__get_port_name fuel (encReq given) w = .val .none { w with obj := gpnObj given found w.obj }) :
    Sim (EBB3_connect fuel (encReq given) (encReq caller) w)
        (Ebb3.run Ebb3.srcParams Ebb3.scriptDev (.connect given caller found w.ext.openOk) (absWorld w)) ∨
      ∃ env w4, Good w4 ∧ w4.obj.port = .port ∧ Fr w w4 ∧
        EBB3_connect fuel (encReq given) (encReq caller) w = PyObj.run connTail fuel env w4 ∧
        Ebb3.run Ebb3.srcParams Ebb3.scriptDev (.connect given caller found w.ext.openOk) (absWorld w)
          = Ebb3.enterFuture Ebb3.srcParams Ebb3.scriptDev caller (absWorld w4) :=
  connect_bridge_rel (S := fun o r => Sim o r ∨ ∃ env w4, Good w4 ∧ w4.obj.port = .port ∧ Fr w w4 ∧
      o = PyObj.run connTail fuel env w4 ∧ r = Ebb3.enterFuture Ebb3.srcParams Ebb3.scriptDev caller (absWorld w4))
    Or.inl fuel given caller found w hg hgpn fun env w4 _ hg4 hp4 hfr => Or.inr ⟨env, w4, hg4, hp4, hfr, rfl, rfl⟩

end Ebb3Gen
end Plotink
