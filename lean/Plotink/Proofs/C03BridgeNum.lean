import Plotink.Proofs.NumExact
import Plotink.Proofs.C03Quad
import Mathlib.Tactic.LinearCombination
/-! # C03 numeric bridge — rounding lemmas (no generated code here)

Rounding never crosses a representable number, so `ceil(mp(mp(y)/a))` is the integer `m` as soon as the *exact*
quotient `y/a` lies in `[m − 1 + 2^-52, m]` (`CeilOK`, `divCeil`). Of the computed square root only three facts are
used (`NearRoot`); a number with them brackets correctly against half-integers, with a margin `a·2^-52` whenever the
integer gap is at least `4a`. The model's ceiled roots are least integers with a predicate on the quadratic, and the
brackets are stated in the shape of those predicates (`CeilOK.of_spec`). -/
namespace Plotink
namespace C03

theorem cdiv_abs_le (x y : Int) (hy : 0 < y) : |cdiv x y| ≤ |x| + 1 := by
  generalize hm : cdiv x y = m
  have u := (cdiv_le_iff x y m hy).mp hm.le
  have l := (lt_cdiv_iff x y (m - 1) hy).mp (by omega)
  rcases le_or_gt m 0 with h | h
  · have := mul_le_mul_of_nonpos_right (Int.add_one_le_of_lt hy) h
    rw [abs_of_nonpos h]
    linarith [neg_abs_le x]
  · have := mul_le_mul_of_nonneg_right (Int.add_one_le_of_lt hy) (by omega : 0 ≤ m - 1)
    rw [abs_of_pos h]
    linarith [le_abs_self x]

/-- `floor |S / 2^32|`, as the generated code computes it, is `|S| / 2^32` in integers -/
theorem floor_fabs (S : Int) :
    (if (S : Rat) / 2 ^ 32 < 0 then -((S : Rat) / 2 ^ 32) else (S : Rat) / 2 ^ 32).floor = (S.natAbs : Int) / 4294967296 := by
  have e : (if (S : Rat) / 2 ^ 32 < 0 then -((S : Rat) / 2 ^ 32) else (S : Rat) / 2 ^ 32)
      = ((S.natAbs : Int) : Rat) / ((4294967296 : Nat) : Rat) := by
    rw [Int.natCast_natAbs, Int.cast_abs, Nat.cast_ofNat, show (4294967296 : Rat) = 2 ^ 32 by norm_num]
    split_ifs with h
    · rw [← abs_of_neg h, abs_div, abs_of_pos (by positivity : (0 : Rat) < 2 ^ 32)]
    · rw [← abs_of_nonneg (not_lt.mp h), abs_div, abs_of_pos (by positivity : (0 : Rat) < 2 ^ 32)]
  rw [e]; exact Rat.floor_intCast_div_natCast _ _

section basic
variable {R : Rounding} (hR : ContractBasic R)
include hR

theorem mp_le_rep {x w : Rat} (h : x ≤ w) (hw : Rep 103 w) : R.mp 103 x ≤ w :=
  (hR.mp_mono 103 (by norm_num) x w h).trans_eq (hR.mp_exact 103 w hw)

theorem rep_le_mp {x w : Rat} (h : w ≤ x) (hw : Rep 103 w) : w ≤ R.mp 103 x :=
  (hR.mp_exact 103 w hw).symm.trans_le (hR.mp_mono 103 (by norm_num) w x h)

theorem ceil_mp_eq (x : Rat) (m : Int) (k : Nat) (hlo : |(m - 1) * 2 ^ k + 1| < 2 ^ 103) (hm : |m| < 2 ^ 103)
    (h1 : (m : Rat) - 1 + 1 / 2 ^ k ≤ x) (h2 : x ≤ m) : Py.ceilRat (R.mp 103 x) = m := by
  have hw : Rep 103 ((m : Rat) - 1 + 1 / 2 ^ k) := by
    have e : (m : Rat) - 1 + 1 / 2 ^ k = (((m - 1) * 2 ^ k + 1 : Int) : Rat) / 2 ^ k := by
      push_cast; rw [add_div, mul_div_cancel_right₀ _ (pow_ne_zero k two_ne_zero)]
    rw [e]; exact rep_div_pow2 103 _ k hlo
  have : (0 : Rat) < 1 / 2 ^ k := by positivity
  rw [ceilRat_eq_iff]
  exact ⟨lt_of_lt_of_le (by linarith) (rep_le_mp hR h1 hw), mp_le_rep hR h2 (rep_int 103 m hm)⟩

/-- a non-integer quotient is at least `1/r ≥ 2^-33` away from the integer below it -/
theorem divCeilLin (x r : Int) (hr0 : 0 < r) (hr : r ≤ 2 ^ 33) (hx : |x| ≤ 2 ^ 64) :
    Py.ceilRat (R.mp 103 ((x : Rat) / (r : Rat))) = cdiv x r := by
  have hmb : |cdiv x r| ≤ 2 ^ 64 + 1 := by linarith [cdiv_abs_le x r hr0]
  generalize hm : cdiv x r = m at hmb ⊢
  have u := (cdiv_le_iff x r m hr0).mp hm.le
  have l := (lt_cdiv_iff x r (m - 1) hr0).mp (by omega)
  have hrq : (0 : Rat) < (r : Rat) := by exact_mod_cast hr0
  have hrqb : (r : Rat) ≤ 2 ^ 33 := by exact_mod_cast hr
  have uq : (x : Rat) ≤ r * m := by exact_mod_cast u
  have lq : (r : Rat) * ((m : Rat) - 1) + 1 ≤ x := by exact_mod_cast Int.add_one_le_of_lt l
  rw [abs_le] at hmb
  refine ceil_mp_eq hR _ m 33 (by rw [abs_lt]; constructor <;> omega) (by rw [abs_lt]; constructor <;> omega) ?_ ?_
  · rw [le_div_iff₀ hrq]; linarith
  · rw [div_le_iff₀ hrq]; linarith

theorem div_mp_mem (a y lo hi : Rat) (ha : a ≠ 0) (hlo : Rep 103 (lo * a)) (hhi : Rep 103 (hi * a))
    (h1 : lo ≤ y / a) (h2 : y / a ≤ hi) : lo ≤ R.mp 103 y / a ∧ R.mp 103 y / a ≤ hi := by
  rcases lt_or_gt_of_ne ha with han | hap
  · rw [le_div_iff_of_neg han] at h1 ⊢
    rw [div_le_iff_of_neg han] at h2 ⊢
    exact ⟨mp_le_rep hR h1 hlo, rep_le_mp hR h2 hhi⟩
  · rw [le_div_iff₀ hap] at h1 ⊢
    rw [div_le_iff₀ hap] at h2 ⊢
    exact ⟨rep_le_mp hR h1 hlo, mp_le_rep hR h2 hhi⟩

end basic

/-- the exact quotient `y / a` lies in `[m − 1 + 2^-52, m]`, far enough above `m − 1` for `m` to be the ceiling
of the computed quotient as well. `2^-52`: with roots up to `2^50`, a gap `4a` of the discriminant is a margin `a/2^52` in
the root (`NearRoot.margin_le`), and `a·(m − 1 + 2^-52)` is still a 103-bit number (`divCeil`) -/
structure CeilOK (a : Int) (y : Rat) (m : Int) : Prop where
  lo : (m : Rat) - 1 + 1 / 2 ^ 52 ≤ y / a
  hi : y / a ≤ m

theorem CeilOK.neg {a : Int} {y y' : Rat} {m : Int} (h : CeilOK (-a) y' m) (hy : y' = -y) : CeilOK a y m := by
  obtain ⟨h1, h2⟩ := h
  rw [hy, Int.cast_neg, neg_div_neg_eq] at h1 h2
  exact ⟨h1, h2⟩

/-- `m` is the least integer with `P` (`big_root_spec`, `small_root_spec` for the model's ceiled roots) and `x` lies on the
side of the grid points `(2at + K)/2`, `t = m` and `t = m − 1`, that `P` says, above the lower one by `a/2^52` -/
theorem CeilOK.of_spec {P : Int → Prop} {m : Int} (spec : ∀ t, m ≤ t ↔ P t) (a K : Int) (x : Rat) (ha : 0 < a)
    (up : P m → x ≤ ((2 * a * m + K : Int) : Rat) / 2)
    (dn : ¬ P (m - 1) → ((2 * a * (m - 1) + K : Int) : Rat) / 2 + (a : Rat) / 2 ^ 52 ≤ x) :
    CeilOK a (-((K : Rat) / 2) + x) m := by
  have haq : (0 : Rat) < a := by exact_mod_cast ha
  have h1 := dn ((spec _).not.mp (by omega))
  have h2 := up ((spec _).mp le_rfl)
  push_cast at h1 h2
  constructor
  · rw [le_div_iff₀ haq]; linear_combination h1
  · rw [div_le_iff₀ haq]; linear_combination h2

/-- the magnitude hypotheses keep the ends of the interval `[m − 1 + 2^-52, m]`, multiplied by `a`, representable -/
theorem divCeil {R : Rounding} (hR : ContractBasic R) {a m : Int} {y : Rat} (h : CeilOK a y m) (ha0 : a ≠ 0)
    (ha : |a| ≤ 2 ^ 32) (hm : |m| ≤ 2 ^ 50) (ham : |a * (m - 1)| ≤ 2 ^ 50) :
    Py.ceilRat (R.mp 103 (R.mp 103 y / (a : Rat))) = m := by
  rw [abs_le] at ha hm ham
  have hlo : Rep 103 (((m : Rat) - 1 + 1 / 2 ^ 52) * a) := by
    have e : ((m : Rat) - 1 + 1 / 2 ^ 52) * a = ((a * (m - 1) * 2 ^ 52 + a : Int) : Rat) / 2 ^ 52 := by
      push_cast; ring
    rw [e]; exact rep_div_pow2 103 _ 52 (by rw [abs_lt]; constructor <;> omega)
  have hhi : Rep 103 ((m : Rat) * a) := by
    have e : (m : Rat) * a = ((a * (m - 1) + a : Int) : Rat) := by push_cast; ring
    rw [e]; exact rep_int 103 _ (by rw [abs_lt]; constructor <;> omega)
  obtain ⟨q1, q2⟩ := div_mp_mem hR (a : Rat) y _ _ (by exact_mod_cast ha0) hlo hhi h.lo h.hi
  exact ceil_mp_eq hR _ m 52 (by rw [abs_lt]; constructor <;> omega) (by rw [abs_lt]; constructor <;> omega) q1 q2

theorem floor_f64_eq {R : Rounding} (hR : ContractBasic R) (τ : Int) (z : Rat) (hτ : |τ| < 2 ^ 53)
    (hlo : (τ : Rat) ≤ z) (hhi : z + |z| / 2 ^ 53 < τ + 1) : (R.f64 z).floor = τ := by
  have h1 : (τ : Rat) ≤ R.f64 z :=
    (hR.f64_exact _ (rep_int 53 τ hτ)).symm.trans_le (hR.f64_mono _ _ hlo)
  have h2 := (abs_le.mp (hR.f64_err z)).2
  apply le_antisymm
  · have : (R.f64 z).floor < τ + 1 := by rw [Rat.floor_lt_iff]; push_cast; linarith
    omega
  · rw [Rat.le_floor_iff]; exact h1

/-- the binary64 computation `floor(0.5 − rate/accel)` for `rate/accel = −p/q` (`1 ≤ p, q ≤ 2^32`) is the exact
floor `(q + 2p) / (2q)`: a non-integer value of `(q + 2p)/(2q)` is at least `1/(2q)` away from the integers,
far more than the two rounding errors -/
theorem trev_num {R : Rounding} (hR : ContractBasic R) (p q : Int) (hp : 1 ≤ p) (hpb : p ≤ 2 ^ 32)
    (hq : 1 ≤ q) (hqb : q ≤ 2 ^ 32) :
    (R.f64 ((1 : Rat) / 2 - R.f64 (-(p : Rat) / (q : Rat)))).floor = (q + 2 * p) / (2 * q) := by
  -- `q + 2p = 2q·τ + r` with `0 ≤ r < 2q`
  have hdm := Int.mul_ediv_add_emod (q + 2 * p) (2 * q)
  have hr0 := Int.emod_nonneg (q + 2 * p) (by omega : 2 * q ≠ 0)
  have hr1 := Int.emod_lt_of_pos (q + 2 * p) (by omega : 0 < 2 * q)
  have hτ0 : 0 ≤ (q + 2 * p) / (2 * q) := Int.ediv_nonneg (by omega) (by omega)
  generalize (q + 2 * p) / (2 * q) = τ at *
  generalize (q + 2 * p) % (2 * q) = r at *
  have hqτ : τ ≤ q * τ := le_mul_of_one_le_left hτ0 hq
  have hτ33 : τ ≤ 2 ^ 33 := by linarith
  have hτb : |τ| < 2 ^ 53 := by rw [abs_lt]; constructor <;> omega
  -- everything in units of `ε = 1/(2q)`
  have hqq : (0 : Rat) < q := by exact_mod_cast hq
  obtain ⟨ε, hε⟩ : ∃ ε : Rat, 2 * q * ε = 1 := ⟨1 / (2 * q), mul_one_div_cancel (by positivity)⟩
  have hε0 : 0 < ε := by
    by_contra hc
    have := mul_nonpos_of_nonneg_of_nonpos (by positivity : (0 : Rat) ≤ 2 * q) (not_lt.mp hc)
    linarith
  have hdmq : 2 * (q : Rat) * τ + r = q + 2 * p := by exact_mod_cast hdm
  have hx : -(p : Rat) / q = -(2 * p) * ε := by
    rw [div_eq_iff hqq.ne']; linear_combination (p : Rat) * hε
  rw [hx]
  rcases eq_or_lt_of_le hr0 with hz | hpos
  · -- `(q + 2p)` divisible by `2q`: `rate/accel` is a half-integer, everything is exact
    have hr' : (r : Rat) = 0 := by exact_mod_cast hz.symm
    have hx' : -(2 * (p : Rat)) * ε = ((-(2 * τ - 1) : Int) : Rat) / 2 := by
      push_cast; linear_combination ε * hdmq - ((τ : Rat) - 1 / 2) * hε - ε * hr'
    rw [hx', hR.f64_exact _ (rep_half 53 _ (by rw [abs_neg, abs_lt]; constructor <;> omega))]
    have e : (1 : Rat) / 2 - ((-(2 * τ - 1) : Int) : Rat) / 2 = τ := by push_cast; ring
    rw [e, hR.f64_exact _ (rep_int 53 τ hτb)]
    exact Rat.floor_intCast τ
  · -- otherwise `0.5 − rate/accel = τ + r·ε` with `ε ≤ r·ε ≤ 1 − ε`, and the error of the quotient is below `ε/2^20`
    have hrε1 : 1 * ε ≤ r * ε :=
      mul_le_mul_of_nonneg_right (by exact_mod_cast (by omega : 1 ≤ r)) hε0.le
    have hrε2 : r * ε ≤ (2 * q - 1) * ε :=
      mul_le_mul_of_nonneg_right (by exact_mod_cast (by omega : r ≤ 2 * q - 1)) hε0.le
    have hpε : 2 * p * ε ≤ 2 ^ 33 * ε :=
      mul_le_mul_of_nonneg_right (by exact_mod_cast (by omega : 2 * p ≤ 2 ^ 33)) hε0.le
    have hτε : (2 * q * τ + 2 * q) * ε ≤ 5 * 2 ^ 32 * ε :=
      mul_le_mul_of_nonneg_right (by exact_mod_cast (by omega : 2 * q * τ + 2 * q ≤ 5 * 2 ^ 32)) hε0.le
    have hτ1 : (2 * (q : Rat) * τ + 2 * q) * ε = τ + 1 := by linear_combination ((τ : Rat) + 1) * hε
    have herr := hR.f64_err (-(2 * (p : Rat)) * ε)
    have hpq : (0 : Rat) < p := by exact_mod_cast hp
    rw [neg_mul, abs_neg, abs_of_nonneg (show (0 : Rat) ≤ 2 * p * ε by positivity), abs_le] at herr
    obtain ⟨e, he⟩ : ∃ e, e = R.f64 (-(2 * (p : Rat) * ε)) - -(2 * (p : Rat) * ε) := ⟨_, rfl⟩
    rw [← he] at herr
    have hz : (1 : Rat) / 2 - R.f64 (-(2 * (p : Rat)) * ε) = τ + r * ε - e := by
      rw [he, neg_mul]; linear_combination (-ε) * hdmq + ((τ : Rat) - 1 / 2) * hε
    rw [hz]
    have hτq : (0 : Rat) ≤ τ := by exact_mod_cast hτ0
    have hlo : (τ : Rat) ≤ τ + r * ε - e := by linarith only [herr.2, hpε, hrε1, hε0]
    apply floor_f64_eq hR τ _ hτb hlo
    rw [abs_of_nonneg (hτq.trans hlo)]
    linarith only [herr.1, hpε, hrε2, hε, hτε, hτ1, hε0]

theorem fsqrt_le (D4 : Int) (h0 : 0 ≤ D4) (hb : D4 < 2 ^ 100) : fsqrt D4 ≤ 2 ^ 50 := by
  by_contra hc
  rcases (fsqrt_spec D4 h0 (2 ^ 50 + 1)).mp (by omega) with h | h
  · norm_num at h
  · norm_num at h; linarith

/-- what is used of the computed `s ≈ √D4 / 2`: non-negative, its square within `1/4` of `D4 / 4`, and exact when `D4` is
a perfect square (else an integer root could come out just above the integer) -/
structure NearRoot (D4 : Int) (s : Rat) : Prop where
  nonneg : 0 ≤ s
  lo : (D4 : Rat) / 4 - 1 / 4 ≤ s * s
  hi : s * s ≤ (D4 : Rat) / 4 + 1 / 4
  exact : ∀ w : Int, 0 ≤ w → w * w = D4 → s = (w : Rat) / 2

theorem NearRoot.of_contract {R : Rounding} (hS : ContractSqrt R) (D4 : Int) (h0 : 0 ≤ D4) (hb : D4 < 2 ^ 100) :
    NearRoot D4 (R.mpSqrt 103 ((D4 : Rat) / 4)) := by
  have hD : (0 : Rat) ≤ (D4 : Rat) := by exact_mod_cast h0
  have hbq : (D4 : Rat) < 2 ^ 100 := by exact_mod_cast hb
  obtain ⟨h1, h2⟩ := hS.sqrt_sq 103 ((D4 : Rat) / 4) (div_nonneg hD (by norm_num))
  have h3 : 3 * ((D4 : Rat) / 4) / 2 ^ 103 ≤ 1 / 4 := by
    rw [div_le_iff₀ (by positivity)]; linarith only [hbq]
  obtain ⟨h4, h5⟩ := abs_le.mp (h2.trans h3)
  rw [sq] at h4 h5
  refine ⟨h1, by linarith only [h4], by linarith only [h5], fun w hw he => ?_⟩
  subst he
  have hwb : |w| < 2 ^ 103 := by
    rw [abs_of_nonneg hw]
    exact (lt_of_mul_self_lt_mul_self₀ (b := 2 ^ 50) (by norm_num) (hb.trans_eq (by norm_num))).trans (by norm_num)
  rw [show ((w * w : Int) : Rat) / 4 = ((w : Rat) / 2) * ((w : Rat) / 2) by push_cast; ring]
  exact hS.sqrt_exact 103 _ (div_nonneg (by exact_mod_cast hw) (by norm_num)) (rep_half 103 w hwb)

section
variable {D4 : Int} {s : Rat} (hs : NearRoot D4 s)
include hs

theorem NearRoot.le_of_sq (u : Rat) (hu : 0 ≤ u) (h : (D4 : Rat) / 4 + 1 / 4 ≤ u * u) : s ≤ u :=
  (mul_self_le_mul_self_iff hs.nonneg hu).mpr (hs.hi.trans h)

theorem NearRoot.ge_of_sq (u : Rat) (hu : 0 ≤ u) (h : u * u ≤ (D4 : Rat) / 4 - 1 / 4) : u ≤ s :=
  (mul_self_le_mul_self_iff hu hs.nonneg).mpr (h.trans hs.lo)

theorem NearRoot.le_half (w : Int) (hw : 0 ≤ w) (h : D4 ≤ w * w) : s ≤ (w : Rat) / 2 := by
  have hwq : (0 : Rat) ≤ (w : Rat) := by exact_mod_cast hw
  rcases eq_or_lt_of_le h with he | hlt
  · exact (hs.exact w hw he.symm).le
  · have hgap : (D4 : Rat) + 1 ≤ (w : Rat) * w := by exact_mod_cast hlt
    exact hs.le_of_sq _ (by positivity) (by linarith)

theorem NearRoot.half_le (w : Int) (hw : 0 ≤ w) (h : w * w ≤ D4) : (w : Rat) / 2 ≤ s := by
  have hwq : (0 : Rat) ≤ (w : Rat) := by exact_mod_cast hw
  rcases eq_or_lt_of_le h with he | hlt
  · exact (hs.exact w hw he).ge
  · have hgap : (w : Rat) * w + 1 ≤ (D4 : Rat) := by exact_mod_cast hlt
    exact hs.ge_of_sq _ (by positivity) (by linarith)

theorem NearRoot.margin_le (v a : Int) (hb : D4 < 2 ^ 100) (ha1 : 1 ≤ a) (ha : a ≤ 2 ^ 32)
    (h : 0 ≤ v → v * v + 4 * a ≤ D4) : (v : Rat) / 2 + (a : Rat) / 2 ^ 52 ≤ s := by
  have haq1 : (1 : Rat) ≤ (a : Rat) := by exact_mod_cast ha1
  have haq : (a : Rat) ≤ 2 ^ 32 := by exact_mod_cast ha
  rcases lt_or_ge v 0 with hneg | hv
  · have : (v : Rat) ≤ -1 := by exact_mod_cast Int.le_sub_one_of_lt hneg
    linarith [hs.nonneg]
  have h := h hv
  have hvb : v < 2 ^ 50 := lt_of_mul_self_lt_mul_self₀ (by norm_num) (by linarith)
  have hvq : (0 : Rat) ≤ (v : Rat) := by exact_mod_cast hv
  have hvbq : (v : Rat) ≤ 2 ^ 50 := by exact_mod_cast hvb.le
  have hgap : (v : Rat) * v + 4 * a ≤ (D4 : Rat) := by exact_mod_cast h
  -- with `η = a/2^52`: `(v/2 + η)² = v²/4 + v·η + η²` and `v·η + η² ≤ a/4 + a/4`
  obtain ⟨η, hη⟩ : ∃ η : Rat, η * 2 ^ 52 = a := ⟨a / 2 ^ 52, div_mul_cancel₀ _ (by norm_num)⟩
  rw [← hη, mul_div_cancel_right₀ _ (by norm_num : (2 : Rat) ^ 52 ≠ 0)]
  have hη0 : 0 ≤ η := by linarith only [hη, haq1]
  have p1 := mul_le_mul_of_nonneg_right hvbq hη0
  have p2 := mul_le_mul_of_nonneg_right (by linarith only [hη, haq] : η ≤ 1) hη0
  exact hs.ge_of_sq _ (by positivity) (by linarith only [hgap, p1, p2, hη, haq1])

theorem NearRoot.margin_le_neg (v a : Int) (hv : v < 0) (hvb : -(3 * 2 ^ 50) ≤ v)
    (ha1 : 1 ≤ a) (ha : a ≤ 2 ^ 32) (h : D4 + 4 * a ≤ v * v) : (v : Rat) / 2 + (a : Rat) / 2 ^ 52 ≤ -s := by
  have hvq : (v : Rat) ≤ -1 := by exact_mod_cast Int.le_sub_one_of_lt hv
  have hvbq : -(3 * 2 ^ 50) ≤ (v : Rat) := by exact_mod_cast hvb
  have haq1 : (1 : Rat) ≤ (a : Rat) := by exact_mod_cast ha1
  have haq : (a : Rat) ≤ 2 ^ 32 := by exact_mod_cast ha
  have hgap : (D4 : Rat) + 4 * a ≤ (v : Rat) * v := by exact_mod_cast h
  -- with `η = a/2^52`: `(v/2 + η)² ≥ v²/4 + v·η` and `−v·η ≤ 3a/4`
  obtain ⟨η, hη⟩ : ∃ η : Rat, η * 2 ^ 52 = a := ⟨a / 2 ^ 52, div_mul_cancel₀ _ (by norm_num)⟩
  rw [← hη, mul_div_cancel_right₀ _ (by norm_num : (2 : Rat) ^ 52 ≠ 0), le_neg]
  have hη0 : 0 ≤ η := by linarith only [hη, haq1]
  have p1 := mul_le_mul_of_nonneg_right hvbq hη0
  have p2 := mul_self_nonneg η
  exact hs.le_of_sq _ (by linarith only [hvq, hη, haq]) (by linarith only [hgap, p1, p2, hη, haq1])

theorem NearRoot.neg_le_half (w : Int) (h : 0 ≤ w ∨ w * w ≤ D4) : -s ≤ (w : Rat) / 2 := by
  have s0 := hs.nonneg
  rcases le_or_gt 0 w with hw | hw
  · have : (0 : Rat) ≤ (w : Rat) := by exact_mod_cast hw
    linarith
  · have key := hs.half_le (-w) (by omega) (by rw [neg_mul_neg]; exact h.resolve_left (not_le.mpr hw))
    push_cast at key
    linarith

theorem big_ok (a K c : Int) (hD : D4 = K * K - 8 * a * c) (ha1 : 1 ≤ a) (ha : a ≤ 2 ^ 32)
    (hD0 : 0 ≤ D4) (hDb : D4 < 2 ^ 100) :
    CeilOK a (-((K : Rat) / 2) + s) (cdiv (csqrt D4 - K) (2 * a)) := by
  subst hD
  have hap : 0 < a := by omega
  exact CeilOK.of_spec (big_root_spec a K c hap hD0) a K s hap
    (fun h => hs.le_half _ h.1 ((disc_le_sq_iff a K c _ hap).mpr h.2))
    (fun hn => hs.margin_le _ a hDb ha1 ha fun hv => sq_add_le_disc a K c _ hap (not_le.mp fun hq => hn ⟨hv, hq⟩))

theorem small_ok (a K c : Int) (hD : D4 = K * K - 8 * a * c) (ha1 : 1 ≤ a) (ha : a ≤ 2 ^ 32)
    (hD0 : 0 ≤ D4) (hDb : D4 < 2 ^ 100) :
    CeilOK a (-((K : Rat) / 2) - s) (cdiv (-fsqrt D4 - K) (2 * a)) := by
  subst hD
  have hap : 0 < a := by omega
  have c1 := fsqrt_le _ hD0 hDb
  have hub := (cdiv_le_iff (-fsqrt (K * K - 8 * a * c) - K) (2 * a) _ (by omega)).mp le_rfl
  rw [sub_eq_add_neg (-((K : Rat) / 2))]
  refine CeilOK.of_spec (small_root_spec a K c hap hD0) a K (-s) hap
    (fun h => hs.neg_le_half _ (h.imp_right (sq_le_disc_iff a K c _ hap).mpr)) fun hn => ?_
  obtain ⟨hv, hq⟩ := not_or.mp hn
  generalize cdiv (-fsqrt (K * K - 8 * a * c) - K) (2 * a) = m at *
  rw [show 2 * a * m = 2 * a * (m - 1) + 2 * a by ring] at hub
  exact hs.margin_le_neg _ a (by omega) (by omega) ha1 ha (disc_add_le_sq a K c _ hap (not_le.mp hq))

end

theorem cdiv_bounds (x a : Int) (ha1 : 1 ≤ a) (ha : a ≤ 2 ^ 32) (hx : |x| ≤ 2 ^ 50 + 2 ^ 35) :
    |cdiv x (2 * a)| ≤ 2 ^ 50 ∧ |a * (cdiv x (2 * a) - 1)| ≤ 2 ^ 50 := by
  have h2a : (0 : Int) < 2 * a := by omega
  generalize hm : cdiv x (2 * a) = m
  have u := (cdiv_le_iff x (2 * a) m h2a).mp hm.le
  have l := (lt_cdiv_iff x (2 * a) (m - 1) h2a).mp (by omega)
  rw [mul_assoc] at l
  rw [show 2 * a * m = 2 * (a * (m - 1)) + 2 * a by ring] at u
  rw [abs_le] at hx
  have hP : |a * (m - 1)| ≤ 2 ^ 50 - 1 := by rw [abs_le]; constructor <;> omega
  have hm1 : |m - 1| ≤ |a * (m - 1)| := by
    rw [abs_mul, abs_of_pos (by omega : 0 < a)]; exact le_mul_of_one_le_left (abs_nonneg _) ha1
  refine ⟨?_, hP.trans (by norm_num)⟩
  have := abs_le.mp (hm1.trans hP)
  rw [abs_le]; constructor <;> omega

theorem roots_bounds (a K D4 : Int) (ha0 : a ≠ 0) (ha : |a| ≤ 2 ^ 32) (hK : |K| ≤ 2 ^ 35)
    (hD0 : 0 ≤ D4) (hDb : D4 < 2 ^ 100) :
    (|nr0Of a K D4| ≤ 2 ^ 50 ∧ |a * (nr0Of a K D4 - 1)| ≤ 2 ^ 50) ∧
    (|pr0Of a K D4| ≤ 2 ^ 50 ∧ |a * (pr0Of a K D4 - 1)| ≤ 2 ^ 50) := by
  have c0 := ((csqrt_spec D4 hD0 _).mp le_rfl).1
  have c1 : csqrt D4 ≤ 2 ^ 50 := by rw [csqrt_spec D4 hD0]; constructor <;> norm_num; linarith
  have f0 := (fsqrt_spec D4 hD0 0).mpr (Or.inl le_rfl)
  have f1 := fsqrt_le D4 hD0 hDb
  rw [abs_le] at ha hK
  -- for `a > 0`; the other sign is the mirrored quadratic with the two roots swapped
  have pos : ∀ a K : Int, 0 < a → a ≤ 2 ^ 32 → -(2 ^ 35) ≤ K → K ≤ 2 ^ 35 →
      (|nr0Of a K D4| ≤ 2 ^ 50 ∧ |a * (nr0Of a K D4 - 1)| ≤ 2 ^ 50) ∧
      (|pr0Of a K D4| ≤ 2 ^ 50 ∧ |a * (pr0Of a K D4 - 1)| ≤ 2 ^ 50) := by
    intro a K h ha k1 k2
    rw [nr0Of, pr0Of, if_pos h, if_pos h]
    exact ⟨cdiv_bounds _ a h ha (by rw [abs_le]; constructor <;> omega),
      cdiv_bounds _ a h ha (by rw [abs_le]; constructor <;> omega)⟩
  rcases lt_or_gt_of_ne ha0 with h | h
  · have := pos (-a) (-K) (by omega) (by omega) (by omega) (by omega)
    rw [pr0Of_neg a K _ ha0, nr0Of_neg a K _ ha0, neg_mul, neg_mul, abs_neg, abs_neg] at this
    exact this.symm
  · exact pos a K h ha.2 hK.1 hK.2

section roots
variable {R : Rounding} (hR : Contract R)
include hR

/-- for a negative leading coefficient `pos_root` is the *smaller* and `neg_root` the *larger* root of the mirrored
quadratic -/
theorem ceil_roots (a K c : Int) (ha0 : a ≠ 0) (ha : |a| ≤ 2 ^ 32) (hK : |K| ≤ 2 ^ 35)
    (hD0 : 0 ≤ K * K - 8 * a * c) (hDb : K * K - 8 * a * c < 2 ^ 100) :
    Py.ceilRat (R.mp 103 (R.mp 103 (-((K : Rat) / 2) - R.mpSqrt 103 (((K * K - 8 * a * c : Int) : Rat) / 4)) / (a : Rat)))
      = nr0Of a K (K * K - 8 * a * c) ∧
    Py.ceilRat (R.mp 103 (R.mp 103 (-((K : Rat) / 2) + R.mpSqrt 103 (((K * K - 8 * a * c : Int) : Rat) / 4)) / (a : Rat)))
      = pr0Of a K (K * K - 8 * a * c) := by
  obtain ⟨bn, bp⟩ := roots_bounds a K _ ha0 ha hK hD0 hDb
  have hB := hR.toContractBasic
  have hroot := NearRoot.of_contract hR.toContractSqrt _ hD0 hDb
  have ha' := abs_le.mp ha
  rcases lt_or_gt_of_ne ha0 with h | h
  · rw [← pr0Of_neg a K _ ha0, pr0Of, if_pos (by omega)] at bn ⊢
    rw [← nr0Of_neg a K _ ha0, nr0Of, if_pos (by omega)] at bp ⊢
    have hb := big_ok hroot (-a) (-K) (-c) (by ring) (by omega) (by omega) hD0 hDb
    have hs := small_ok hroot (-a) (-K) (-c) (by ring) (by omega) (by omega) hD0 hDb
    exact ⟨divCeil hB (hb.neg (by push_cast; ring)) ha0 ha bn.1 bn.2,
      divCeil hB (hs.neg (by push_cast; ring)) ha0 ha bp.1 bp.2⟩
  · rw [nr0Of, if_pos h] at bn ⊢
    rw [pr0Of, if_pos h] at bp ⊢
    exact ⟨divCeil hB (small_ok hroot a K c rfl (by omega) (by omega) hD0 hDb) ha0 ha bn.1 bn.2,
      divCeil hB (big_ok hroot a K c rfl (by omega) (by omega) hD0 hDb) ha0 ha bp.1 bp.2⟩

end roots

end C03
end Plotink
