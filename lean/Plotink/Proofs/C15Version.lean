import Plotink.Model.C15
import Plotink.Proofs.Strip
/-! # C15 — lemmas on the version order and the render/parse round trip (core Lean only) -/
namespace Plotink.C15

theorem getD_tail {α} (l : List α) (i : Nat) (d : α) : l.tail.getD i d = l.getD (i + 1) d := by
  cases l <;> simp

theorem getD_zero {α} (l : List α) (d : α) : l.getD 0 d = l.headD d := by
  cases l <;> rfl

theorem vle_nil_left (b : List Nat) : vle [] b = true := by
  cases b <;> rfl

/-- one step of `vle`, with the missing head of an exhausted right side read as 0 -/
theorem vle_cons (x : Nat) (xs b : List Nat) :
    vle (x :: xs) b = (decide (x < b.headD 0) || (x == b.headD 0 && vle xs b.tail)) := by
  cases b <;> simp [vle]

theorem vle_cons_iff (x : Nat) (xs b : List Nat) :
    vle (x :: xs) b = true ↔ x < b.headD 0 ∨ (x = b.headD 0 ∧ vle xs b.tail = true) := by
  simp [vle_cons]

theorem vle_step {a b : List Nat} (h : vle a b = true) :
    a.headD 0 < b.headD 0 ∨ (a.headD 0 = b.headD 0 ∧ vle a.tail b.tail = true) := by
  cases a with
  | nil => exact (Nat.eq_zero_or_pos (b.headD 0)).elim (fun h0 => Or.inr ⟨h0.symm, vle_nil_left _⟩) Or.inl
  | cons x xs => exact (vle_cons_iff x xs b).mp h

theorem vle_refl (a : List Nat) : vle a a = true := by
  induction a with
  | nil => rfl
  | cons x xs ih => exact (vle_cons_iff x xs _).mpr (Or.inr ⟨rfl, ih⟩)

theorem vle_nil_right (a : List Nat) : vle a [] = a.all (· == 0) := by
  induction a with
  | nil => rfl
  | cons x xs ih => simp [vle, ih]

theorem vle_total (a b : List Nat) : vle a b = true ∨ vle b a = true := by
  induction a generalizing b with
  | nil => exact Or.inl (vle_nil_left b)
  | cons x xs ih =>
    cases b with
    | nil => exact Or.inr rfl
    | cons y ys =>
      rw [vle_cons_iff, vle_cons_iff]
      rcases Nat.lt_trichotomy x y with h | rfl | h
      · exact Or.inl (Or.inl h)
      · exact (ih ys).imp (fun h' => Or.inr ⟨rfl, h'⟩) (fun h' => Or.inr ⟨rfl, h'⟩)
      · exact Or.inr (Or.inl h)

theorem vle_trans {a b c : List Nat} (h1 : vle a b = true) (h2 : vle b c = true) : vle a c = true := by
  induction a generalizing b c with
  | nil => exact vle_nil_left c
  | cons x xs ih =>
    rw [vle_cons_iff] at h1 ⊢
    rcases h1 with h1 | ⟨h1, h1'⟩ <;> rcases vle_step h2 with h2 | ⟨h2, h2'⟩
    · exact Or.inl (by omega)
    · exact Or.inl (by omega)
    · exact Or.inl (by omega)
    · exact Or.inr ⟨by omega, ih h1' h2'⟩

theorem vle_antisymm {a b : List Nat} (h1 : vle a b = true) (h2 : vle b a = true) :
    ∀ i, a.getD i 0 = b.getD i 0 := by
  intro i
  induction i generalizing a b with
  | zero =>
    rw [getD_zero, getD_zero]
    rcases vle_step h1 with h | ⟨h, _⟩ <;> rcases vle_step h2 with h' | ⟨h', _⟩ <;> omega
  | succ i ih =>
    rw [← getD_tail, ← getD_tail]
    rcases vle_step h1 with h | ⟨h, t1⟩ <;> rcases vle_step h2 with h' | ⟨h', t2⟩
    · omega
    · omega
    · omega
    · exact ih t1 t2

theorem vle_triple (a b c x y z : Nat) :
    vle [a, b, c] [x, y, z] = true ↔ a < x ∨ (a = x ∧ (b < y ∨ (b = y ∧ c ≤ z))) := by
  simp only [vle, Bool.or_eq_true, Bool.and_eq_true, decide_eq_true_eq, beq_iff_eq, Bool.and_true]
  omega

theorem versionKey_cons (x : Nat) (xs : List Nat) :
    versionKey (x :: xs) = if x = 0 ∧ versionKey xs = [] then [] else x :: versionKey xs := by
  simp only [versionKey]
  split
  · rename_i h; simp [h]
  · rename_i h; simp [show ¬ versionKey xs = [] from h]

theorem versionKey_isEmpty (a : List Nat) : (versionKey a).isEmpty = vle a [] := by
  induction a with
  | nil => rfl
  | cons x xs ih =>
    rw [versionKey_cons, vle, ← ih]
    by_cases hz : x = 0 ∧ versionKey xs = []
    · rw [if_pos hz, hz.1, hz.2]; rfl
    · rw [if_neg hz]
      by_cases hx : x = 0
      · cases h : versionKey xs with
        | nil => exact absurd ⟨hx, h⟩ hz
        | cons _ _ => simp
      · simp [hx]

theorem tupleLe_nil_right (k : List Nat) : tupleLe k [] = k.isEmpty := by cases k <;> rfl

theorem tupleLe_key (a b : List Nat) : tupleLe (versionKey a) (versionKey b) = vle a b := by
  induction a generalizing b with
  | nil => simp [versionKey, tupleLe, vle_nil_left]
  | cons x xs ih =>
    cases b with
    | nil => exact (tupleLe_nil_right _).trans (versionKey_isEmpty _)
    | cons y ys =>
      rw [versionKey_cons, versionKey_cons, vle, ← ih ys]
      by_cases hz : x = 0 ∧ versionKey xs = []
      · rw [if_pos hz, hz.1, hz.2]
        cases y <;> simp [tupleLe]
      · rw [if_neg hz]
        by_cases hy : y = 0 ∧ versionKey ys = []
        · rw [if_pos hy, hy.1, hy.2]
          simpa [tupleLe, tupleLe_nil_right] using hz
        · rw [if_neg hy]; rfl

theorem versionGe_eq_vle (a b : List Nat) : versionGe a b = vle b a := tupleLe_key b a

theorem vle_false_iff (a b : List Nat) :
    vle a b = false ↔ ∃ i, (∀ j, j < i → a.getD j 0 = b.getD j 0) ∧ b.getD i 0 < a.getD i 0 := by
  induction a generalizing b with
  | nil => simp [vle_nil_left]
  | cons x xs ih =>
    rw [vle_cons]
    simp only [Bool.or_eq_false_iff, decide_eq_false_iff_not, Bool.and_eq_false_iff, beq_eq_false_iff_ne, ih b.tail]
    constructor
    · rintro ⟨h1, h2⟩
      by_cases hxy : x = b.headD 0
      · obtain ⟨i, hi, hlt⟩ := h2.resolve_left (fun h => h hxy)
        refine ⟨i + 1, fun j hj => ?_, by rwa [← getD_tail, ← getD_tail]⟩
        cases j with
        | zero => rw [getD_zero, getD_zero]; exact hxy
        | succ j => rw [← getD_tail, ← getD_tail]; exact hi j (by omega)
      · refine ⟨0, fun j hj => absurd hj (Nat.not_lt_zero j), ?_⟩
        rw [getD_zero, getD_zero, List.headD_cons]
        omega
    · rintro ⟨i, hi, hlt⟩
      cases i with
      | zero =>
        rw [getD_zero, getD_zero, List.headD_cons] at hlt
        exact ⟨by omega, Or.inl (by omega)⟩
      | succ i =>
        have h0 := hi 0 (by omega)
        rw [getD_zero, getD_zero, List.headD_cons] at h0
        rw [← getD_tail, ← getD_tail] at hlt
        refine ⟨by omega, Or.inr ⟨i, fun j hj => ?_, hlt⟩⟩
        have := hi (j + 1) (by omega)
        rwa [← getD_tail, ← getD_tail] at this

theorem isDigit_ne_dot {c : Char} (h : c.isDigit = true) : c ≠ '.' := by
  rintro rfl; exact absurd h (by decide)

theorem isDigit_ne_v {c : Char} (h : c.isDigit = true) : ¬ (c = 'v' ∨ c = 'V') := by
  rintro (rfl | rfl) <;> exact absurd h (by decide)

theorem isWs_eq : isWs = PyFloat.isPySpace := by
  funext c
  simp only [isWs, PyFloat.isPySpace, PyFloat.isCSpace]

theorem strip_eq (s : Str) : strip s = PyFloat.pyStrip s := by
  unfold strip rstrip lstrip; rw [isWs_eq]; rfl

theorem strip_of_no_ws {s : Str} (h : ∀ c ∈ s, isWs c = false) : strip s = s := by
  rw [strip_eq]; exact PyFloat.stripBy_of_trimmed _ (PyFloat.trimmed_of_none _ (isWs_eq ▸ h))

def digits (n : Nat) : Str := (Nat.repr n).toList

theorem digits_eq (n : Nat) : digits n = Nat.toDigits 10 n := by simp [digits]

theorem digits_ne_nil (n : Nat) : digits n ≠ [] := by
  rw [digits_eq]; exact Nat.toDigits_ne_nil

theorem digits_isDigit (n : Nat) : ∀ c ∈ digits n, c.isDigit = true := by
  intro c hc
  rw [digits_eq] at hc
  exact Nat.isDigit_of_mem_toDigits (by decide) (by decide) hc

theorem parseNat_digits (n : Nat) : parseNat (digits n) = some n := by
  unfold parseNat
  have h1 : (digits n).isEmpty = false := List.isEmpty_eq_false_iff.mpr (digits_ne_nil n)
  have h2 : (digits n).all Char.isDigit = true := List.all_eq_true.mpr (digits_isDigit n)
  simp only [h1, h2, Bool.not_false, Bool.and_self, ↓reduceIte]
  rw [digits_eq, Nat.ofDigitChars_ten_toDigits]

theorem splitOn_no_sep {sep : Char} {d : Str} (h : ∀ c ∈ d, c ≠ sep) : splitOn sep d = [d] := by
  induction d with
  | nil => rfl
  | cons c r ih =>
    have hc : c ≠ sep := h c (by simp)
    simp only [splitOn, hc, ↓reduceIte, ih (fun x hx => h x (by simp [hx]))]

theorem splitOn_append {sep : Char} {d : Str} (rest : Str) (h : ∀ c ∈ d, c ≠ sep) :
    splitOn sep (d ++ sep :: rest) = d :: splitOn sep rest := by
  induction d with
  | nil => simp [splitOn]
  | cons c r ih =>
    have hc : c ≠ sep := h c (by simp)
    simp only [List.cons_append, splitOn, hc, ↓reduceIte, ih (fun x hx => h x (by simp [hx]))]

theorem render_cons_cons (a b : Nat) (r : List Nat) :
    render (a :: b :: r) = digits a ++ '.' :: render (b :: r) := rfl

theorem splitOn_render (l : List Nat) (hl : l ≠ []) : splitOn '.' (render l) = l.map digits := by
  induction l with
  | nil => exact absurd rfl hl
  | cons a r ih =>
    cases r with
    | nil =>
      show splitOn '.' (digits a) = [digits a]
      exact splitOn_no_sep (fun c hc => isDigit_ne_dot (digits_isDigit a c hc))
    | cons b r =>
      rw [render_cons_cons, splitOn_append _ (fun c hc => isDigit_ne_dot (digits_isDigit a c hc)),
        ih (by simp)]
      rfl

theorem mapM_parseNat_digits (l : List Nat) : (l.map digits).mapM parseNat = some l := by
  induction l with
  | nil => rfl
  | cons a r ih => simp [List.mapM_cons, parseNat_digits, ih]

theorem render_chars (l : List Nat) : ∀ c ∈ render l, c.isDigit = true ∨ c = '.' := by
  induction l with
  | nil => intro c hc; simp [render] at hc
  | cons a r ih =>
    cases r with
    | nil => intro c hc; left; exact digits_isDigit a c hc
    | cons b r =>
      intro c hc
      rw [render_cons_cons] at hc
      simp only [List.mem_append, List.mem_cons] at hc
      rcases hc with hc | hc | hc
      · left; exact digits_isDigit a c hc
      · right; exact hc
      · exact ih c hc

theorem strip_render (l : List Nat) : strip (render l) = render l :=
  strip_of_no_ws fun c hc => (render_chars l c hc).elim (isWs_eq ▸ PyFloat.not_space_of_isDigit) fun h => h ▸ by decide

theorem dropV_render (l : List Nat) : dropV (render l) = render l := by
  cases h : render l with
  | nil => rfl
  | cons c t =>
    have hc : ¬ (c = 'v' ∨ c = 'V') :=
      (render_chars l c (h ▸ List.mem_cons_self)).elim isDigit_ne_v fun h => h ▸ by decide
    rw [dropV, if_neg hc]

theorem parseVersion_render (l : List Nat) (hl : l ≠ []) : parseVersion (render l) = some l := by
  unfold parseVersion parseRelease
  rw [strip_render, dropV_render, splitOn_render l hl, mapM_parseNat_digits]

end Plotink.C15
