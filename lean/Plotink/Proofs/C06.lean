import Plotink.Model.C06
import Std.Data.String.ToInt
/-! Helper lemmas for C06 (pause loops, clamp, rendering). -/
namespace Plotink
namespace C06

theorem clampRes_eq (r : Int) : clampRes r = clampDoc r := by
  unfold clampRes clampDoc
  split
  · omega
  · split <;> omega

theorem clampDoc_range (r : Int) : 0 ≤ clampDoc r ∧ clampDoc r ≤ 5 := by
  rw [← clampRes_eq, clampRes]
  omega

theorem clampDoc_of_range {r : Int} (h0 : 0 ≤ r) (h5 : r ≤ 5) : clampDoc r = r := by
  rw [← clampRes_eq, clampRes]
  omega

theorem ebb3PauseLoop_eq_legacy (chunk : Int) :
    ∀ (fuel : Nat) (n : Int), ebb3PauseLoop chunk fuel n = legacyPauseLoop chunk fuel n := by
  intro fuel
  induction fuel with
  | zero => intro n; rfl
  | succ k ih =>
    intro n
    simp only [ebb3PauseLoop, legacyPauseLoop]
    by_cases h : n > 0
    · have hm : max n 1 = (if n < 1 then 1 else n) := by split <;> omega
      simp only [h, if_true, hm, ih]
    · simp only [h, if_false]

theorem pauseStep_bounds {chunk n : Int} (hc : 1 ≤ chunk) (hn : n > 0) :
    1 ≤ (if n > chunk then chunk else if n < 1 then 1 else n) ∧
    (if n > chunk then chunk else if n < 1 then 1 else n) ≤ chunk ∧
    (if n > chunk then chunk else if n < 1 then 1 else n) ≤ n := by
  split
  · omega
  · split <;> omega

theorem legacyPauseLoop_spec (chunk : Int) (hc : 1 ≤ chunk) :
    ∀ (fuel : Nat) (n : Int), n.toNat ≤ fuel →
      (∀ d ∈ legacyPauseLoop chunk fuel n, 1 ≤ d ∧ d ≤ chunk) ∧
      (legacyPauseLoop chunk fuel n).sum = (if n ≤ 0 then 0 else n) := by
  intro fuel
  induction fuel with
  | zero =>
    intro n hn
    have : n ≤ 0 := by omega
    simp [legacyPauseLoop, this]
  | succ k ih =>
    intro n hn
    simp only [legacyPauseLoop]
    by_cases h : n > 0
    · simp only [h, if_true]
      obtain ⟨b1, b2, b3⟩ := pauseStep_bounds hc h
      generalize (if n > chunk then chunk else if n < 1 then 1 else n) = d at b1 b2 b3 ⊢
      obtain ⟨h1, h2⟩ := ih (n - d) (by omega)
      refine ⟨fun x hx => ?_, ?_⟩
      · rcases List.mem_cons.mp hx with rfl | hx
        · exact ⟨b1, b2⟩
        · exact h1 x hx
      · rw [List.sum_cons, h2]
        split <;> split <;> omega
    · simp only [h, if_false]
      have : n ≤ 0 := by omega
      simp [this]

theorem legacyPauseLoop_nonpos (chunk : Int) (fuel : Nat) (n : Int) (h : n ≤ 0) :
    legacyPauseLoop chunk fuel n = [] := by
  cases fuel with
  | zero => rfl
  | succ k =>
    have : ¬ n > 0 := by omega
    simp [legacyPauseLoop, this]

theorem legacyPauseLoop_eq_doc :
    ∀ (fuel : Nat) (n : Int), n.toNat ≤ fuel → legacyPauseLoop 750 fuel n = docPause n := by
  intro fuel
  induction fuel with
  | zero =>
    intro n hn
    have : n ≤ 0 := by omega
    simp [legacyPauseLoop, docPause, this]
  | succ k ih =>
    intro n hn
    simp only [legacyPauseLoop]
    by_cases h : n > 0
    · simp only [h, if_true]
      by_cases hbig : n > 750
      · simp only [hbig, if_true]
        rw [ih (n - 750) (by omega)]
        have hn0 : ¬ n ≤ 0 := by omega
        have hm0 : ¬ n - 750 ≤ 0 := by omega
        have hq : (n / 750).toNat = ((n - 750) / 750).toNat + 1 := by omega
        have hr : n % 750 = (n - 750) % 750 := by omega
        simp only [docPause, hn0, hm0, if_false, hq, hr, List.replicate_succ, List.cons_append]
      · have hlt : ¬ n < 1 := by omega
        simp only [hbig, if_false, hlt]
        rw [legacyPauseLoop_nonpos 750 k (n - n) (by omega)]
        have hn0 : ¬ n ≤ 0 := by omega
        by_cases h750 : n = 750
        · subst h750; decide
        · have hq : (n / 750).toNat = 0 := by omega
          have hr : n % 750 = n := by omega
          have hr0 : ¬ n = 0 := by omega
          simp [docPause, hn0, hq, hr, hr0]
    · simp only [h, if_false]
      have : n ≤ 0 := by omega
      simp [docPause, this]

theorem lm_cond_iff (r1 s1 a1 r2 s2 a2 : Int) :
    ((r1 = 0 ∧ a1 = 0 ∨ s1 = 0) ∧ (r2 = 0 ∧ a2 = 0 ∨ s2 = 0)) ↔
      ¬ (axisCanMove r1 s1 a1 ∨ axisCanMove r2 s2 a2) := by
  unfold axisCanMove; omega

theorem oneZero_iff (c1 c2 : Int) :
    (c1 ≠ c2 ∧ c1 * c2 = 0) ↔ ((c1 = 0 ∧ c2 ≠ 0) ∨ (c1 ≠ 0 ∧ c2 = 0)) := by
  rw [Int.mul_eq_zero]; omega

theorem old_eq_scale (b : Board) :
    (if b.res1 ≠ 0 then b.res1 else (if b.res2 ≠ 0 then b.res2 else 0)) = scaleInUse b := by
  unfold scaleInUse
  split
  · rfl
  · split <;> omega

theorem ebb3Enable_eq_doc (b : Board) (r1 r2 : Int) :
    ebb3Enable b r1 r2 = documented b (.enable r1 r2) := by
  have h1 : min (max r1 0) 5 = clampDoc r1 := clampRes_eq r1
  have h2 : min (max r2 0) 5 = clampDoc r2 := clampRes_eq r2
  simp only [ebb3Enable, documented, h1, h2, old_eq_scale, oneZero_iff]
  by_cases ha : clampDoc r1 = 0 <;> by_cases hb : clampDoc r2 = 0 <;>
    by_cases hs : scaleInUse b = clampDoc r2 <;> simp [ha, hb, hs]

theorem docEnable_em_range (b : Board) (r1 r2 : Int) :
    ∀ c ∈ documented b (.enable r1 r2), c.name = "EM" → ∀ a ∈ c.args, 0 ≤ a ∧ a ≤ 5 := by
  have g1 := clampDoc_range r1
  have g2 := clampDoc_range r2
  intro c hc hn a ha
  simp [documented] at hc
  rcases hc with ⟨_, rfl⟩ | ⟨_, rfl | ⟨_, rfl⟩⟩ | rfl
  · simp at hn
  · simp at hn
  · simp at ha; rcases ha with rfl | rfl <;> exact g2
  · simp at ha; rcases ha with rfl | rfl
    · exact g1
    · exact g2

theorem docEnable_last (b : Board) (r1 r2 : Int) :
    (documented b (.enable r1 r2)).getLast? = some ⟨"EM", [clampDoc r1, clampDoc r2]⟩ := by
  simp [documented]

theorem emod_mul_ediv (v : Int) {a : Int} (ha : 0 < a) (b : Int) : v % (a * b) / a = v / a % b := by
  rw [Int.emod_def, Int.emod_def, ← Int.ediv_ediv_of_nonneg (Int.le_of_lt ha), Int.mul_assoc, Int.sub_eq_add_neg,
    ← Int.mul_neg, Int.add_mul_ediv_left _ _ (Int.ne_of_gt ha)]
  exact Int.sub_eq_add_neg.symm

theorem varWriteInt32_eq_doc (b : Board) (v i : Int) (l : List Cmd)
    (h : (toBytes4 v).map (fun bytes => writeBytes bytes i) = some l) :
    l = documented b (.varWriteInt32 v i) := by
  unfold toBytes4 at h
  split at h
  · rename_i hr
    simp only [Option.map_some, Option.some.injEq] at h
    subst h
    -- the bytes of `v mod 2^32` are those of `v`
    have e0 : v % 4294967296 / 16777216 = v / 16777216 % 256 := emod_mul_ediv v (a := 16777216) (by decide) 256
    have e1 : v % 4294967296 / 65536 % 256 = v / 65536 % 256 := by
      rw [show (4294967296 : Int) = 65536 * 65536 from rfl, emod_mul_ediv v (a := 65536) (by decide) 65536,
        Int.emod_emod_of_dvd _ (by decide)]
    have e2 : v % 4294967296 / 256 % 256 = v / 256 % 256 := by
      rw [show (4294967296 : Int) = 256 * 16777216 from rfl, emod_mul_ediv v (a := 256) (by decide) 16777216,
        Int.emod_emod_of_dvd _ (by decide)]
    have e3 : v % 4294967296 % 256 = v % 256 := Int.emod_emod_of_dvd v (by decide)
    simp only [documented, int32Bytes, writeBytes, e0, e1, e2, e3]
    have a1 : i + 1 + 1 = i + 2 := by omega
    have a2 : i + 2 + 1 = i + 3 := by omega
    simp [a1, a2]
  · simp at h

def numChar (c : Char) : Prop := c.isDigit = true ∨ c = '-'

theorem numChar_of_mem_repr {a : Int} {c : Char} (h : c ∈ (Int.repr a).toList) : numChar c := by
  rw [Int.repr_eq_if] at h
  split at h
  · rw [Nat.toList_repr] at h
    exact Or.inl (Nat.isDigit_of_mem_toDigits (by omega) (by omega) h)
  · rw [String.toList_append] at h
    rcases List.mem_append.mp h with h | h
    · have : c = '-' := by simpa using h
      exact Or.inr this
    · rw [Nat.toList_repr] at h
      exact Or.inl (Nat.isDigit_of_mem_toDigits (by omega) (by omega) h)

theorem comma_not_numChar : ¬ numChar ',' := by
  intro h
  rcases h with h | h
  · exact absurd h (by decide)
  · exact absurd h (by decide)

theorem split_unique : ∀ (l₁ l₂ r₁ r₂ : List Char),
    (∀ c ∈ l₁, c ≠ ',') → (∀ c ∈ l₂, c ≠ ',') →
    (r₁ = [] ∨ ∃ t, r₁ = ',' :: t) → (r₂ = [] ∨ ∃ t, r₂ = ',' :: t) →
    l₁ ++ r₁ = l₂ ++ r₂ → l₁ = l₂ ∧ r₁ = r₂ := by
  intro l₁
  induction l₁ with
  | nil =>
    intro l₂ r₁ r₂ _ h2 hr1 _ h
    cases l₂ with
    | nil => exact ⟨rfl, by simpa using h⟩
    | cons x xs =>
      exfalso
      rcases hr1 with rfl | ⟨t, rfl⟩
      · simp at h
      · simp only [List.nil_append, List.cons_append, List.cons.injEq] at h
        exact h2 x (List.mem_cons_self) h.1.symm
  | cons y ys ih =>
    intro l₂ r₁ r₂ h1 h2 hr1 hr2 h
    cases l₂ with
    | nil =>
      exfalso
      rcases hr2 with rfl | ⟨t, rfl⟩
      · simp at h
      · simp only [List.nil_append, List.cons_append, List.cons.injEq] at h
        exact h1 y (List.mem_cons_self) h.1
    | cons x xs =>
      simp only [List.cons_append, List.cons.injEq] at h
      obtain ⟨hxy, hrest⟩ := h
      obtain ⟨ha, hb⟩ := ih xs r₁ r₂ (fun c hc => h1 c (List.mem_cons_of_mem _ hc))
        (fun c hc => h2 c (List.mem_cons_of_mem _ hc)) hr1 hr2 hrest
      exact ⟨by rw [hxy, ha], hb⟩

theorem argsText_toList_shape (l : List Int) :
    (argsText l).toList = [] ∨ ∃ t, (argsText l).toList = ',' :: t := by
  cases l with
  | nil => left; simp [argsText]
  | cons a as =>
    right
    refine ⟨(Int.repr a).toList ++ (argsText as).toList, ?_⟩
    simp [argsText, String.toList_append]

theorem argsText_inj : ∀ (l₁ l₂ : List Int), argsText l₁ = argsText l₂ → l₁ = l₂ := by
  intro l₁
  induction l₁ with
  | nil =>
    intro l₂ h
    cases l₂ with
    | nil => rfl
    | cons b bs =>
      exfalso
      have := congrArg String.toList h
      simp [argsText, String.toList_append] at this
  | cons a as ih =>
    intro l₂ h
    cases l₂ with
    | nil =>
      exfalso
      have := congrArg String.toList h
      simp [argsText, String.toList_append] at this
    | cons b bs =>
      have hl := congrArg String.toList h
      simp only [argsText, String.toList_append] at hl
      have hc : (",":String).toList = [','] := by decide
      rw [hc] at hl
      simp only [List.cons_append, List.nil_append, List.cons.injEq, true_and] at hl
      obtain ⟨hab, hrest⟩ := split_unique _ _ _ _
        (fun c hc h => comma_not_numChar (h ▸ numChar_of_mem_repr hc))
        (fun c hc h => comma_not_numChar (h ▸ numChar_of_mem_repr hc))
        (argsText_toList_shape as) (argsText_toList_shape bs) hl
      have e1 : a = b := Int.repr_injective (String.toList_inj.mp hab)
      have e2 : as = bs := ih bs (String.toList_inj.mp hrest)
      rw [e1, e2]

theorem Cmd.wire_inj_args {c₁ c₂ : Cmd} (hn : c₁.name = c₂.name) (h : c₁.wire = c₂.wire) :
    c₁.args = c₂.args := by
  unfold Cmd.wire Cmd.text at h
  rw [hn] at h
  have h1 := (String.append_left_inj "\r").mp h
  have h2 := (String.append_right_inj c₂.name).mp h1
  exact argsText_inj _ _ h2

theorem truthy_eq_present (x : Option Int) (h : x ≠ some 0) : truthy x = present x := by
  cases x with
  | none => rfl
  | some v => exact bne_iff_ne.mpr fun hv => h (by rw [hv])

theorem legacyEmit_noport (fwOk : Bool) (r : Req) : (legacyEmit false fwOk r).getD [] = [] := by
  cases r
  case enable r1 r2 =>
    show (if r1 = r2 then some [] else none : Option (List Cmd)).getD [] = []
    split <;> rfl
  case pbConfig p s d =>
    show (if d = 0 then some [] else none : Option (List Cmd)).getD [] = []
    split <;> rfl
  all_goals rfl

theorem ebb3Emit_noport (b : Board) (r : Req) : (ebb3Emit false b r).getD [] = [] := by
  cases r <;> rfl

end C06
end Plotink
