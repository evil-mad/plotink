import Plotink.Proofs.C06GenQuery
import Plotink.Gen.ebb_motion_doABMove
import Plotink.Gen.ebb_motion_doXYMove
import Plotink.Gen.ebb_motion_sendDisableMotors
import Plotink.Gen.ebb_motion_PBOutValue
import Plotink.Gen.ebb_motion_TogglePen
import Plotink.Gen.ebb_motion_setPenDownPos
import Plotink.Gen.ebb_motion_setPenUpPos
import Plotink.Gen.ebb_motion_setPenDownRate
import Plotink.Gen.ebb_motion_setPenUpRate
import Plotink.Gen.ebb_motion_setEBBLV
import Plotink.Gen.ebb_motion_doAbsMove
import Plotink.Gen.ebb_motion_sendPenDown
import Plotink.Gen.ebb_motion_sendPenUp
/-! # C06 over the regenerated code: the legacy layer, request by request

`legacyGen fuel present vb w r` is the call of the *regenerated* helper of `plotink/ebb_motion.py` that serves the request
`r` (`none`: the layer has no helper, or the helper is `query_enable_motors`, whose number of transmissions depends
on the replies: `C06GenQueryPI`).  `legacyGen_emit`, row by row: the call ends and the write log grows by exactly the
wire texts of `C06.legacyEmit present fwOk r` for some `fwOk` (irrelevant for the ungated helpers; for the gated ones
`true` only if the gate call returned `True`, which `Gated` records and this statement forgets), under the hypothesis
on the script that the row needs (`DomFor`): the helpers that transmit one command and stop need only that the scripted
faults are serial I/O exceptions; those that go on after a reply also that the scripted lines are ASCII (`Dom`).  A
helper that is one guard, at most one formatted assignment and the `command` statement is proved in its row: the
statements before the `command` statement are stepped through, each test and each formatted text by computation, and
`run_send` recognises the text handed over as the rendered request. -/
namespace Plotink
namespace C06Gen
open PyObj Gen

def legacyGen (fuel : Nat) (present : Bool) (vb : Val) (w : World NoObj) : C06.Req → Option (Out NoObj)
  | .xyMove dx dy dur => some (ebb_motion_doXYMove fuel (encPort present) (.int dx) (.int dy) (.int dur) vb w)
  | .abMove da db dur => some (ebb_motion_doABMove fuel (encPort present) (.int da) (.int db) (.int dur) vb w)
  | .absMove rate p1 p2 => some (ebb_motion_doAbsMove fuel (encPort present) (.int rate) (encOpt p1) (encOpt p2) vb w)
  | .lowLevel r1 s1 a1 r2 s2 a2 clear =>
      some (ebb_motion_doLowLevelMove fuel (encPort present) (.int r1) (.int s1) (.int a1) (.int r2) (.int s2) (.int a2)
        (encOpt clear) vb w)
  | .timedPause n => some (ebb_motion_doTimedPause fuel (encPort present) (.int n) vb w)
  | .penDown delay pin => some (ebb_motion_sendPenDown fuel (encPort present) (.int delay) (encOpt pin) vb w)
  | .penUp delay pin => some (ebb_motion_sendPenUp fuel (encPort present) (.int delay) (encOpt pin) vb w)
  | .enable r1 r2 => if r1 = r2 then some (ebb_motion_sendEnableMotors fuel (encPort present) (.int r1) vb w) else Option.none
  | .disable => some (ebb_motion_sendDisableMotors fuel (encPort present) vb w)
  | .pbConfig pin state dir =>
      if dir = 0 then some (ebb_motion_PBOutConfig fuel (encPort present) (.int pin) (.int state) vb w) else Option.none
  | .pbSet pin state => some (ebb_motion_PBOutValue fuel (encPort present) (.int pin) (.int state) vb w)
  | .togglePen => some (ebb_motion_TogglePen fuel (encPort present) vb w)
  | .penPosDown v => some (ebb_motion_setPenDownPos fuel (encPort present) (.int v) vb w)
  | .penPosUp v => some (ebb_motion_setPenUpPos fuel (encPort present) (.int v) vb w)
  | .penRateDown v => some (ebb_motion_setPenDownRate fuel (encPort present) (.int v) vb w)
  | .penRateUp v => some (ebb_motion_setPenUpRate fuel (encPort present) (.int v) vb w)
  | .setLayer v => some (ebb_motion_setEBBLV fuel (encPort present) (.int v) vb w)
  | .queryLayer => some (ebb_motion_queryEBBLV fuel (encPort present) vb w)
  | .servoTimeout ms state => some (ebb_motion_servo_timeout fuel (encPort present) (.int ms) (encOpt state) vb w)
  | .queryPenUp => some (ebb_motion_QueryPenUp fuel (encPort present) vb w)
  | .queryButton => some (ebb_motion_QueryPRGButton fuel (encPort present) vb w)
  | .querySteps => some (ebb_motion_query_steps fuel (encPort present) vb w)
  | .queryVoltage => some (ebb_motion_queryVoltage fuel (encPort present) vb w)
  | _ => Option.none

/-- fuel: 101 for the retry loops of `command`/`query`; the pause loop makes one pass per chunk, at most `n` -/
def FuelFor (fuel : Nat) : C06.Req → Prop
  | .timedPause n => 101 ≤ fuel ∧ n.toNat + 1 ≤ fuel
  | _ => 101 ≤ fuel

def DomFor (r : C06.Req) (p : PyIO.Port) : Prop :=
  match r with
  | .timedPause _ | .pbConfig _ _ _ | .queryLayer | .servoTimeout _ _ | .queryPenUp | .queryButton | .querySteps
  | .queryVoltage => Dom p
  | _ => C07Gen.IoScript p

theorem DomFor.of_dom {r : C06.Req} {p : PyIO.Port} (h : Dom p) : DomFor r p := by
  cases r <;> first | exact h | exact h.1

theorem legacyGen_emit (fuel : Nat) (present : Bool) (vb : Val) (w : World NoObj) (r : C06.Req) (o : Out NoObj)
    (hf : FuelFor fuel r) (hd : DomFor r w.port) (ho : legacyGen fuel present vb w r = some o) :
    ∃ fwOk, Wrote o w (C06.legacyEmit present fwOk r) := by
  cases present
  · -- without a port every helper returns at once, by evaluation; `sendEnableMotors` clamps `res` before it tests the port
    cases r
    case enable r1 r2 =>
      simp only [legacyGen] at ho
      split at ho <;> cases ho
      rename_i h; subst h
      exact ⟨true, sendEnableMotors_bridge fuel hf false r1 vb w hd⟩
    case pbConfig p s d =>
      simp only [legacyGen] at ho
      split at ho <;> cases ho
      exact ⟨true, by rw [C06.legacyEmit, C06.legacyEmitWith, if_pos ‹_›]; exact wrote_nothing rfl⟩
    all_goals first | (cases ho; exact ⟨true, wrote_nothing rfl⟩) | cases ho
  · -- `cases ho` would evaluate the call of the helper, the port being present: only `some` is taken off
    cases r with
    | xyMove dx dy dur =>
      cases Option.some.inj ho
      exact ⟨true, run_send fuel hf _ _ w "SM" [dur, dy, dx] (by decide) vb hd ⟨_, _, by
        rw [ebb_motion_doXYMove_main, ebb_motion_doXYMove_if1, ifte_pos rfl rfl, block_cons2, block_one,
          seq_norm (assign_of rfl)], by rfl⟩⟩
    | abMove da db dur =>
      cases Option.some.inj ho
      exact ⟨true, run_send fuel hf _ _ w "XM" [dur, da, db] (by decide) vb hd ⟨_, _, by
        rw [ebb_motion_doABMove_main, ebb_motion_doABMove_if1, ifte_pos rfl rfl, block_cons2, block_one,
          seq_norm (assign_of rfl)], by rfl⟩⟩
    | absMove rate p1 p2 =>
      cases Option.some.inj ho
      rcases p1 with _ | a <;> rcases p2 with _ | b
      case some.some =>
        exact ⟨true, run_send fuel hf _ _ w "HM" [rate, a, b] (by decide) vb hd ⟨_, _, by
          rw [ebb_motion_doAbsMove_main, ebb_motion_doAbsMove_if1, ifte_pos rfl rfl, block_cons2, block_one,
            ebb_motion_doAbsMove_if2, seq_norm ((ifte_pos rfl rfl).trans (assign_of rfl))], by rfl⟩⟩
      all_goals
        exact ⟨true, run_send fuel hf _ _ w "HM" [rate] (by decide) vb hd ⟨_, _, by
          rw [ebb_motion_doAbsMove_main, ebb_motion_doAbsMove_if1, ifte_pos rfl rfl, block_cons2, block_one,
            ebb_motion_doAbsMove_if2, seq_norm ((ifte_neg rfl rfl).trans (assign_of rfl))], by rfl⟩⟩
    | lowLevel r1 s1 a1 r2 s2 a2 clear =>
      cases Option.some.inj ho; exact ⟨true, doLowLevelMove_bridge fuel hf r1 s1 a1 r2 s2 a2 clear vb w hd⟩
    | timedPause n =>
      cases Option.some.inj ho
      obtain ⟨w', v, e, hl, -⟩ := doTimedPause_bridge fuel hf.1 n hf.2 vb w hd
      exact ⟨true, w', congrArg outWorld e, hl⟩
    | penDown delay pin =>
      cases Option.some.inj ho
      rcases pin with _ | q
      · exact ⟨true, run_send fuel hf _ _ w "SP" [0, delay] (by decide) vb hd ⟨_, _, by
          rw [ebb_motion_sendPenDown_main, ebb_motion_sendPenDown_if1, ifte_pos rfl rfl, block_cons2, block_one,
            ebb_motion_sendPenDown_if2, seq_norm ((ifte_neg rfl rfl).trans (assign_of rfl))], by rfl⟩⟩
      · exact ⟨true, run_send fuel hf _ _ w "SP" [0, delay, q] (by decide) vb hd ⟨_, _, by
          rw [ebb_motion_sendPenDown_main, ebb_motion_sendPenDown_if1, ifte_pos rfl rfl, block_cons2, block_one,
            ebb_motion_sendPenDown_if2, seq_norm ((ifte_pos rfl rfl).trans (assign_of rfl))], by rfl⟩⟩
    | penUp delay pin =>
      cases Option.some.inj ho
      rcases pin with _ | q
      · exact ⟨true, run_send fuel hf _ _ w "SP" [1, delay] (by decide) vb hd ⟨_, _, by
          rw [ebb_motion_sendPenUp_main, ebb_motion_sendPenUp_if1, ifte_pos rfl rfl, block_cons2, block_one,
            ebb_motion_sendPenUp_if2, seq_norm ((ifte_neg rfl rfl).trans (assign_of rfl))], by rfl⟩⟩
      · exact ⟨true, run_send fuel hf _ _ w "SP" [1, delay, q] (by decide) vb hd ⟨_, _, by
          rw [ebb_motion_sendPenUp_main, ebb_motion_sendPenUp_if1, ifte_pos rfl rfl, block_cons2, block_one,
            ebb_motion_sendPenUp_if2, seq_norm ((ifte_pos rfl rfl).trans (assign_of rfl))], by rfl⟩⟩
    | enable r1 r2 =>
      by_cases h : r1 = r2
      · cases Option.some.inj ((if_pos h).symm.trans ho)
        subst h
        exact ⟨true, sendEnableMotors_bridge fuel hf true r1 vb w hd⟩
      · cases (if_neg h).symm.trans ho
    | disable =>
      cases Option.some.inj ho
      exact ⟨true, run_send fuel hf _ _ w "EM" [0, 0] (by decide) vb hd ⟨_, _, by
        rw [ebb_motion_sendDisableMotors_main, ebb_motion_sendDisableMotors_if1, ifte_pos rfl rfl], by rfl⟩⟩
    | pbConfig pin state dir =>
      by_cases h : dir = 0
      · cases Option.some.inj ((if_pos h).symm.trans ho)
        subst h
        exact ⟨true, PBOutConfig_bridge fuel hf pin state vb w hd⟩
      · cases (if_neg h).symm.trans ho
    | pbSet pin state =>
      cases Option.some.inj ho
      exact ⟨true, run_send fuel hf _ _ w "PO,B" [pin, state] (by decide) vb hd ⟨_, _, by
        rw [ebb_motion_PBOutValue_main, ebb_motion_PBOutValue_if1, ifte_pos rfl rfl, block_cons2, block_one,
          seq_norm (assign_of rfl)], by rfl⟩⟩
    | togglePen =>
      cases Option.some.inj ho
      exact ⟨true, run_send fuel hf _ _ w "TP" [] (by decide) vb hd ⟨_, _, by
        rw [ebb_motion_TogglePen_main, ebb_motion_TogglePen_if1, ifte_pos rfl rfl], by rfl⟩⟩
    | penPosDown v =>
      cases Option.some.inj ho
      exact ⟨true, run_send fuel hf _ _ w "SC" [5, v] (by decide) vb hd ⟨_, _, by
        rw [ebb_motion_setPenDownPos_main, ebb_motion_setPenDownPos_if1, ifte_pos rfl rfl], by rfl⟩⟩
    | penPosUp v =>
      cases Option.some.inj ho
      exact ⟨true, run_send fuel hf _ _ w "SC" [4, v] (by decide) vb hd ⟨_, _, by
        rw [ebb_motion_setPenUpPos_main, ebb_motion_setPenUpPos_if1, ifte_pos rfl rfl], by rfl⟩⟩
    | penRateDown v =>
      cases Option.some.inj ho
      exact ⟨true, run_send fuel hf _ _ w "SC" [12, v] (by decide) vb hd ⟨_, _, by
        rw [ebb_motion_setPenDownRate_main, ebb_motion_setPenDownRate_if1, ifte_pos rfl rfl], by rfl⟩⟩
    | penRateUp v =>
      cases Option.some.inj ho
      exact ⟨true, run_send fuel hf _ _ w "SC" [11, v] (by decide) vb hd ⟨_, _, by
        rw [ebb_motion_setPenUpRate_main, ebb_motion_setPenUpRate_if1, ifte_pos rfl rfl], by rfl⟩⟩
    | setLayer v =>
      cases Option.some.inj ho
      exact ⟨true, run_send fuel hf _ _ w "SL" [v] (by decide) vb hd ⟨_, _, by
        rw [ebb_motion_setEBBLV_main, ebb_motion_setEBBLV_if1, ifte_pos rfl rfl], by rfl⟩⟩
    | queryLayer => cases Option.some.inj ho; exact ⟨true, queryEBBLV_bridge fuel hf vb w hd⟩
    | servoTimeout ms state => cases Option.some.inj ho; exact servo_timeout_bridge fuel hf ms state vb w hd
    | queryPenUp => cases Option.some.inj ho; exact ⟨true, QueryPenUp_bridge fuel hf vb w hd⟩
    | queryButton => cases Option.some.inj ho; exact ⟨true, QueryPRGButton_bridge fuel hf vb w hd⟩
    | querySteps => cases Option.some.inj ho; exact ⟨true, query_steps_bridge fuel hf vb w hd⟩
    | queryVoltage => cases Option.some.inj ho; exact queryVoltage_bridge fuel hf vb w hd
    | _ => cases ho

end C06Gen
end Plotink

namespace Plotink
namespace LegacyGen
open PyObj Gen

/-- **C06: `doXYMove`, the example worked in `LEGACYGEN_NOTES.md`.**  For every script whose faults are serial I/O
exceptions (fuel ≥ 101), with or without a port: the regenerated `doXYMove` ends (value or escaping exception, never out
of fuel) having appended to the write log exactly the wire texts of `C06.legacyEmit port fwOk (.xyMove dx dy dur)` — one
`SM,<dur>,<dy>,<dx>\r`, or nothing without a port. -/
theorem doXYMove_bridge (fuel : Nat) (hf : 101 ≤ fuel) (present fwOk : Bool) (dx dy dur : Int) (vb : Val)
    (w : World NoObj) (hio : C07Gen.IoScript w.port) :
    ∃ w', outWorld (ebb_motion_doXYMove fuel (if present then .port else .none) (.int dx) (.int dy) (.int dur) vb w) = some w' ∧
      w'.port.log = w.port.log ++
        ((C06.legacyEmit present fwOk (.xyMove dx dy dur)).getD []).map (fun c => c.wire.toList) :=
  (C06Gen.legacyGen_emit fuel present vb w (.xyMove dx dy dur) _ hf hio rfl).elim fun _ h => h

end LegacyGen
end Plotink
