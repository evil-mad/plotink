import Plotink.Proofs.LegacyGen
import Plotink.Proofs.C19Str
import Plotink.Proofs.RuleSets

/-! # C19 bridges: symbolic evaluation of the generated discovery functions

The string primitives of the runtime (`Model/Ebb3.lean`, `PyObj.lean`) agree with those of `Model/C19.lean`, and a slice
up to the result of a `find` is the model's `sliceTo`.

`Enumerates` and the encodings of the two listings, the rule set `pyeval`, the three loop shapes over the encoded port
list, and how the generated code reads a port.  The loop lemmas hold for any record of locals, said in two ways:
`forLoop_first` takes the record's constructor `mk` (its loops have exactly the three locals it names, so a caller passes
the constructor and `rfl`); `forLoop_find` and `forLoop_acc` take an invariant `I` (their records have four to ten locals,
most of them scratch, which an invariant leaves open and a constructor of fixed arity cannot). -/
namespace Plotink
namespace C19Gen

section
open PyObj

theorem toLower_eq (c : Char) : c.toLower = C19.lowerC c := by
  have hc : (c.val ≥ 'A'.val ∧ c.val ≤ 'Z'.val) ↔ (65 ≤ c.toNat ∧ c.toNat ≤ 90) := by
    simp only [ge_iff_le, UInt32.le_iff_toNat_le, Char.toNat_val]; exact Iff.rfl
  unfold Char.toLower C19.lowerC
  by_cases h : 65 ≤ c.toNat ∧ c.toNat ≤ 90
  · rw [dif_pos (hc.mpr h), if_pos h]
    apply Char.toNat_inj.mp
    rw [PyFloat.toNat_ofNat_valid (by left; omega), Char.toNat_mk, UInt32.toNat_add,
      show ('a'.val - 'A'.val).toNat = 32 by decide, Char.toNat_val]
    omega
  · rw [dif_neg (mt hc.mp h), if_neg h]

theorem lower_agree (s : List Char) : Ebb3.lower s = C19.lower s := by
  unfold Ebb3.lower C19.lower
  exact List.map_congr_left (fun c _ => toLower_eq c)

theorem hasSub_agree (p s : List Char) : Ebb3.hasSub p s = C19.isInfixB p s := by
  induction s with
  | nil => cases p <;> rfl
  | cons c cs ih => simp only [Ebb3.hasSub, C19.isInfixB, ih]

theorem meth_lower_str (s : List Char) : meth_lower (.str s) = .ok (.str (C19.lower s)) := by
  simp only [meth_lower, lower_agree]

theorem op_in_str (p s : List Char) : op_in (.str p) (.str s) = .ok (.bool (C19.isInfixB p s)) := by
  simp only [op_in, hasSub_agree]

theorem startswith_str (s p : List Char) : meth_startswith (.str s) (.str p) = .ok (.bool (p.isPrefixOf s)) := rfl

/-- `s[i:j]` where `j` is the result of a `find` (`-1` when absent): the model's `sliceTo` -/
theorem slice_find (s : List Char) (i : Nat) (j : Option Nat) :
    op_slice (.str s) (.int i) (.int (match j with | some k => (k : Int) | Option.none => -1)) =
      .ok (.str (C19.sliceTo s i j)) := by
  cases j with
  | some k => rw [slice_str s i _ _ (sliceBound_nat ..), ← List.take_eq_take_min]; rfl
  | none =>
    have hb : sliceBound s.length s.length (.int (-1)) = some (s.length - 1) := by cases s <;> rfl
    exact slice_str s i _ _ hb

end

open PyObj LegacyGen

def andThen {ω σ : Type} (r : Flow ω σ) (k : σ → World ω → Flow ω σ) : Flow ω σ :=
  match r with
  | .norm env w => k env w
  | r => r

section
variable {ω σ : Type}

theorem seq_apply (a b : Stmt ω σ) (fuel : Nat) (env : σ) (w : World ω) :
    seq a b fuel env w = andThen (a fuel env w) (b fuel) := by
  unfold seq andThen; cases a fuel env w <;> rfl
theorem andThen_norm (env : σ) (w : World ω) (k : σ → World ω → Flow ω σ) : andThen (.norm env w) k = k env w := rfl
theorem andThen_ret (v : Val) (w : World ω) (k : σ → World ω → Flow ω σ) : andThen (.ret v w) k = .ret v w := rfl
theorem andThen_brk (env : σ) (w : World ω) (k : σ → World ω → Flow ω σ) : andThen (.brk env w) k = .brk env w := rfl
/-- a test the evaluation cannot decide is carried outwards, so that no case split is needed to go on -/
theorem andThen_ite (c : Prop) [Decidable c] (x y : Flow ω σ) (k : σ → World ω → Flow ω σ) :
    andThen (if c then x else y) k = if c then andThen x k else andThen y k := by
  split <;> rfl

/-- rewriting `truthy (.bool t)` inside the condition would leave the `Decidable` instance of the `if` behind -/
theorem ite_truthy_bool {α : Type} (t : Bool) (x y : α) :
    (if truthy (.bool t) = true then x else y) = if t = true then x else y := rfl

theorem not_bool (a : Bool) : (not_ (ok (.bool a)) : Eff ω) = ok (.bool (!a)) := rfl

/-- The loop shape `for a in l: ...; if test(a): return out(a)`, with an invariant `I` on the locals. -/
theorem forLoop_find {α : Type} (set : σ → Val → σ) (body : Stmt ω σ) (fuel : Nat) (enc : α → Val)
    (test : α → Bool) (out : α → Val) (I : σ → Prop) (w : World ω)
    (hbody : ∀ a env, I env → ∃ env', I env' ∧
      body fuel (set env (enc a)) w = if test a = true then .ret (out a) w else .norm env' w)
    (l : List α) (env : σ) (h : I env) :
    ∃ env', forLoop set body fuel (l.map enc) env w =
      match l.find? test with
      | some a => .ret (out a) w
      | Option.none => .norm env' w := by
  induction l generalizing env with
  | nil => exact ⟨env, rfl⟩
  | cons a l ih =>
    obtain ⟨env', h', e⟩ := hbody a env h
    simp only [List.map_cons, forLoop, e, List.find?_cons]
    cases test a
    · exact ih env' h'
    · exact ⟨env, rfl⟩

/-- The loop shape `for a in l: acc.extend(f(a))` without exits, `I acc` relating the locals to what has been accumulated. -/
theorem forLoop_acc {α β : Type} (set : σ → Val → σ) (body : Stmt ω σ) (fuel : Nat) (enc : α → Val)
    (f : α → List β) (I : List β → σ → Prop) (w : World ω)
    (hbody : ∀ acc a env, I acc env → ∃ env', I (acc ++ f a) env' ∧ body fuel (set env (enc a)) w = .norm env' w)
    (l : List α) (acc : List β) (env : σ) (h : I acc env) :
    ∃ env', I (acc ++ l.flatMap f) env' ∧ forLoop set body fuel (l.map enc) env w = .norm env' w := by
  induction l generalizing acc env with
  | nil => exact ⟨env, by rwa [List.flatMap_nil, List.append_nil], rfl⟩
  | cons a l ih =>
    obtain ⟨env', h', e⟩ := hbody acc a env h
    simp only [List.map_cons, forLoop, e, List.flatMap_cons, ← List.append_assoc]
    exact ih (acc ++ f a) env' h'

end

/-- A loop `for port in ports: if <test port>: ebb_port = port[0]; break` over locals `mk com_ports_list ebb_port port`,
entered with `ebb_port = None`: it ends with `ebb_port` holding the device of the first port passing the test, if any. -/
theorem forLoop_first {ω σ : Type} (mk : Val → Val → Val → σ) (set : σ → Val → σ)
    (hset : ∀ c e p v, set (mk c e p) v = mk c e v) (body : Stmt ω σ) (test : C19.Port → Bool) (fuel : Nat) (cpl : Val)
    (w : World ω)
    (hbody : ∀ p eb, body fuel (mk cpl eb (encPort p)) w =
      if test p = true then .brk (mk cpl (.str p.dev) (encPort p)) w else .norm (mk cpl eb (encPort p)) w)
    (ports : List C19.Port) (pv : Val) :
    ∃ pv', forLoop set body fuel (ports.map encPort) (mk cpl .none pv) w
      = .norm (mk cpl (encOptStr (C19.firstBy test ports)) pv') w := by
  induction ports generalizing pv with
  | nil => exact ⟨pv, rfl⟩
  | cons p ps ih =>
    simp only [List.map_cons, forLoop, hset, hbody, C19.firstBy]
    cases test p
    · exact ih _
    · exact ⟨_, rfl⟩

/-- `list(comports())` yields exactly `ports` -/
def Enumerates {ω : Type} (w : World ω) (ports : List C19.Port) : Prop :=
  w.ext.comports = .ok (.list (ports.map encPort))

def encPorts : Option (List C19.Port) → Val
  | some l => .list (l.map encPort)
  | Option.none => .none

def encNames : Option (List C19.Str) → Val
  | some l => .list (l.map Val.str)
  | Option.none => .none

/-- `try: x = list(comports())` when the enumeration yields a list -/
theorem try_comports {ω σ : Type} (set : σ → Val → σ) (hs : List (Handler ω σ)) (fuel : Nat) (env : σ) (w : World ω)
    (l : List Val) (hc : w.ext.comports = .ok (.list l)) :
    tryExcept (assign set fun _ _ => app1 b_list ext_comports) hs fuel env w = .norm (set env (.list l)) w := by
  simp only [tryExcept, assign, app1, PyObj.bind, ext_comports, hc, ofP, b_list, items, ok]

theorem load_port {ω : Type} (p : C19.Port) : (load (encPort p) : Eff ω) = ok (encPort p) := rfl
theorem getitem_port0 (p : C19.Port) : op_getitem (encPort p) (.int 0) = .ok (.str p.dev) := rfl
theorem getitem_port1 (p : C19.Port) : op_getitem (encPort p) (.int 1) = .ok (.str p.desc) := rfl
theorem getitem_port2 (p : C19.Port) : op_getitem (encPort p) (.int 2) = .ok (.str p.hwid) := rfl

theorem startswith_ebbName (p : C19.Port) :
    meth_startswith (.str p.desc) (.str ['E', 'i', 'B', 'o', 't', 'B', 'o', 'a', 'r', 'd']) = .ok (.bool (C19.descMatch p)) := by
  rw [← C19.lit_ebbName]; rfl
theorem startswith_vidpid (p : C19.Port) :
    meth_startswith (.str p.hwid) (.str ['U', 'S', 'B', ' ', 'V', 'I', 'D', ':', 'P', 'I', 'D', '=', '0', '4', 'D', '8', ':', 'F', 'D', '9', '2'])
      = .ok (.bool (C19.idMatch p)) := by
  rw [← C19.lit_vidpid]; rfl

/-- `needle.replace(" ", "_")`, whose result the code discards -/
theorem replace_space (s : List Char) : meth_replace (.str s) (.str [' ']) (.str ['_'])
    = .ok (.str (['_'].intercalate (splitSubGo [' '] s [] 0))) := rfl
theorem slice_from11 (s : List Char) : op_slice (.str s) (.int 11) .none = .ok (.str (s.drop 11)) := slice_from s 11

attribute [pyeval] PyObj.run block_cons2 block_one seq_apply andThen_norm andThen_ret andThen_brk andThen_ite
  assign expr ifte return_ pass break_ PyObj.forIn items ite_truthy_bool or_bool and_bool not_ok
  load_port load_str PyObj.load_list load_bool load_int load_none app1_ok app2_ok app3_ok ofP_ok ok_apply
  mkList evalList_nil mcall0_apply ofOut_val getitem_port0 getitem_port1 getitem_port2 replace_space slice_from11
  meth_lower_str op_in_str startswith_str op_is_none op_is_not_none isNone meth_append
  if_true if_false Bool.false_eq_true Bool.not_true Bool.not_false List.nil_append
-- `high`: each of these meets a term that a general rule above (`not_ok`, `startswith_str`) also rewrites, and has to win
attribute [pyeval high] not_bool startswith_ebbName startswith_vidpid

end C19Gen
end Plotink
