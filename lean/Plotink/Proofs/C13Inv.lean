import Plotink.Model.C13
import Mathlib.Tactic.ByContra
import Mathlib.Logic.Basic

/-! C13: the two tables of an index, for any set `S` of identifiers they are to hold (`CellsOK`), under the two updates of
the code: `remove` (`cellsOK_removeId`) and `append` with the lookup entry (`cellsOK_add`, for `__init__`).  With `S` the
ends of the live paths that is the table part of `Inv`, which `remove` and every removal sequence preserve. -/
namespace Plotink
namespace C13

def getC (cells : List (List Nat)) (c : Nat) : List Nat := cells.getD c []

theorem cellAt_eq (g : Grid) (c : Nat) : cellAt g c = getC g.cells c := rfl

theorem getC_set {cells : List (List Nat)} {c : Nat} (v : List Nat) (c' : Nat) (hc : c < cells.length) :
    getC (cells.set c v) c' = if c = c' then v else getC cells c' := by
  unfold getC
  simp only [List.getD_eq_getElem?_getD, List.getElem?_set, hc, if_true]
  split <;> simp

theorem getC_modify {cells : List (List Nat)} {c : Nat} (f : List Nat → List Nat) (c' : Nat)
    (hc : c < cells.length) :
    getC (cells.modify c f) c' = if c = c' then f (getC cells c') else getC cells c' := by
  unfold getC
  simp only [List.getD_eq_getElem?_getD, List.getElem?_modify]
  by_cases h : c = c'
  · subst h
    simp [List.getElem?_eq_getElem hc]
  · simp only [h, if_false]
    cases cells[c']? <;> simp

theorem getElem?_of_mem_getC {cells : List (List Nat)} {c id : Nat} (h : id ∈ getC cells c) :
    c < cells.length ∧ cells[c]? = some (getC cells c) := by
  unfold getC at h ⊢
  rw [List.getD_eq_getElem?_getD] at h ⊢
  cases hc : cells[c]? with
  | none => rw [hc] at h; simp at h
  | some v =>
    refine ⟨?_, by simp⟩
    by_contra hlt
    rw [List.getElem?_eq_none (by omega)] at hc
    cases hc

theorem removeId_eq_some {cells : List (List Nat)} {lookup : List Nat} {id : Nat} {cells1 : List (List Nat)} :
    removeId cells lookup id = some cells1 ↔
      ∃ c ids, lookup[id]? = some c ∧ cells[c]? = some ids ∧ id ∈ ids ∧ cells.set c (ids.erase id) = cells1 := by
  unfold removeId
  cases lookup[id]? with
  | none => simp
  | some c =>
    cases h2 : cells[c]? with
    | none => simp [h2]
    | some ids => by_cases hm : id ∈ ids <;> simp [h2, hm]

structure CellsOK (cells : List (List Nat)) (lookup : List Nat) (S : Nat → Prop) : Prop where
  mem_iff : ∀ c id, id ∈ getC cells c ↔ (S id ∧ lookup[id]? = some c)
  nodup : ∀ c, (getC cells c).Nodup

theorem CellsOK.congr {cells lookup} {S S' : Nat → Prop} (h : CellsOK cells lookup S)
    (hS : ∀ id, S id ↔ S' id) : CellsOK cells lookup S' :=
  ⟨fun c id => by rw [h.mem_iff, hS], h.nodup⟩

/-- `self.grid[self.lookup[x]].remove(x)` on a consistent table -/
theorem cellsOK_removeId {cells lookup} {S : Nat → Prop} (h : CellsOK cells lookup S) {x c : Nat}
    (hx : S x) (hl : lookup[x]? = some c) :
    ∃ cells', removeId cells lookup x = some cells' ∧ cells'.length = cells.length ∧
      CellsOK cells' lookup (fun id => S id ∧ id ≠ x) := by
  have hmem : x ∈ getC cells c := (h.mem_iff c x).mpr ⟨hx, hl⟩
  obtain ⟨hc, hget⟩ := getElem?_of_mem_getC hmem
  refine ⟨cells.set c ((getC cells c).erase x), ?_, by simp, ?_, ?_⟩
  · exact removeId_eq_some.mpr ⟨c, _, hl, hget, hmem, rfl⟩
  · intro c' id
    rw [getC_set _ _ hc]
    by_cases hcc : c = c'
    · subst hcc
      simp only [if_true]
      rw [(h.nodup c).mem_erase_iff, h.mem_iff]
      constructor
      · rintro ⟨hne, hs, hlk⟩; exact ⟨⟨hs, hne⟩, hlk⟩
      · rintro ⟨⟨hs, hne⟩, hlk⟩; exact ⟨hne, hs, hlk⟩
    · simp only [hcc, if_false]
      rw [h.mem_iff]
      constructor
      · rintro ⟨hs, hlk⟩
        refine ⟨⟨hs, ?_⟩, hlk⟩
        rintro rfl
        rw [hl] at hlk
        exact hcc (Option.some.inj hlk)
      · rintro ⟨⟨hs, _⟩, hlk⟩; exact ⟨hs, hlk⟩
  · intro c'
    rw [getC_set _ _ hc]
    split
    · exact (h.nodup c).erase x
    · exact h.nodup c'

/-- `self.grid[cx].append(x); self.lookup[x] = cx` on a consistent table -/
theorem cellsOK_add {cells lookup} {S : Nat → Prop} (h : CellsOK cells lookup S) {x cx : Nat}
    (hx : ¬ S x) (hxl : x < lookup.length) (hc : cx < cells.length) :
    CellsOK (cells.modify cx (· ++ [x])) (lookup.set x cx) (fun id => S id ∨ id = x) := by
  constructor
  · intro c id
    rw [getC_modify _ _ hc, List.getElem?_set]
    by_cases hid : x = id
    · subst hid
      simp only [hxl, if_true]
      by_cases hcc : cx = c
      · subst hcc; simp
      · simp only [hcc, if_false, h.mem_iff]
        constructor
        · rintro ⟨hs, _⟩; exact absurd hs hx
        · rintro ⟨_, hlk⟩; exact absurd (Option.some.inj hlk) hcc
    · simp only [hid, if_false]
      have hid' : id ≠ x := fun e => hid e.symm
      by_cases hcc : cx = c
      · subst hcc
        simp only [if_true, List.mem_append, List.mem_singleton, h.mem_iff, hid', or_false]
      · simp only [hcc, if_false, h.mem_iff, hid', or_false]
  · intro c
    rw [getC_modify _ _ hc]
    split
    · rename_i hcc
      subst hcc
      apply List.nodup_append.mpr
      refine ⟨h.nodup cx, by simp, ?_⟩
      intro a ha b hb
      simp at hb
      subst hb
      rintro rfl
      exact hx ((h.mem_iff cx a).mp ha).1
    · exact h.nodup c

theorem Inv.cellsOK {g : Grid} {live : List Nat} (h : Inv g live) :
    CellsOK g.cells g.lookup (fun id => ValidId g id ∧ pathOf g.n id ∈ live) :=
  ⟨fun c id => by rw [← cellAt_eq, h.mem_iff, and_assoc], fun c => h.nodup c⟩

theorem Inv.of_cells {g : Grid} {live live' : List Nat} (h : Inv g live) {cells' : List (List Nat)}
    (hlen : cells'.length = g.cells.length) (hsub : ∀ k ∈ live', k ∈ live)
    (hok : CellsOK cells' g.lookup (fun id => ValidId g id ∧ pathOf g.n id ∈ live')) :
    Inv { g with cells := cells' } live' where
  bins_pos := h.bins_pos
  bx_pos := h.bx_pos
  by_pos := h.by_pos
  nverts := h.nverts
  ncells := hlen.trans h.ncells
  live_lt := fun k hk => h.live_lt k (hsub k hk)
  mem_iff := fun c id => (hok.mem_iff c id).trans and_assoc
  nodup := fun c => hok.nodup c
  lookup_eq := h.lookup_eq

theorem Inv.congr {g : Grid} {live live' : List Nat} (h : Inv g live) (hl : ∀ k, k ∈ live ↔ k ∈ live') :
    Inv g live' :=
  h.of_cells rfl (fun k hk => (hl k).mpr hk) (h.cellsOK.congr fun id => by rw [hl])

theorem inv_remove {g : Grid} {live : List Nat} (h : Inv g live) {p : Nat} (hp : p ∈ live) :
    ∃ g', remove g p = some g' ∧ Inv g' (live.filter (· ≠ p)) ∧
      g'.toGeo = g.toGeo ∧ g'.rev = g.rev ∧ g'.n = g.n ∧ g'.verts = g.verts := by
  have hpn : p < g.n := h.live_lt p hp
  have hv1 : ValidId g p := Or.inl hpn
  have hp1 : pathOf g.n p = p := by simp [pathOf, hpn]
  obtain ⟨cells1, hr1, hlen1, hok1⟩ :=
    cellsOK_removeId h.cellsOK (x := p) ⟨hv1, by rw [hp1]; exact hp⟩ (h.lookup_eq p hv1)
  -- the set of identifiers that must remain
  have hfinal : ∀ id, (ValidId g id ∧ pathOf g.n id ∈ live.filter (· ≠ p)) ↔
      ((ValidId g id ∧ pathOf g.n id ∈ live) ∧ id ≠ p) ∧ (g.rev = true → id ≠ p + g.n) := by
    intro id
    simp only [List.mem_filter, decide_eq_true_eq, ne_eq]
    unfold pathOf ValidId
    constructor
    · rintro ⟨hv, hl, hne⟩
      refine ⟨⟨⟨hv, hl⟩, ?_⟩, ?_⟩
      · rintro rfl; simp [hpn] at hne
      · rintro _ rfl
        have : ¬ (p + g.n < g.n) := by omega
        simp [this] at hne
    · rintro ⟨⟨⟨hv, hl⟩, hne1⟩, hne2⟩
      refine ⟨hv, hl, ?_⟩
      by_cases hlt : id < g.n
      · simpa [hlt] using hne1
      · simp only [hlt, if_false]
        rcases hv with hv | ⟨hrev, h1, _⟩
        · exact absurd hv hlt
        · have := hne2 hrev
          omega
  cases hrev : g.rev with
  | false =>
    refine ⟨{ g with cells := cells1 }, ?_, ?_, rfl, hrev, rfl, rfl⟩
    · simp [remove, hpn, hr1, hrev]
    · exact h.of_cells hlen1 (fun k hk => (List.mem_filter.mp hk).1)
        (hok1.congr fun id => by rw [hfinal id]; simp [hrev])
  | true =>
    have hv2 : ValidId g (p + g.n) := Or.inr ⟨hrev, by omega, by omega⟩
    have hp2 : pathOf g.n (p + g.n) = p := by
      have : ¬ (p + g.n < g.n) := by omega
      simp [pathOf, this]
    obtain ⟨cells2, hr2, hlen2, hok2⟩ :=
      cellsOK_removeId hok1 (x := p + g.n) ⟨⟨hv2, by rw [hp2]; exact hp⟩, by omega⟩ (h.lookup_eq _ hv2)
    refine ⟨{ g with cells := cells2 }, ?_, ?_, rfl, hrev, rfl, rfl⟩
    · simp [remove, hpn, hr1, hrev, hr2]
    · exact h.of_cells (hlen2.trans hlen1) (fun k hk => (List.mem_filter.mp hk).1)
        (hok2.congr fun id => by rw [hfinal id]; simp [hrev])

theorem inv_removeAll (ps : List Nat) : ∀ {g : Grid} {live : List Nat}, Inv g live → ps.Nodup →
    (∀ p ∈ ps, p ∈ live) →
    ∃ g', removeAll g ps = some g' ∧ Inv g' (live.filter (fun k => k ∉ ps)) ∧
      g'.toGeo = g.toGeo ∧ g'.rev = g.rev ∧ g'.n = g.n ∧ g'.verts = g.verts := by
  induction ps with
  | nil =>
    intro g live h _ _
    exact ⟨g, rfl, h.congr (fun k => by simp), rfl, rfl, rfl, rfl⟩
  | cons p ps ih =>
    intro g live h hnd hsub
    obtain ⟨hpn, hnd'⟩ := List.nodup_cons.mp hnd
    obtain ⟨g1, hr, hinv1, e1, e2, e3, e4⟩ := inv_remove h (hsub p (by simp))
    have hsub' : ∀ p' ∈ ps, p' ∈ live.filter (· ≠ p) := by
      intro p' hp'
      rw [List.mem_filter]
      refine ⟨hsub p' (by simp [hp']), ?_⟩
      simp only [ne_eq, decide_eq_true_eq]
      rintro rfl
      exact hpn hp'
    obtain ⟨g', hr', hinv', f1, f2, f3, f4⟩ := ih hinv1 hnd' hsub'
    refine ⟨g', by simp [removeAll, hr, hr'], hinv'.congr ?_, f1.trans e1, f2.trans e2, f3.trans e3, f4.trans e4⟩
    intro k
    simp only [List.mem_filter, List.mem_cons, decide_eq_true_eq, ne_eq, not_or]
    constructor
    · rintro ⟨⟨a, b⟩, c⟩; exact ⟨a, b, c⟩
    · rintro ⟨a, b, c⟩; exact ⟨⟨a, b⟩, c⟩

end C13
end Plotink
