import Plotink.Proofs.PyLemmas

/-! # The `Py` operators on integers and on encoded sequences

What every bridge "regenerated code on encoded data = hand model" needs of the runtime.  Indices and lengths are `Nat`s
cast to `Int`, so the comparisons of two `int`s (`lt_int_int` …) are turned into facts about `Nat` by `Nat.cast_lt` and the
like.  A Python list whose items encode the items of a Lean list is `.tup (l.map f)` for *some* `f : α → Val` (`encNat`,
`encNode`, `encPath`, `encIBox`, … — no class, the encoding is a variable), and the runtime's operations on it are those of
`List` on `l`.

A loop of the source function `f` is regenerated as `f_body1`, `f_body2`, … (one pass; the rest of the loop is its
continuation argument `k_`) and `f_loop1`, … (recursion on fuel for a `while`, on the item list for a `for`), and carries
every variable the body assigns.  One that is unbound before the loop enters as `err`; where the source raises no
`UnboundLocalError` it is assigned before it is read, so the lemmas of a bridge hold for every value of it (`j0 j1 …`).  A
bridge has one lemma for the pass and an induction for the loop. -/

namespace Plotink
namespace Py
open Val

theorem lt_int_int (a b : Int) : lt (.int a) (.int b) = decide (a < b) := decide_eq_decide.2 Rat.intCast_lt_intCast
theorem le_int_int (a b : Int) : le (.int a) (.int b) = decide (a ≤ b) := decide_eq_decide.2 Rat.intCast_le_intCast
theorem gt_int_int (a b : Int) : gt (.int a) (.int b) = decide (b < a) := decide_eq_decide.2 Rat.intCast_lt_intCast
theorem ge_int_int (a b : Int) : ge (.int a) (.int b) = decide (b ≤ a) := decide_eq_decide.2 Rat.intCast_le_intCast
theorem eq_int_int (a b : Int) : eq (.int a) (.int b) = decide (a = b) := decide_eq_decide.2 Rat.intCast_inj
theorem ne_int_int (a b : Int) : ne (.int a) (.int b) = decide (a ≠ b) := by
  rw [ne, eq_int_int, decide_not]
theorem truthy_int (a : Int) : truthy (.int a) = !decide (a = 0) := by
  by_cases h : a = 0 <;> simp [truthy, h]

theorem add_nat (R p) (a b : Nat) : add R p (.int a) (.int b) = .int ((a + b : Nat) : Int) := rfl
theorem mul_nat (R p) (a b : Nat) : mul R p (.int a) (.int b) = .int ((a * b : Nat) : Int) := rfl
theorem sub_nat (R p) {a b : Nat} (h : b ≤ a) : sub R p (.int a) (.int b) = .int ((a - b : Nat) : Int) :=
  congrArg Val.int (Int.ofNat_sub h).symm

section seq
variable {α : Type} (f : α → Val) {l : List α} {u : List Val} {i j k : Nat}

theorem len_tup (u : List Val) : len_ (.tup u) = .int (u.length : Int) := rfl
theorem len_map (l : List α) : len_ (.tup (l.map f)) = .int (l.length : Int) := by rw [len_tup, List.length_map]
theorem iter_map (l : List α) : iter (.tup (l.map f)) = some (l.map f) := rfl

theorem indexPos_nat {n k : Nat} (h : k < n) : indexPos n (.int (k : Int)) = some k := by
  have hneg : ¬ ((k : Int) < 0) := by omega
  simp only [indexPos, kind, toInt, hneg, if_false]
  rw [if_pos ⟨by omega, by exact_mod_cast h⟩, Int.toNat_natCast]

theorem index_tup {v : Val} (h : u[k]? = some v) : index (.tup u) (.int (k : Int)) = v := by
  have hk : k < u.length := (List.getElem?_eq_some_iff.mp h).1
  have hneg : ¬ ((k : Int) < 0) := by omega
  simp only [index, kind, toInt, hneg, if_false]
  rw [if_pos ⟨by omega, by exact_mod_cast hk⟩, Int.toNat_natCast, List.getD_eq_getElem?_getD, h]; rfl

/-- `x[k]` -/
theorem index_map {a : α} (h : l[k]? = some a) : index (.tup (l.map f)) (.int (k : Int)) = f a :=
  index_tup (by rw [List.getElem?_map, h]; rfl)

/-- `x[-1]` -/
theorem index_last_cons (a b : Val) (l : List Val) : index (.tup (a :: (l ++ [b]))) (.int (-1)) = b := index_neg_one (a :: l) b

theorem setItem_tup (v : Val) (h : k < u.length) : setItem (.tup u) (.int (k : Int)) v = .tup (u.set k v) := by
  rw [setItem, indexPos_nat h, List.set_eq_take_append_cons_drop, if_pos h]

/-- `x[k] = v` -/
theorem setItem_map (a : α) (h : k < l.length) :
    setItem (.tup (l.map f)) (.int (k : Int)) (f a) = .tup ((l.set k a).map f) := by
  rw [setItem_tup _ (by simpa using h), List.map_set]

/-- `x[k] = g(x[k])` where `g` acts on the encoded item as `h` on the item: `self.tbl[k].append(v)` and the like -/
theorem modifyItem_map {a : α} (hk : l[k]? = some a) (g : Val → Val) (a' : α) (hg : g (f a) = f a') :
    setItem (.tup (l.map f)) (.int (k : Int)) (g (index (.tup (l.map f)) (.int (k : Int)))) = .tup ((l.set k a').map f) := by
  rw [index_map f hk, hg, setItem_map f _ (List.getElem?_eq_some_iff.mp hk).1]

theorem sliceBound_nat (n k d : Nat) : sliceBound n (.int (k : Int)) d = some (min k n) := by
  simp only [sliceBound]; rw [if_neg (by omega), Int.toNat_natCast]

/-- `x[i:j]` -/
theorem slice_tup (l : List Val) (i j : Nat) : slice (.tup l) (.int (i : Int)) (.int (j : Int)) = .tup ((l.take j).drop i) := by
  simp only [slice, sliceBound_nat]
  rw [← List.take_eq_take_min]
  rcases Nat.le_total i l.length with hi | hi
  · rw [Nat.min_eq_left hi]
  · rw [Nat.min_eq_right hi, List.drop_eq_nil_of_le (List.length_take_le' ..),
      List.drop_eq_nil_of_le (Nat.le_trans (List.length_take_le' ..) hi)]

theorem slice_map (l : List α) (i j : Nat) :
    slice (.tup (l.map f)) (.int (i : Int)) (.int (j : Int)) = .tup (((l.take j).drop i).map f) := by
  rw [slice_tup, List.map_drop, List.map_take]

/-- `x[:-1]` -/
theorem slice_init (l : List Val) (x : Val) : slice (.tup (l ++ [x])) .none_ (.int (-1)) = .tup l := by
  have e : ((-1 : Int) + ((l ++ [x]).length : Int)).toNat = l.length := by
    simp only [List.length_append, List.length_cons, List.length_nil]; omega
  simp only [slice, sliceBound, show ((-1 : Int) < 0) from by decide, if_true, e]
  simp

/-- `x[1:-1]` -/
theorem slice_interior (a b : Val) (l : List Val) : slice (.tup (a :: (l ++ [b]))) (.int 1) (.int (-1)) = .tup l := by
  have e : ((-1 : Int) + ((a :: (l ++ [b])).length : Int)).toNat = l.length + 1 := by
    simp only [List.length_cons, List.length_append, List.length_nil]; omega
  simp only [slice, sliceBound, show ((-1 : Int) < 0) from by decide, show ¬ ((1 : Int) < 0) from by decide, if_true,
    if_false, e]
  simp

/-- `x[i:j] = w` for `i ≤ j ≤ len(x)`: deletion for `w = []`; for `j < i` Python inserts at `i` (`setSlice_insert`) -/
theorem setSlice_tup (u w : List Val) (hij : i ≤ j) (hj : j ≤ u.length) :
    setSlice (.tup u) (.int (i : Int)) (.int (j : Int)) (.tup w) = .tup (u.take i ++ w ++ u.drop j) := by
  simp only [setSlice, sliceBound_nat]
  rw [Nat.min_eq_left (Nat.le_trans hij hj), Nat.min_eq_left hj, Nat.max_eq_right hij]

theorem setSlice_insert (u w : List Val) (hji : j ≤ i) (hi : i ≤ u.length) :
    setSlice (.tup u) (.int (i : Int)) (.int (j : Int)) (.tup w) = .tup (u.take i ++ w ++ u.drop i) := by
  simp only [setSlice, sliceBound_nat]
  rw [Nat.min_eq_left hi, Nat.min_eq_left (Nat.le_trans hji hi), Nat.max_eq_left hji]

theorem list_append_map (l : List α) (a : α) : list_append (.tup (l.map f)) (f a) = .tup ((l ++ [a]).map f) := by
  rw [list_append, List.map_append]; rfl

end seq

section comp
variable {α β : Type} (f : α → Val) (f' : β → Val)

/-- `[e(x) for x in l if c(x)]`, when on encoded items the element function acts as `h` does on the items -/
theorem comp_map (l : List α) (g : Val → Option Val) (h : α → Option β) (hg : ∀ a, g (f a) = (h a).map f') :
    comp (.tup (l.map f)) g = .tup ((l.filterMap h).map f') := by
  show Val.tup _ = _
  rw [List.filterMap_map, List.map_filterMap, show g ∘ f = fun a => (h a).map f' from funext hg]

theorem comp_filter (l : List α) (g : Val → Option Val) (p : α → Bool)
    (hg : ∀ a, g (f a) = if p a then some (f a) else none) : comp (.tup (l.map f)) g = .tup ((l.filter p).map f) := by
  rw [comp_map f f l g (Option.guard (p ·)) fun a => by rw [hg, Option.guard]; split <;> rfl,
    List.filterMap_eq_filter]

theorem comp_some (l : List α) (g : Val → Option Val) (h : α → β) (hg : ∀ a, g (f a) = some (f' (h a))) :
    comp (.tup (l.map f)) g = .tup ((l.map h).map f') := by
  rw [comp_map f f' l g (some ∘ h) hg, List.filterMap_eq_map]

/-- `range(N)`, for an encoding `f` of the naturals as `int`s (`C13.encNat`, `C14.encId`) -/
theorem range_nat (f : Nat → Val) (hf : ∀ k : Nat, f k = .int (k : Int)) (N : Nat) :
    range_ [.int (N : Int)] = .tup ((List.range N).map f) := by
  simp only [range_]
  rw [if_neg (by decide), if_pos (by decide), show (((N : Int) - 0 + 1 - 1) / 1).toNat = N by simp]
  congr 1
  exact List.map_congr_left fun k _ => by rw [hf, Int.mul_one, Int.zero_add]

end comp

section deceq
variable {α : Type} [DecidableEq α] (f : α → Val) (hf : ∀ a b, eq (f a) (f b) = decide (a = b))
include hf

theorem any_eq_map (l : List α) (i : α) : (l.map f).any (fun v => eq (f i) v) = l.any (fun v => decide (i = v)) := by
  induction l with
  | nil => rfl
  | cons x xs ih => simp only [List.map_cons, List.any_cons, ih, hf]

/-- `i in x` -/
theorem contains_map (l : List α) (i : α) : contains (f i) (.tup (l.map f)) = l.contains i := by
  rw [contains, any_eq_map f hf, List.contains_eq_any_beq]
  rfl

/-- `x.remove(i)` -/
theorem list_remove_map {l : List α} {i : α} (h : i ∈ l) : list_remove (.tup (l.map f)) (f i) = .tup ((l.erase i).map f) := by
  have key : list_remove.go (f i) (l.map f) = some ((l.erase i).map f) := by
    induction l with
    | nil => cases h
    | cons x xs ih =>
      rw [List.map_cons, list_remove.go, hf, List.erase_cons]
      by_cases hx : x = i
      · simp [hx]
      · have hx' : ¬ (x == i) = true := by simpa using hx
        rw [if_neg (by simpa using hx), if_neg hx', ih ((List.mem_cons.mp h).resolve_left (Ne.symm hx))]; rfl
  simp only [list_remove, key]

end deceq

theorem eq_nat (a b : Nat) : eq (.int (a : Int)) (.int (b : Int)) = decide (a = b) :=
  (eq_int_int a b).trans (decide_eq_decide.2 Int.ofNat_inj)

/-- two `for` loops with the same text (the translator regenerates the body of a loop for every copy in the source):
`B` is the common body, partially applied; `h`, `h'` are `fun _ _ => rfl` -/
theorem loop_ext {γ : Type} {L L' : List Val → γ} (B : γ → Val → γ) (h0 : L [] = L' [])
    (h : ∀ it its, L (it :: its) = B (L its) it) (h' : ∀ it its, L' (it :: its) = B (L' its) it) : L = L' := by
  funext its
  induction its with
  | nil => exact h0
  | cons it its ih => rw [h, h', ih]

end Py
end Plotink
