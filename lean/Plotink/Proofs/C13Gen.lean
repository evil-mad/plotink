import Plotink.Gen.grid_Index
import Plotink.Proofs.PySeq
import Plotink.Proofs.PyEnc
import Plotink.Proofs.PyExtLemmas
import Plotink.Proofs.C13Near
import Plotink.Proofs.C13Inv
import Plotink.Proofs.C13Scan

/-! # C13 — bridge: the source-regenerated `spatial_grid.Index.nearest` / `remove_path` = the hand model

`Gen.grid_Index_nearest` (four nested loops: 1 over the neighbourhood cells with 2 over the identifiers of a cell, 3 over
all cells with 4) and `Gen.grid_Index_remove_path` are regenerated from `plotink/spatial_grid.py`, `Gen.square_dist` from
`plot_utils.py`.  Exact arithmetic; an instance is the 12-tuple `encGrid g`; `(best_dist, best_index)` is `encBest`
(`(inf, None)` before the first candidate).

One pass of an innermost loop is the model's `better`, so an inner loop is `scan` and the two outer loops (the second with
the `if cell in neighborhood_cells: continue` test) are `scan` over `nbIds` / `restIds`; the `if best_index:` test between
them is false for `None` and for identifier 0.  The bridge holds under the state invariant `Inv`, which makes every list
access of the code succeed. -/

namespace Plotink
namespace C13
open Py Py.Val

def encPt (p : Pt) : Val := .tup [.flt p.1, .flt p.2]
def encPath (p : Path) : Val := .tup [encPt p.1, encPt p.2]
def encNat (n : Nat) : Val := .int (n : Int)
def encNats (l : List Nat) : Val := .tup (l.map encNat)
def encCells (c : List (List Nat)) : Val := .tup (c.map encNats)
def encPaths (l : List Path) : Val := .tup (l.map encPath)
/-- an `Index` instance: `("Index", grid, adjacents, lookup, path_count, vertices, reverse, bin_size_x, bin_size_y,
xmin, ymin, bins_per_side)` -/
def encGrid (g : Grid) : Val :=
  .tup [.str "Index", encCells g.cells, encCells (adjacents g.bins), encNats g.lookup, .int (g.n : Int), encPaths g.verts,
    .bool_ g.rev, .flt g.bx, .flt g.by_, .flt g.xmin, .flt g.ymin, .int (g.bins : Int)]
def encBest : Option (Rat × Nat) → Val × Val
  | none => (Py.posInf, .none_)
  | some (d, i) => (.flt d, .int (i : Int))
def encOptNat : Option Nat → Val
  | none => .none_
  | some i => .int (i : Int)

theorem sq_bridge (amb : Nat) (a b : Pt) : Gen.square_dist Rounding.exact amb (encPt a) (encPt b) = .flt (sqDist a b) := rfl

/-- the identifier names an entry of the vertex table -/
def IdOK (g : Grid) (id : Nat) : Prop := if id ≥ g.n then id - g.n < g.verts.length else id < g.verts.length

theorem ltE_best (d : Rat) (st : Option (Rat × Nat)) :
    Py.ltE (.flt d) (encBest st).1 = (match st with | none => true | some (bd, _) => decide (d < bd)) := by
  cases st with
  | none => exact ltE_flt_posInf d
  | some p => rfl

abbrev KS := Val → Val → Val → Val → Val → Loop (Val × Val × Val × Val × Val)

/-- `self.vertices[id - self.path_count][1]` / `self.vertices[id][0]` is the model's `endPt` -/
theorem vertex_bridge (amb : Nat) (g : Grid) (id : Nat) (hid : IdOK g id) :
    (if Py.geE (encNat id) (.int (g.n : Int)) = true then
        Py.getItem (Py.index (encPaths g.verts) (Py.sub Rounding.exact amb (encNat id) (.int (g.n : Int)))) 1
      else Py.getItem (Py.index (encPaths g.verts) (encNat id)) 0) = encPt (endPt g id) := by
  unfold IdOK at hid
  simp only [encNat, geE_int, Int.ofNat_le, ge_iff_le]
  by_cases hge : id ≥ g.n
  · rw [if_pos hge] at hid
    have hv : g.verts[id - g.n]? = some (g.verts[id - g.n]'hid) := List.getElem?_eq_getElem hid
    have he : endPt g id = (g.verts[id - g.n]'hid).2 := by
      simp only [endPt, endPtV, hge, if_true, List.getD, hv, Option.getD_some]
    simp only [hge, decide_true, if_true, Py.sub_nat _ amb hge, encPaths, Py.index_map encPath hv, he]
    rfl
  · have hlt : id < g.verts.length := by rw [if_neg hge] at hid; exact hid
    have hv : g.verts[id]? = some (g.verts[id]'hlt) := List.getElem?_eq_getElem hlt
    have he : endPt g id = (g.verts[id]'hlt).1 := by
      simp only [endPt, endPtV, hge, if_false, List.getD, hv, Option.getD_some]
    simp only [hge, decide_false, Bool.false_eq_true, if_false, encPaths, Py.index_map encPath hv, he]
    rfl

theorem body2 (amb : Nat) (g : Grid) (q : Pt) (k : KS) (id : Nat) (hid : IdOK g id) (j0 j1 j2 : Val) (st : Option (Rat × Nat)) :
    Gen.grid_Index_nearest_body2 Rounding.exact amb (encGrid g) (encPt q) k (encNat id) j0 j1 j2 (encBest st).1 (encBest st).2 =
    k (encNat id) (encPt (endPt g id)) (.flt (sqDist q (endPt g id))) (encBest (better g q st id)).1 (encBest (better g q st id)).2 := by
  unfold Gen.grid_Index_nearest_body2
  have f4 : Py.getItem (encGrid g) 4 = .int (g.n : Int) := rfl
  have f5 : Py.getItem (encGrid g) 5 = encPaths g.verts := rfl
  simp only [f4, f5, vertex_bridge amb g id hid, sq_bridge, ltE_best]
  cases st with
  | none => rfl
  | some p =>
    obtain ⟨bd, bi⟩ := p
    simp only [better]
    by_cases hd : sqDist q (endPt g id) < bd <;> simp [hd, encBest, encNat]

theorem loop2 (amb : Nat) (g : Grid) (q : Pt) : ∀ (ids : List Nat), (∀ id ∈ ids, IdOK g id) → ∀ (j0 j1 j2 : Val) (st : Option (Rat × Nat)),
    ∃ k0 k1 k2, Gen.grid_Index_nearest_loop2 Rounding.exact amb (encGrid g) (encPt q) (ids.map encNat) j0 j1 j2 (encBest st).1 (encBest st).2
      = .done (k0, k1, k2, (encBest (scan g q st ids)).1, (encBest (scan g q st ids)).2) := by
  intro ids
  induction ids with
  | nil => intro _ j0 j1 j2 st; exact ⟨_, _, _, rfl⟩
  | cons id ids ih =>
    intro h j0 j1 j2 st
    rw [List.map_cons, Gen.grid_Index_nearest_loop2, body2 amb g q _ id (h id (by simp))]
    exact ih (fun x hx => h x (by simp [hx])) _ _ _ _

/-- the fallback loops run the same text -/
theorem loop4_eq (R : Rounding) (p : Nat) (self v : Val) :
    Gen.grid_Index_nearest_loop4 R p self v = Gen.grid_Index_nearest_loop2 R p self v :=
  Py.loop_ext (Gen.grid_Index_nearest_body2 R p self v) rfl (fun _ _ => rfl) fun _ _ => rfl

def CellsValid (g : Grid) (cs : List Nat) : Prop := ∀ c ∈ cs, c < g.cells.length ∧ ∀ id ∈ cellAt g c, IdOK g id

theorem cell_index (g : Grid) (c : Nat) (hc : c < g.cells.length) :
    Py.index (Py.getItem (encGrid g) 1) (encNat c) = encNats (cellAt g c) := by
  have f1 : Py.getItem (encGrid g) 1 = encCells g.cells := rfl
  have hv : g.cells[c]? = some (g.cells[c]'hc) := List.getElem?_eq_getElem hc
  rw [f1, encCells, encNat, Py.index_map encNats hv]
  simp only [cellAt, List.getD, hv, Option.getD_some]

abbrev KC := Val → Val → Val → Val → Val → Val → Loop (Val × Val × Val × Val × Val × Val)

theorem loop1 (amb : Nat) (g : Grid) (q : Pt) : ∀ (cs : List Nat), CellsValid g cs → ∀ (j0 j1 j2 j3 : Val) (st : Option (Rat × Nat)),
    ∃ k0 k1 k2 k3, Gen.grid_Index_nearest_loop1 Rounding.exact amb (encGrid g) (encPt q) (cs.map encNat) j0 j1 j2 j3 (encBest st).1 (encBest st).2
      = .done (k0, k1, k2, k3, (encBest (scan g q st (cs.flatMap (cellAt g)))).1, (encBest (scan g q st (cs.flatMap (cellAt g)))).2) := by
  intro cs
  induction cs with
  | nil => intro _ j0 j1 j2 j3 st; exact ⟨_, _, _, _, rfl⟩
  | cons c cs ih =>
    intro h j0 j1 j2 j3 st
    obtain ⟨hc, hids⟩ := h c (by simp)
    rw [List.map_cons, Gen.grid_Index_nearest_loop1]
    unfold Gen.grid_Index_nearest_body1
    simp only [cell_index g c hc, encNats, Py.iter]
    obtain ⟨k0, k1, k2, hl⟩ := loop2 amb g q (cellAt g c) hids j1 j2 j3 st
    rw [hl]
    simp only [List.flatMap_cons, scan_append]
    exact ih (fun x hx => h x (by simp [hx])) _ _ _ _ _

theorem loop3 (amb : Nat) (g : Grid) (q : Pt) (nb : List Nat) : ∀ (cs : List Nat), CellsValid g cs → ∀ (j0 j1 j2 j3 : Val) (st : Option (Rat × Nat)),
    ∃ k0 k1 k2 k3, Gen.grid_Index_nearest_loop3 Rounding.exact amb (encGrid g) (encPt q) (encNats nb) (cs.map encNat) j0 j1 j2 j3 (encBest st).1 (encBest st).2
      = .done (k0, k1, k2, k3, (encBest (scan g q st ((cs.filter (fun c => !(nb.contains c))).flatMap (cellAt g)))).1,
          (encBest (scan g q st ((cs.filter (fun c => !(nb.contains c))).flatMap (cellAt g)))).2) := by
  intro cs
  induction cs with
  | nil => intro _ j0 j1 j2 j3 st; exact ⟨_, _, _, _, rfl⟩
  | cons c cs ih =>
    intro h j0 j1 j2 j3 st
    obtain ⟨hc, hids⟩ := h c (by simp)
    rw [List.map_cons, Gen.grid_Index_nearest_loop3]
    unfold Gen.grid_Index_nearest_body3
    simp only [encNats, Py.contains_map encNat Py.eq_nat]
    by_cases hin : nb.contains c = true
    · simp only [hin, if_true, List.filter_cons, Bool.not_true, Bool.false_eq_true, if_false]
      exact ih (fun x hx => h x (by simp [hx])) _ _ _ _ _
    · simp only [hin, Bool.false_eq_true, if_false, cell_index g c hc, encNats, Py.iter, List.filter_cons, Bool.not_false, if_true]
      obtain ⟨k0, k1, k2, hl⟩ := loop2 amb g q (cellAt g c) hids j1 j2 j3 st
      rw [loop4_eq, hl]
      simp only [List.flatMap_cons, scan_append]
      exact ih (fun x hx => h x (by simp [hx])) _ _ _ _ _

/-- `min(math.floor((v - lo) / size), max_bin)` -/
theorem binHi_bridge (amb : Nat) (bins : Nat) (lo size x : Rat) (hs : size ≠ 0) :
    Py.minE [Py.math_floor (Py.truediv Rounding.exact amb (Py.sub Rounding.exact amb (.flt x) (.flt lo)) (.flt size)),
      .int ((bins : Int) - 1)] = .int (binHi bins lo size x) := by
  rw [show Py.sub Rounding.exact amb (.flt x) (.flt lo) = .flt (x - lo) from rfl, Py.truediv_flt_flt amb _ _ hs]
  exact minE_int _ _

/-- `max(min(math.floor((v - lo) / size), max_bin), 0)` -/
theorem bin_bridge (amb : Nat) (bins : Nat) (lo size x : Rat) (hs : size ≠ 0) :
    Py.maxE [Py.minE [Py.math_floor (Py.truediv Rounding.exact amb (Py.sub Rounding.exact amb (.flt x) (.flt lo)) (.flt size)),
      Py.sub Rounding.exact amb (.int (bins : Int)) (.int 1)], .int 0] = .int (binClamp bins lo size x) := by
  rw [show Py.sub Rounding.exact amb (.int (bins : Int)) (.int 1) = .int ((bins : Int) - 1) from rfl,
    binHi_bridge amb bins lo size x hs]
  exact maxE_int _ _

theorem truthy_best (st : Option (Rat × Nat)) :
    Py.truthy (encBest st).2 = (match st with | some (_, _ + 1) => true | _ => false) := by
  rcases st with _ | ⟨d, i⟩
  · rfl
  · cases i with
    | zero => rfl
    | succ i => simp [encBest, Py.truthy]; omega

theorem encBest_snd (st : Option (Rat × Nat)) : (encBest st).2 = encOptNat (st.map (·.2)) := by
  rcases st with _ | ⟨d, i⟩ <;> rfl

/-- under the invariant every list access of `nearest` on cells below `bins²` succeeds -/
theorem Inv.cellsValid {g : Grid} {live : List Nat} (h : Inv g live) {cs : List Nat} (hcs : ∀ c ∈ cs, c < g.bins * g.bins) :
    CellsValid g cs := by
  refine fun c hc => ⟨h.ncells ▸ hcs c hc, fun id hm => ?_⟩
  obtain ⟨hv, -, -⟩ := (h.mem_iff c id).mp hm
  unfold IdOK
  rw [h.nverts]
  rcases hv with hv | ⟨-, h1, h2⟩
  · rw [if_neg (by omega)]; exact hv
  · rw [if_pos h1]; omega

theorem nearest_bridge (amb : Nat) (g : Grid) (live : List Nat) (h : Inv g live) (q : Pt) :
    Gen.grid_Index_nearest Rounding.exact amb (encGrid g) (encPt q) = encOptNat (nearest g q) := by
  have hb := h.bins_pos
  unfold Gen.grid_Index_nearest
  have f7 : Py.getItem (encGrid g) 7 = .flt g.bx := rfl
  have f8 : Py.getItem (encGrid g) 8 = .flt g.by_ := rfl
  have f9 : Py.getItem (encGrid g) 9 = .flt g.xmin := rfl
  have f10 : Py.getItem (encGrid g) 10 = .flt g.ymin := rfl
  have f11 : Py.getItem (encGrid g) 11 = .int (g.bins : Int) := rfl
  have f2 : Py.getItem (encGrid g) 2 = encCells (adjacents g.bins) := rfl
  have q0 : Py.getItem (encPt q) 0 = .flt q.1 := rfl
  have q1 : Py.getItem (encPt q) 1 = .flt q.2 := rfl
  simp only [f7, f8, f9, f10, f11, f2, q0, q1, bin_bridge amb g.bins _ _ _ (ne_of_gt h.bx_pos),
    bin_bridge amb g.bins _ _ _ (ne_of_gt h.by_pos)]
  have hlast : Py.add Rounding.exact amb (.int (binClamp g.bins g.xmin g.bx q.1))
      (Py.mul Rounding.exact amb (.int (g.bins : Int)) (.int (binClamp g.bins g.ymin g.by_ q.2)))
      = encNat (cellIdx g.toGeo q) := by
    show Val.int (binClamp g.bins g.xmin g.bx q.1 + (g.bins : Int) * binClamp g.bins g.ymin g.by_ q.2) = Val.int _
    congr 1
    unfold cellIdx
    have r1 := binClamp_range hb g.xmin g.bx q.1
    have r2 := binClamp_range hb g.ymin g.by_ q.2
    rw [Int.toNat_of_nonneg]
    have : 0 ≤ (g.bins : Int) * binClamp g.bins g.ymin g.by_ q.2 := mul_nonneg (by omega) r2.1
    omega
  rw [hlast, encCells, encNat, Py.index_map encNats (adjacents_cellIdx hb q)]
  have hcopy : Py.list_copy (encNats (nbCells g q)) = encNats (nbCells g q) := rfl
  have hlen : Py.len_ (Val.tup (List.map encNats (adjacents g.bins))) = .int ((g.bins * g.bins : Nat) : Int) := by
    simp [Py.len_, adjacents_length]
  rw [hcopy, hlen, Py.range_nat encNat fun _ => rfl]
  have hit : ∀ l : List Nat, Py.iter (encNats l) = some (l.map encNat) := fun l => rfl
  simp only [hit, Py.iter_map]
  obtain ⟨k0, k1, k2, k3, hl1⟩ := loop1 amb g q (nbCells g q) (h.cellsValid fun _ => nbCells_lt hb q) .err .err .err .err none
  have hstart : (encBest none) = (Py.posInf, Val.none_) := rfl
  rw [hstart] at hl1
  simp only at hl1
  rw [hl1]
  simp only [truthy_best]
  have hrange_ok : CellsValid g (List.range (g.bins * g.bins)) := h.cellsValid fun _ => List.mem_range.mp
  obtain ⟨m0, m1, m2, m3, hl3⟩ := loop3 amb g q (nbCells g q) (List.range (g.bins * g.bins)) hrange_ok k0 k1 k2 k3
    (scan g q none (nbIds g q))
  have hnbids : List.flatMap (cellAt g) (nbCells g q) = nbIds g q := rfl
  rw [hnbids] at *
  have hrest : ((List.range (g.bins * g.bins)).filter (fun c => !((nbCells g q).contains c))).flatMap (cellAt g) = restIds g q := by
    unfold restIds; rw [adjacents_length]
  rw [hrest] at hl3
  unfold nearest
  rcases hsc : scan g q none (nbIds g q) with _ | ⟨d, i⟩
  · rw [hsc] at hl3
    simp only
    rw [hl3]
    simp only [Bool.false_eq_true, if_false, encBest_snd]
  · cases i with
    | zero =>
      rw [hsc] at hl3
      simp only
      rw [hl3]
      simp only [Bool.false_eq_true, if_false, encBest_snd]
    | succ i =>
      simp only [if_true]
      rfl

/-- one `self.grid[self.lookup[id]].remove(id)` -/
theorem remove_store (g : Grid) (id : Nat) (cells1 : List (List Nat)) (h : removeId g.cells g.lookup id = some cells1) :
    Py.setField (encGrid g) 1 (Py.setItem (Py.getItem (encGrid g) 1) (Py.index (Py.getItem (encGrid g) 3) (encNat id))
      (Py.list_remove (Py.index (Py.getItem (encGrid g) 1) (Py.index (Py.getItem (encGrid g) 3) (encNat id))) (encNat id)))
      = encGrid { g with cells := cells1 } := by
  obtain ⟨c, ids, hl, hc, hm, rfl⟩ := removeId_eq_some.mp h
  have f1 : Py.getItem (encGrid g) 1 = encCells g.cells := rfl
  have f3 : Py.getItem (encGrid g) 3 = encNats g.lookup := rfl
  rw [f1, f3, encNats, encNat, Py.index_map encNat hl, encCells]
  exact congrArg _ (Py.modifyItem_map encNats hc (Py.list_remove · (encNat id)) _ (Py.list_remove_map encNat Py.eq_nat hm))

theorem remove_bridge (amb : Nat) (g g' : Grid) (p : Nat) (h : remove g p = some g') :
    Gen.grid_Index_remove_path Rounding.exact amb (encGrid g) (encNat p) = .tup [.none_, encGrid g'] := by
  unfold remove at h
  by_cases hp : p < g.n
  · rw [if_pos hp] at h
    cases h1 : removeId g.cells g.lookup p with
    | none => rw [h1] at h; cases h
    | some cells1 =>
      rw [h1] at h
      simp only at h
      unfold Gen.grid_Index_remove_path
      simp only [remove_store g p cells1 h1]
      have f6 : Py.getItem (encGrid { g with cells := cells1 }) 6 = .bool_ g.rev := rfl
      have f4 : Py.getItem (encGrid { g with cells := cells1 }) 4 = .int (g.n : Int) := rfl
      simp only [f6, f4, Py.truthy]
      by_cases hr : g.rev = true
      · rw [if_pos hr] at h
        cases h2 : removeId cells1 g.lookup (p + g.n) with
        | none => rw [h2] at h; cases h
        | some cells2 =>
          rw [h2] at h
          cases h
          rw [if_pos hr]
          have hadd : Py.add Rounding.exact amb (encNat p) (.int (g.n : Int)) = encNat (p + g.n) := rfl
          rw [hadd, remove_store { g with cells := cells1 } (p + g.n) cells2 h2]
      · rw [if_neg hr] at h
        cases h
        rw [if_neg hr]
  · rw [if_neg hp] at h; cases h

theorem nearest_of_gen {amb : Nat} {g : Grid} {live : List Nat} (h : Inv g live) {q : Pt} {r : Nat}
    (hr : Gen.grid_Index_nearest Rounding.exact amb (encGrid g) (encPt q) = .int (r : Int)) : nearest g q = some r := by
  rw [nearest_bridge amb g live h q] at hr
  cases hn : nearest g q with
  | none => rw [hn] at hr; cases hr
  | some i => rw [hn] at hr; exact congrArg some (Int.ofNat_inj.mp (Val.int.inj hr))

theorem gen_nearest_none_iff (amb : Nat) {g : Grid} {live : List Nat} (h : Inv g live) (q : Pt) :
    Gen.grid_Index_nearest Rounding.exact amb (encGrid g) (encPt q) = .none_ ↔ nearest g q = none := by
  rw [nearest_bridge amb g live h q]
  cases nearest g q with
  | none => exact ⟨fun _ => rfl, fun _ => rfl⟩
  | some i => exact ⟨nofun, nofun⟩

/-- the regenerated `remove_path` applied along a list of paths (the instance is threaded through) -/
def genRemoveAll (amb : Nat) (v : Val) : List Nat → Val
  | [] => v
  | p :: ps => genRemoveAll amb (Py.getItem (Gen.grid_Index_remove_path Rounding.exact amb v (encNat p)) 1) ps

theorem removeAll_bridge (amb : Nat) : ∀ (ps : List Nat) (g g' : Grid), removeAll g ps = some g' →
    genRemoveAll amb (encGrid g) ps = encGrid g' := by
  intro ps
  induction ps with
  | nil => intro g g' h; cases h; rfl
  | cons p ps ih =>
    intro g g' h
    unfold removeAll at h
    cases h1 : remove g p with
    | none => rw [h1] at h; cases h
    | some g1 =>
      rw [h1] at h
      simp only at h
      unfold genRemoveAll
      rw [remove_bridge amb g g1 p h1]
      exact ih g1 g' h

end C13
end Plotink
