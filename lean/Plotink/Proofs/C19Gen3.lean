import Plotink.Proofs.C19Gen2
import Plotink.Gen.ebb3_serial_list_named_ebbs
import Plotink.Gen.ebb_serial_list_named_ebbs

/-! # C19 bridges: name extraction `list_named_ebbs` (both layers), incl. the `SER=… LOCAT` / `SNR=` parsing -/
namespace Plotink
namespace C19Gen
open PyObj Gen LegacyGen

/-- `p_2.find(' LOCAT', index1)`.  The `match` of this statement is the one `find_plus4` below is stated with: its matcher
is generated here, so this theorem stands in front of it. -/
theorem find_from_locat (h : List Char) (k : Nat) :
    meth_find_from (.str h) (.str [' ', 'L', 'O', 'C', 'A', 'T']) (.int k) =
      .ok (.int (match C19.findFrom C19.locatK h k with | some j => (j : Int) | Option.none => -1)) := by
  have h0 : (0 : Int) ≤ (k : Int) := Int.natCast_nonneg k
  simp only [meth_find_from, intOf, h0, ↓reduceIte, Int.toNat_natCast, ← C19.lit_locatK]
  split
  · rfl
  · rw [C19.findFrom, List.drop_eq_nil_of_le (by omega), C19.lit_locatK]; rfl

/-- `p_2.find(K) + len(K)` for a four-character tag -/
theorem find_plus4 (h K : List Char) :
    op_add (.int (match C19.findIdx K h with | some i => (i : Int) | Option.none => -1)) (.int 4) =
      .ok (.int ((match C19.findIdx K h with | some i => i + 4 | Option.none => 3 : Nat) : Int)) := by
  cases C19.findIdx K h <;> rfl

/-! The two slice bounds get names, so that `pyeval` carries them as atoms which `slice_idx` and `load_idx2v` match;
`find_plus4'` and `find_from_locat'` are the two rules above with these names. -/

/-- `find(K) + 4` as a natural number (`-1 + 4 = 3` when absent) -/
def idx1 (K h : List Char) : Nat :=
  match C19.findIdx K h with
  | some i => i + 4
  | Option.none => 3

/-- the value of `p_2.find(' LOCAT', k)` -/
def idx2v (h : List Char) (k : Nat) : Val :=
  .int (match C19.findFrom C19.locatK h k with | some j => (j : Int) | Option.none => -1)

theorem find_plus4' (h K : List Char) :
    op_add (.int (match C19.findIdx K h with | some i => (i : Int) | Option.none => -1)) (.int 4) =
      .ok (.int (idx1 K h : Int)) := find_plus4 h K

theorem find_from_locat' (h : List Char) (k : Nat) :
    meth_find_from (.str h) (.str C19.locatK) (.int k) = .ok (idx2v h k) := by
  rw [C19.lit_locatK]; exact find_from_locat h k

theorem slice_idx (h : List Char) (k : Nat) :
    op_slice (.str h) (.int k) (idx2v h k) = .ok (.str (C19.sliceTo h k (C19.findFrom C19.locatK h k))) :=
  slice_find h k _

/-- `p_2[index1:len(p_2)]` -/
theorem slice_to_len (h : List Char) (k : Nat) : op_slice (.str h) (.int k) (.int h.length) = .ok (.str (h.drop k)) := by
  have := slice_find h k (some h.length)
  rwa [C19.sliceTo, List.take_length] at this

theorem serSlice_eq (h : List Char) :
    C19.serSlice h = C19.sliceTo h (idx1 C19.serK h) (C19.findFrom C19.locatK h (idx1 C19.serK h)) := by
  unfold C19.serSlice idx1
  cases C19.findIdx C19.serK h <;> rfl

theorem snrName_eq (p : C19.Port) :
    C19.snrName p = if C19.isInfixB C19.snrK p.hwid = true then
        (if (p.hwid.drop (idx1 C19.snrK p.hwid)).length < 3 then Option.none else some (p.hwid.drop (idx1 C19.snrK p.hwid)))
      else Option.none := by
  unfold C19.snrName idx1
  cases C19.findIdx C19.snrK p.hwid <;> rfl

theorem load_idx2v {ω : Type} (h : List Char) (k : Nat) : (load (idx2v h k) : Eff ω) = ok (idx2v h k) := rfl

theorem len_str (t : List Char) : op_len (.str t) = .ok (.int (t.length : Int)) := rfl
theorem len_serK : op_len (.str C19.serK) = .ok (.int 4) := by rw [C19.lit_serK]; rfl
theorem len_snrK : op_len (.str C19.snrK) = .ok (.int 4) := by rw [C19.lit_snrK]; rfl
theorem find_str (h K : List Char) : meth_find (.str h) (.str K) =
    .ok (.int (match C19.findIdx K h with | some i => (i : Int) | Option.none => -1)) := rfl

theorem lt3 (t : List Char) : op_lt (.int (t.length : Int)) (.int 3) = .ok (.bool (decide (t.length < 3))) := by
  have h : ((t.length : Int) < 3) ↔ t.length < 3 := Int.ofNat_lt (n := t.length) (m := 3)
  simp only [op_lt, ltVal, intOf, ofOptBool, h]

theorem truthy_str_ne (s : List Char) : (truthy (.str s) = true) = (s ≠ []) := by
  cases s <;> simp [truthy]

attribute [pyeval] len_str find_str find_plus4' find_from_locat' load_idx2v slice_idx slice_to_len lt3
  decide_eq_true_eq truthy_str_ne
-- `high`: in front of `len_str`, which would leave `serK.length`
attribute [pyeval high] len_serK len_snrK

/-! Both `list_named_ebbs` keep the same ten local variables; what their passes share is stated for any environment type
with such a constructor `mk`. -/

def push (acc : List Val) (r : Option C19.Str) : List Val :=
  match r with
  | some t => acc ++ [.str t]
  | Option.none => acc

theorem push_none (acc : List Val) : push acc Option.none = acc := rfl

section
variable {σ : Type} (mk : Val → Val → Val → Val → Val → Val → Val → Val → Val → Val → σ)

/-- loop invariant: the listing and the names collected so far; the other eight variables are scratch -/
def Acc (epl : Val) (acc : List Val) (env : σ) : Prop :=
  ∃ pv nf p0 p1 p2 ts i1 i2, env = mk epl (.list acc) pv nf p0 p1 p2 ts i1 i2

/-- `s` is the naming step that tries `cand`: entered with the name `r` found by the earlier steps (if any) appended
and `name_found` saying so, it does nothing when there is one and otherwise appends `cand p` when that is a name -/
def Step (s : Stmt NoObj σ) (cand : C19.Port → Option C19.Str) (r : Option C19.Str) : Prop :=
  ∀ (fuel : Nat) (p : C19.Port) (epl pt p0 ts i1 i2 : Val) (acc : List Val) (w : World NoObj),
    ∃ ts' i1' i2', s fuel (mk epl (.list (push acc r)) pt (.bool r.isSome) p0 (.str p.desc) (.str p.hwid) ts i1 i2) w =
      .norm (mk epl (.list (push acc (r.or (cand p)))) pt (.bool (r.or (cand p)).isSome) p0 (.str p.desc) (.str p.hwid)
        ts' i1' i2') w

end

theorem nameOf3_eq (p : C19.Port) : C19.Ebb3.nameOf p = ((C19.descName p).or (C19.serName p)).getD p.dev := by
  unfold C19.Ebb3.nameOf
  cases C19.descName p <;> cases C19.serName p <;> rfl

theorem nameOfL_eq (p : C19.Port) :
    C19.Legacy.nameOf p = (((C19.descName p).or (C19.serName p)).or (C19.snrName p)).getD p.dev := by
  unfold C19.Legacy.nameOf
  cases C19.descName p <;> cases C19.serName p <;> cases C19.snrName p <;> rfl

/-- a listing that is returned is not empty, so `if not ebb_ports_list` is not taken (`Legacy.listPorts` has the same
body as `Ebb3.listPorts`, so the legacy bridge uses this too) -/
theorem truthy_listPorts {ports l : List C19.Port} (h : C19.Ebb3.listPorts ports = some l) :
    truthy (.list (l.map encPort)) = true := by
  cases l with
  | cons a t => rfl
  | nil =>
    simp only [C19.Ebb3.listPorts] at h
    split at h
    · cases h
    · rename_i hemp; rw [Option.some.inj h] at hemp; exact absurd rfl hemp

/-- first naming step: the text after `EiBotBoard,` in the description -/
theorem named3_stageA : Step .mk ebb3_serial_list_named_ebbs_if2 C19.descName Option.none := by
  intro fuel p epl pt p0 ts i1 i2 acc w
  simp only [ebb3_serial_list_named_ebbs_if2, ebb3_serial_list_named_ebbs_if3, ebb3_serial_list_named_ebbs_if4,
    pyeval, C19.descName, Option.isSome_none, push_none, Option.none_or]
  split
  · split <;> exact ⟨_, _, _, rfl⟩
  · exact ⟨_, _, _, rfl⟩

/-- second naming step: the `SER=XXXX LOCAT` pattern of the hardware string -/
theorem named3_stageB (r : Option C19.Str) : Step .mk ebb3_serial_list_named_ebbs_if5 C19.serName r := by
  intro fuel p epl pt p0 ts i1 i2 acc w
  cases r with
  | some t => exact ⟨ts, i1, i2, by simp only [ebb3_serial_list_named_ebbs_if5, pyeval, Option.isSome_some]; rfl⟩
  | none =>
    simp only [ebb3_serial_list_named_ebbs_if5, ebb3_serial_list_named_ebbs_if6, ebb3_serial_list_named_ebbs_if7,
      ebb3_serial_list_named_ebbs_if8, pyeval, ← serSlice_eq, C19.serName, Option.isSome_none, push_none, Option.none_or]
    split
    · split <;> exact ⟨_, _, _, rfl⟩
    · exact ⟨_, _, _, rfl⟩

theorem named3_body (fuel : Nat) (w : World NoObj) (epl : Val) (acc : List Val) (p : C19.Port)
    (env : ebb3_serial_list_named_ebbs_Env) (h : Acc .mk epl acc env) :
    ∃ env', Acc .mk epl (acc ++ [.str (C19.Ebb3.nameOf p)]) env' ∧
      ebb3_serial_list_named_ebbs_fbody1 fuel { env with port := encPort p } w = .norm env' w := by
  obtain ⟨pv, nf, p0, p1, p2, ts, i1, i2, rfl⟩ := h
  obtain ⟨tsA, i1A, i2A, eA⟩ := named3_stageA fuel p epl (encPort p) (.str p.dev) ts i1 i2 acc w
  obtain ⟨tsB, i1B, i2B, eB⟩ := named3_stageB (C19.descName p) fuel p epl (encPort p) (.str p.dev) tsA i1A i2A acc w
  dsimp only [push_none, Option.isSome_none, Option.none_or] at eA
  refine ⟨_, ⟨encPort p, .bool ((C19.descName p).or (C19.serName p)).isSome, .str p.dev, .str p.desc, .str p.hwid, tsB, i1B,
    i2B, rfl⟩, ?_⟩
  simp only [ebb3_serial_list_named_ebbs_fbody1, pyeval, eA, eB, nameOf3_eq]
  -- last step: the device name when nothing else was found
  cases (C19.descName p).or (C19.serName p) <;>
    simp only [ebb3_serial_list_named_ebbs_if9, pyeval, Option.isSome_some, Option.isSome_none, push] <;> rfl

/-- **`list_named_ebbs` (EBB3 layer).**  With `list(comports())` yielding the (encoded) port list, the regenerated
function returns what the hand model `C19.Ebb3.listNamed` returns: one name per listed board, in order, `None` when
no board is listed. -/
theorem list_named_ebbs3_bridge (fuel : Nat) (ports : List C19.Port) (w : World NoObj) (hc : Enumerates w ports) :
    ebb3_serial_list_named_ebbs fuel w = .val (encNames (C19.Ebb3.listNamed ports)) w := by
  have hcall := ebb3_serial_list_ebb_ports_bridge fuel ports w hc
  cases hl : C19.Ebb3.listPorts ports with
  | none =>
    simp only [ebb3_serial_list_named_ebbs, ebb3_serial_list_named_ebbs_main, ebb3_serial_list_named_ebbs_if1,
      C19.Ebb3.listNamed, pyeval, hcall, hl, encPorts, truthy]
    rfl
  | some l =>
    obtain ⟨_, ⟨pv, nf, p0, p1, p2, ts, i1, i2, rfl⟩, e⟩ := forLoop_acc
      (fun (env : ebb3_serial_list_named_ebbs_Env) v => { env with port := v }) ebb3_serial_list_named_ebbs_fbody1
      fuel encPort (fun p => [Val.str (C19.Ebb3.nameOf p)]) (Acc .mk (.list (l.map encPort))) w
      (named3_body fuel w _) l [] _ ⟨.unbound, .unbound, .unbound, .unbound, .unbound, .unbound, .unbound, .unbound, rfl⟩
    simp only [ebb3_serial_list_named_ebbs, ebb3_serial_list_named_ebbs_main, ebb3_serial_list_named_ebbs_if1,
      ebb3_serial_list_named_ebbs_for1, C19.Ebb3.listNamed, pyeval, hcall, hl, encPorts, truthy_listPorts hl, e,
      ← List.map_eq_flatMap, encNames, List.map_map]
    rfl

theorem namedL_stageA : Step .mk ebb_serial_list_named_ebbs_if2 C19.descName Option.none := by
  intro fuel p epl pt p0 ts i1 i2 acc w
  simp only [ebb_serial_list_named_ebbs_if2, ebb_serial_list_named_ebbs_if3, ebb_serial_list_named_ebbs_if4, pyeval,
    C19.descName, Option.isSome_none, push_none, Option.none_or]
  split
  · split <;> exact ⟨_, _, _, rfl⟩
  · exact ⟨_, _, _, rfl⟩

theorem namedL_stageB (r : Option C19.Str) : Step .mk ebb_serial_list_named_ebbs_if5 C19.serName r := by
  intro fuel p epl pt p0 ts i1 i2 acc w
  cases r with
  | some t => exact ⟨ts, i1, i2, by simp only [ebb_serial_list_named_ebbs_if5, pyeval, Option.isSome_some]; rfl⟩
  | none =>
    simp only [ebb_serial_list_named_ebbs_if5, ebb_serial_list_named_ebbs_if6, ebb_serial_list_named_ebbs_if7,
      ebb_serial_list_named_ebbs_if8, pyeval, ← serSlice_eq, C19.serName, Option.isSome_none, push_none, Option.none_or]
    split
    · split <;> exact ⟨_, _, _, rfl⟩
    · exact ⟨_, _, _, rfl⟩

/-- third naming step (legacy only): the `…SNR=XXXX` pattern -/
theorem namedL_stageS (r : Option C19.Str) : Step .mk ebb_serial_list_named_ebbs_if9 C19.snrName r := by
  intro fuel p epl pt p0 ts i1 i2 acc w
  cases r with
  | some t => exact ⟨ts, i1, i2, by simp only [ebb_serial_list_named_ebbs_if9, pyeval, Option.isSome_some]; rfl⟩
  | none =>
    simp only [ebb_serial_list_named_ebbs_if9, ebb_serial_list_named_ebbs_if10, ebb_serial_list_named_ebbs_if11,
      ebb_serial_list_named_ebbs_if12, pyeval, snrName_eq, Option.isSome_none, push_none, Option.none_or]
    split
    · split <;> exact ⟨_, _, _, rfl⟩
    · exact ⟨_, _, _, rfl⟩

theorem namedL_body (fuel : Nat) (w : World NoObj) (epl : Val) (acc : List Val) (p : C19.Port)
    (env : ebb_serial_list_named_ebbs_Env) (h : Acc .mk epl acc env) :
    ∃ env', Acc .mk epl (acc ++ [.str (C19.Legacy.nameOf p)]) env' ∧
      ebb_serial_list_named_ebbs_fbody1 fuel { env with port := encPort p } w = .norm env' w := by
  obtain ⟨pv, nf, p0, p1, p2, ts, i1, i2, rfl⟩ := h
  obtain ⟨tsA, i1A, i2A, eA⟩ := namedL_stageA fuel p epl (encPort p) (.str p.dev) ts i1 i2 acc w
  obtain ⟨tsB, i1B, i2B, eB⟩ := namedL_stageB (C19.descName p) fuel p epl (encPort p) (.str p.dev) tsA i1A i2A acc w
  obtain ⟨tsS, i1S, i2S, eS⟩ := namedL_stageS ((C19.descName p).or (C19.serName p)) fuel p epl (encPort p) (.str p.dev)
    tsB i1B i2B acc w
  dsimp only [push_none, Option.isSome_none, Option.none_or] at eA
  refine ⟨_, ⟨encPort p, .bool (((C19.descName p).or (C19.serName p)).or (C19.snrName p)).isSome, .str p.dev, .str p.desc,
    .str p.hwid, tsS, i1S, i2S, rfl⟩, ?_⟩
  simp only [ebb_serial_list_named_ebbs_fbody1, pyeval, eA, eB, eS, nameOfL_eq]
  cases ((C19.descName p).or (C19.serName p)).or (C19.snrName p) <;>
    simp only [ebb_serial_list_named_ebbs_if13, pyeval, Option.isSome_some, Option.isSome_none, push] <;> rfl

/-- **`list_named_ebbs` (legacy layer).**  With `list(comports())` yielding the (encoded) port list, the regenerated
function returns what the hand model `C19.Legacy.listNamed` returns: one name per listed board, in order, `None` when
no board is listed. -/
theorem list_named_ebbsL_bridge (fuel : Nat) (ports : List C19.Port) (w : World NoObj) (hc : Enumerates w ports) :
    ebb_serial_list_named_ebbs fuel w = .val (encNames (C19.Legacy.listNamed ports)) w := by
  have hcall := ebb_serial_listEBBports_bridge fuel ports w hc
  cases hl : C19.Legacy.listPorts ports with
  | none =>
    simp only [ebb_serial_list_named_ebbs, ebb_serial_list_named_ebbs_main, ebb_serial_list_named_ebbs_if1,
      C19.Legacy.listNamed, pyeval, hcall, hl, encPorts, truthy]
    rfl
  | some l =>
    obtain ⟨_, ⟨pv, nf, p0, p1, p2, ts, i1, i2, rfl⟩, e⟩ := forLoop_acc
      (fun (env : ebb_serial_list_named_ebbs_Env) v => { env with port := v }) ebb_serial_list_named_ebbs_fbody1
      fuel encPort (fun p => [Val.str (C19.Legacy.nameOf p)]) (Acc .mk (.list (l.map encPort))) w
      (namedL_body fuel w _) l [] _ ⟨.unbound, .unbound, .unbound, .unbound, .unbound, .unbound, .unbound, .unbound, rfl⟩
    simp only [ebb_serial_list_named_ebbs, ebb_serial_list_named_ebbs_main, ebb_serial_list_named_ebbs_if1,
      ebb_serial_list_named_ebbs_for1, C19.Legacy.listNamed, pyeval, hcall, hl, encPorts, truthy_listPorts hl, e,
      ← List.map_eq_flatMap, encNames, List.map_map]
    rfl

end C19Gen
end Plotink
