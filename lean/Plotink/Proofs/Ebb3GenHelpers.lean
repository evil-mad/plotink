import Plotink.Proofs.Ebb3Gen
import Plotink.Gen.EBB3_min_version
import Plotink.Gen.EBB3_parse_version
/-! The regenerated `parse_version` and `min_version` against the model: they only assign attributes, so their bridges say
more than `Sim` — the world comes back itself with another object (`ObjSim`), scripts, log and `ext` untouched. -/

namespace Plotink
namespace Ebb3Gen
open PyObj Gen

/-- A method that only assigns attributes ended like the model: it leaves the world it started in with another object,
of the class's types again.  Nothing is asked of the scripts, and port and `ext` come back as they were. -/
def ObjSim (w : World EBB3_Obj) (out : Out EBB3_Obj) : Except Ebb3.PyExc Ebb3.Val × Ebb3.World Ebb3.Script → Prop
  | (.ok v, aw) => ∃ o', ObjOk o' ∧ out = .val (encVal v) { w with obj := o' } ∧ aw = absWorld { w with obj := o' }
  | (.error e, aw) => ∃ o', ObjOk o' ∧ out = .exc (excOfEbb3 e) { w with obj := o' } ∧ aw = absWorld { w with obj := o' }

theorem ObjSim.sim {w : World EBB3_Obj} {out : Out EBB3_Obj} {r : Except Ebb3.PyExc Ebb3.Val × Ebb3.World Ebb3.Script}
    (h : ObjSim w out r) (hg : Good w) : Sim out r := by
  obtain ⟨res, aw⟩ := r
  cases res <;> obtain ⟨o', ho, rfl, rfl⟩ := h <;> exact ⟨rfl, rfl, hg.setObj ho⟩

theorem lit_fwv : "Firmware Version ".toList = ['F', 'i', 'r', 'm', 'w', 'a', 'r', 'e', ' ', 'V', 'e', 'r', 's', 'i', 'o', 'n', ' '] := String.toList_ofList

theorem min_version_obj (fuel : Nat) (vs : List Char) (w : World EBB3_Obj) (ho : ObjOk w.obj) :
    ObjSim w (EBB3_min_version fuel (.str vs) w)
      (Ebb3.run Ebb3.srcParams Ebb3.scriptDev (.min_version vs) (absWorld w)) := by
  unfold EBB3_min_version EBB3_min_version_main EBB3_min_version_try1 EBB3_min_version_handlers1 EBB3_min_version_if1
  show ObjSim w _ (Ebb3.minVersionM vs (absWorld w))
  unfold Ebb3.minVersionM
  rw [block_cons2, block_cons2, block_one]
  cases hp : Ebb3.parseRelease vs with
  | none =>
    simp only [PyObj.run, seq, tryExcept, assign, app1_ok, b_parse_version, hp, ofP_error, raise_apply, dispatch, Handler.matches,
      runHandler, return_, ok_apply]
    exact ⟨_, ho, rfl, rfl⟩
  | some want =>
    simp only [PyObj.run, seq, tryExcept, assign, app1_ok, b_parse_version, hp, ofP_ok, ok_apply, Ebb3.bind_apply, Ebb3.getSt_apply]
    have hga : getattr (fun o : EBB3_Obj => o.version_parsed) w = (.ok w.obj.version_parsed, w) := by
      apply getattr_apply
      rcases ho.version_parsed with h | ⟨r, h⟩ <;> simp [h]
    rcases ho.version_parsed with h | ⟨r, h⟩
    · simp only [ifte, app2, PyObj.bind, hga, h, load, ok, ofP, op_ge, leVal, intOf, ofOptBool, raise, absWorld, absSt, absVer]
      exact ⟨_, ho, rfl, by simp only [absWorld, absSt, h, absVer]⟩
    · simp only [ifte, app2, PyObj.bind, hga, h, load, ok, ofP, op_ge, leVal, ofOptBool, truthy_bool, absWorld, absSt, absVer]
      cases hv : Ebb3.vle want r
      · simp only [Bool.false_eq_true, ↓reduceIte, pass, return_]
        exact ⟨_, ho, rfl, by simp only [absWorld, absSt, h, absVer]⟩
      · simp only [↓reduceIte, return_]
        exact ⟨_, ho, rfl, by simp only [absWorld, absSt, h, absVer]⟩

theorem min_version_bridge (fuel : Nat) (vs : List Char) (w : World EBB3_Obj) (hg : Good w) :
    Sim (EBB3_min_version fuel (.str vs) w)
      (Ebb3.run Ebb3.srcParams Ebb3.scriptDev (.min_version vs) (absWorld w)) :=
  (min_version_obj fuel vs w hg.obj).sim hg

theorem parse_version_obj (fuel : Nat) (s : List Char) (w : World EBB3_Obj) (ho : ObjOk w.obj) :
    ObjSim w (EBB3_parse_version fuel (.str s) w)
      (Ebb3.run Ebb3.srcParams Ebb3.scriptDev (.parse_version s) (absWorld w)) := by
  unfold EBB3_parse_version EBB3_parse_version_main EBB3_parse_version_if1
  show ObjSim w _ ((Ebb3.parseVersionM s >>= fun _ => pure Ebb3.Val.none) (absWorld w))
  unfold Ebb3.parseVersionM
  rw [lit_fwv, block_cons2, block_cons2, block_cons2, block_cons2, block_one]
  cases hsp : Ebb3.splitSub1 ['F', 'i', 'r', 'm', 'w', 'a', 'r', 'e', ' ', 'V', 'e', 'r', 's', 'i', 'o', 'n', ' '] s with
  | none =>
    simp only [PyObj.run, seq, assign, load_str, app1_ok, meth_split1_str, hsp, ofP_ok, ok_apply, ifte,
      load_list, op_len, List.length_cons,
      List.length_nil, app2_ok, op_gt, ltVal, intOf, ofOptBool, truthy_bool, return_]
    simp only [Ebb3.bind_apply, Ebb3.pure_apply]
    exact ⟨_, ho, rfl, rfl⟩
  | some ab =>
    obtain ⟨a, b⟩ := ab
    have h12 : decide ((1 : Int) < ((0 + 1 + 1 : Nat) : Int)) = true := by decide
    have hg1 : op_getitem (.list [.str a, .str b]) (.int 1) = .ok (.str b) := rfl
    simp only [PyObj.run, seq, assign, load_str, app1_ok, meth_split1_str, hsp, ofP_ok, ok_apply, ifte,
      load_list, op_len,
      List.length_cons, List.length_nil, app2_ok, op_gt, ltVal, intOf, ofOptBool, truthy_bool, h12, ↓reduceIte, hg1, meth_strip,
      setattr, b_parse_version, Ebb3.setVersion]
    cases hp : Ebb3.parseRelease (Ebb3.strip b) with
    | none =>
      simp only [ofP_error, raise_apply, Ebb3.bind_apply, Ebb3.modifySt_apply, Ebb3.raise_apply]
      refine ⟨_, ?_, rfl, rfl⟩
      exact ⟨ho.port, ho.err, trivial, ho.version_parsed, ho.name, ho.caller, ho.port_name⟩
    | some r =>
      simp only [ofP_ok, ok_apply, Ebb3.bind_apply, Ebb3.modifySt_apply, Ebb3.pure_apply]
      refine ⟨_, ?_, rfl, rfl⟩
      exact ⟨ho.port, ho.err, trivial, Or.inr ⟨r, rfl⟩, ho.name, ho.caller, ho.port_name⟩

theorem parse_version_bridge (fuel : Nat) (s : List Char) (w : World EBB3_Obj) (hg : Good w) :
    Sim (EBB3_parse_version fuel (.str s) w)
      (Ebb3.run Ebb3.srcParams Ebb3.scriptDev (.parse_version s) (absWorld w)) :=
  (parse_version_obj fuel s w hg.obj).sim hg

end Ebb3Gen
end Plotink
