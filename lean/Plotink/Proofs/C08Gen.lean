import Plotink.Gen.clip_code
import Plotink.Gen.clip_segment
import Plotink.Proofs.PySeq
import Plotink.Proofs.PyEnc
import Plotink.Proofs.C08

/-! # C08 — bridge: the source-regenerated `clip_code` / `clip_segment` = the hand model

`Gen.clip_code` and `Gen.clip_segment` are regenerated from `plotink/plot_utils.py` on every run. Under `Rounding.exact`
one pass of the generated `while True` loop does what one unfolding of `C08.clipLoop` does, case by case on the same
comparisons; `loop_bridge` is the induction on the model's fuel. Numbers are related to rationals by an encoding `K` with
`Py.Enc K` (`Proofs/PyEnc.lean`). -/

namespace Plotink
namespace C08
open Py Py.Val

theorem bitor_nat (a b : Nat) : Py.bitor (.int (a : Int)) (.int (b : Int)) = .int ((a ||| b : Nat) : Int) := rfl
theorem bitand_nat (a b : Nat) : Py.bitand (.int (a : Int)) (.int (b : Int)) = .int ((a &&& b : Nat) : Int) := rfl

theorem clip_code_codeOf (R : Rounding) (amb : Nat) (x y x0 x1 y0 y1 : Val) :
    Gen.clip_code R amb x y x0 x1 y0 y1 = .int (codeOf (Py.lt x x0) (Py.gt x x1) (Py.lt y y0) (Py.gt y y1) : Nat) := by
  unfold Gen.clip_code codeOf
  cases Py.lt x x0 <;> cases Py.gt x x1 <;> cases Py.lt y y0 <;> cases Py.gt y y1 <;> rfl

theorem clip_code_bridge (R : Rounding) (amb : Nat) (x y x0 x1 y0 y1 : Val) :
    Gen.clip_code R amb x y x0 x1 y0 y1 = .int (clipCode (num x) (num y) ⟨num x0, num y0, num x1, num y1⟩ : Nat) := by
  rw [clipCode_eq]
  exact clip_code_codeOf R amb x y x0 x1 y0 y1

theorem eq_nat_zero (n : Nat) : Py.eq (.int (n : Int)) (.int 0) = decide (n = 0) := Py.eq_nat n 0
theorem truthy_int_nat (n : Nat) : Py.truthy (.int (n : Int)) = !decide (n = 0) :=
  (Py.truthy_int n).trans (congrArg (!·) (decide_eq_decide.2 Int.natCast_eq_zero))
theorem bitand_nat_1 (m : Nat) : Py.bitand (.int (m : Int)) (.int 1) = .int ((m &&& 1 : Nat) : Int) := rfl
theorem bitand_nat_2 (m : Nat) : Py.bitand (.int (m : Int)) (.int 2) = .int ((m &&& 2 : Nat) : Int) := rfl
theorem bitand_nat_4 (m : Nat) : Py.bitand (.int (m : Int)) (.int 4) = .int ((m &&& 4 : Nat) : Int) := rfl
theorem bitand_nat_8 (m : Nat) : Py.bitand (.int (m : Int)) (.int 8) = .int ((m &&& 8 : Nat) : Int) := rfl
theorem add_nat_1 (R : Rounding) (p : Nat) (n : Nat) : Py.add R p (.int (n : Int)) (.int 1) = .int ((n + 1 : Nat) : Int) := rfl

theorem cut_ok {d : Rat} {q p : Pt}
    (h : (if d = 0 then Except.error PyExc.zeroDivision else Except.ok q) = Except.ok p) : d ≠ 0 ∧ p = q := by
  by_cases hd : d = 0
  · rw [if_pos hd] at h; cases h
  · rw [if_neg hd] at h; cases h; exact ⟨hd, rfl⟩

theorem newPoint_cases (r : Rect) (s : Seg) (n : Nat) (p : Pt) (hp : newPoint n s r = .ok p) :
    (n &&& 1 ≠ 0 ∧ s.b.x - s.a.x ≠ 0 ∧
        p = ⟨r.xmin, (s.b.y - s.a.y) / (s.b.x - s.a.x) * (r.xmin - s.a.x) + s.a.y⟩) ∨
    ((n &&& 1 = 0 ∧ n &&& 2 ≠ 0) ∧ s.b.x - s.a.x ≠ 0 ∧
        p = ⟨r.xmax, (s.b.y - s.a.y) / (s.b.x - s.a.x) * (r.xmax - s.a.x) + s.a.y⟩) ∨
    ((n &&& 1 = 0 ∧ n &&& 2 = 0 ∧ n &&& 4 ≠ 0) ∧ s.b.y - s.a.y ≠ 0 ∧
        p = ⟨(s.b.x - s.a.x) / (s.b.y - s.a.y) * (r.ymin - s.a.y) + s.a.x, r.ymin⟩) ∨
    ((n &&& 1 = 0 ∧ n &&& 2 = 0 ∧ n &&& 4 = 0 ∧ n &&& 8 ≠ 0) ∧ s.b.y - s.a.y ≠ 0 ∧
        p = ⟨(s.b.x - s.a.x) / (s.b.y - s.a.y) * (r.ymax - s.a.y) + s.a.x, r.ymax⟩) := by
  unfold newPoint at hp
  dsimp only at hp
  by_cases b1 : n &&& 1 ≠ 0
  · rw [if_pos b1] at hp; exact .inl ⟨b1, cut_ok hp⟩
  rw [if_neg b1] at hp
  by_cases b2 : n &&& 2 ≠ 0
  · rw [if_pos b2] at hp; exact .inr (.inl ⟨⟨not_not.1 b1, b2⟩, cut_ok hp⟩)
  rw [if_neg b2] at hp
  by_cases b4 : n &&& 4 ≠ 0
  · rw [if_pos b4] at hp; exact .inr (.inr (.inl ⟨⟨not_not.1 b1, not_not.1 b2, b4⟩, cut_ok hp⟩))
  rw [if_neg b4] at hp
  by_cases b8 : n &&& 8 ≠ 0
  · rw [if_pos b8] at hp; exact .inr (.inr (.inr ⟨⟨not_not.1 b1, not_not.1 b2, not_not.1 b4, b8⟩, cut_ok hp⟩))
  rw [if_neg b8] at hp; cases hp

theorem ite_code (n1 n2 : Nat) :
    (if (!decide (n1 = 0)) = true then Val.int (n1 : Int) else Val.int (n2 : Int))
      = Val.int ((if n1 ≠ 0 then n1 else n2 : Nat) : Int) := by
  by_cases h : n1 = 0 <;> simp [h]

/-- the `if code == code_1` update of the endpoints, on encoded numbers -/
theorem select_enc {K : Val → Rat → Prop} {xn yn x1 y1 x2 y2 : Val} {p : Pt} {s : Seg} (c : Prop) [Decidable c]
    (hx1 : K x1 s.a.x) (hy1 : K y1 s.a.y) (hx2 : K x2 s.b.x) (hy2 : K y2 s.b.y) (hxn : K xn p.x) (hyn : K yn p.y)
    (t : Val × Val × Val × Val) (s' : Seg) (ht : t = if decide c = true then (xn, yn, x2, y2) else (x1, y1, xn, yn))
    (hs : s' = if c then ⟨p, s.b⟩ else ⟨s.a, p⟩) :
    K t.1 s'.a.x ∧ K t.2.1 s'.a.y ∧ K t.2.2.1 s'.b.x ∧ K t.2.2.2 s'.b.y := by
  subst ht hs
  by_cases h : c
  · simp only [h, decide_true, if_true]; exact ⟨hxn, hyn, hx2, hy2⟩
  · simp only [h, decide_false, Bool.false_eq_true, if_false]; exact ⟨hx1, hy1, hxn, hyn⟩

section body
-- `j1 j2 j3 xn sl yn`: what the pass before left in `code_1 code_2 code x_new slope y_new`; no result below depends on them
variable {K : Val → Rat → Prop} (hK : Enc K) (amb : Nat) (r : Rect) (s : Seg)
  (a b c' d : Val) (ha : K a r.xmin) (hb : K b r.ymin) (hc : K c' r.xmax) (hd : K d r.ymax)
  (kont : Val → Val → Val → Val → Val → Val → Val → Val → Val → Val → Val → Val →
    Loop (Val × Val × Val × Val × Val × Val × Val × Val × Val × Val × Val × Val))
  (j1 j2 j3 xn sl yn x1 y1 x2 y2 seg : Val)
  (hx1 : K x1 s.a.x) (hy1 : K y1 s.a.y) (hx2 : K x2 s.b.x) (hy2 : K y2 s.b.y) (it : Nat)

include hK ha hb hc hd hx1 hy1 hx2 hy2

theorem body_codes :
    Gen.clip_code Rounding.exact amb x1 y1 a c' b d = .int (code r s.a : Nat) ∧
    Gen.clip_code Rounding.exact amb x2 y2 a c' b d = .int (code r s.b : Nat) := by
  rw [clip_code_bridge, clip_code_bridge, hK.num_eq ha, hK.num_eq hb, hK.num_eq hc, hK.num_eq hd,
    hK.num_eq hx1, hK.num_eq hy1, hK.num_eq hx2, hK.num_eq hy2]
  exact ⟨rfl, rfl⟩

theorem body_accept (h : code r s.a = 0 ∧ code r s.b = 0) :
    Gen.clip_segment_body1 Rounding.exact amb a b c' d kont j1 j2 j3 xn sl yn x1 y1 x2 y2 seg (.int (it : Int))
      = .ret (.tup [.bool_ true, seg]) := by
  obtain ⟨e1, e2⟩ := body_codes hK amb r s a b c' d ha hb hc hd x1 y1 x2 y2 hx1 hy1 hx2 hy2
  unfold Gen.clip_segment_body1
  simp only [e1, e2, h.1, h.2, eq_nat_zero, decide_true, Bool.and_self, if_true]

theorem body_reject (h0 : ¬ (code r s.a = 0 ∧ code r s.b = 0)) (h : code r s.a &&& code r s.b ≠ 0) :
    Gen.clip_segment_body1 Rounding.exact amb a b c' d kont j1 j2 j3 xn sl yn x1 y1 x2 y2 seg (.int (it : Int))
      = .ret (.tup [.bool_ false, seg]) := by
  obtain ⟨e1, e2⟩ := body_codes hK amb r s a b c' d ha hb hc hd x1 y1 x2 y2 hx1 hy1 hx2 hy2
  unfold Gen.clip_segment_body1
  have h0' : (decide (code r s.a = 0) && decide (code r s.b = 0)) = false :=
    (Bool.decide_and _ _).symm.trans (decide_eq_false h0)
  simp only [e1, e2, eq_nat_zero, h0', bitand_nat, truthy_int_nat, h, decide_false, Bool.not_false, if_true,
    Bool.false_eq_true, if_false]

theorem body_step (h0 : ¬ (code r s.a = 0 ∧ code r s.b = 0)) (hrej : ¬ (code r s.a &&& code r s.b ≠ 0))
    (hit : ¬ it > 3) (p : Pt)
    (hp : newPoint (pick r s) s r = .ok p) :
    ∃ n1 n2 n3 xn' sl' yn' x1' y1' x2' y2',
      Gen.clip_segment_body1 Rounding.exact amb a b c' d kont j1 j2 j3 xn sl yn x1 y1 x2 y2 seg (.int (it : Int))
        = kont n1 n2 n3 xn' sl' yn' x1' y1' x2' y2' (.tup [.tup [x1', y1'], .tup [x2', y2']]) (.int ((it + 1 : Nat) : Int)) ∧
      K x1' (moved r s p).a.x ∧
      K y1' (moved r s p).a.y ∧
      K x2' (moved r s p).b.x ∧
      K y2' (moved r s p).b.y := by
  obtain ⟨e1, e2⟩ := body_codes hK amb r s a b c' d ha hb hc hd x1 y1 x2 y2 hx1 hy1 hx2 hy2
  have h0' : (decide (code r s.a = 0) && decide (code r s.b = 0)) = false :=
    (Bool.decide_and _ _).symm.trans (decide_eq_false h0)
  have hrej' : code r s.a &&& code r s.b = 0 := not_not.1 hrej
  have hdx := hK.sub amb hx2 hx1
  have hdy := hK.sub amb hy2 hy1
  unfold moved
  generalize hn : pick r s = n at hp ⊢
  have hn' : (if (!decide (code r s.a = 0)) = true then Val.int (code r s.a : Nat) else Val.int (code r s.b : Nat))
      = Val.int (n : Nat) := by rw [ite_code]; exact congrArg (fun k : Nat => Val.int k) hn
  unfold Gen.clip_segment_body1
  -- the bit tests `hbits` are decided before `simp` meets the nested tuple patterns of the cascade
  rcases newPoint_cases r s n p hp with ⟨hbits, hz, rfl⟩ | ⟨hbits, hz, rfl⟩ | ⟨hbits, hz, rfl⟩ | ⟨hbits, hz, rfl⟩
  all_goals simp only [e1, e2, eq_nat_zero, h0', bitand_nat, truthy_int_nat, hrej', Py.gt_int_int, Nat.ofNat_lt_cast, hit, decide_true,
    decide_false, Bool.not_true, Bool.not_false, Bool.false_eq_true, if_true, if_false, Py.ne, hn', Py.eq_nat,
    add_nat_1, bitand_nat_1, bitand_nat_2, bitand_nat_4, bitand_nat_8, hbits]
  · exact ⟨_, _, _, _, _, _, _, _, _, _, rfl, select_enc _ hx1 hy1 hx2 hy2 ha
      (hK.add _ (hK.mul _ (hK.div _ hdy hdx hz) (hK.sub _ ha hx1)) hy1) _ _ rfl rfl⟩
  · exact ⟨_, _, _, _, _, _, _, _, _, _, rfl, select_enc _ hx1 hy1 hx2 hy2 hc
      (hK.add _ (hK.mul _ (hK.div _ hdy hdx hz) (hK.sub _ hc hx1)) hy1) _ _ rfl rfl⟩
  · exact ⟨_, _, _, _, _, _, _, _, _, _, rfl, select_enc _ hx1 hy1 hx2 hy2
      (hK.add _ (hK.mul _ (hK.div _ hdx hdy hz) (hK.sub _ hb hy1)) hx1) hb _ _ rfl rfl⟩
  · exact ⟨_, _, _, _, _, _, _, _, _, _, rfl, select_enc _ hx1 hy1 hx2 hy2
      (hK.add _ (hK.mul _ (hK.div _ hdx hdy hz) (hK.sub _ hd hy1)) hx1) hd _ _ rfl rfl⟩

end body

/-- `v` is a Python segment/rectangle `[[a, b], [c, d]]` whose four numbers encode the given rationals -/
def Enc4 (K : Val → Rat → Prop) (v : Val) (q1 q2 q3 q4 : Rat) : Prop :=
  ∃ a b c d, v = .tup [.tup [a, b], .tup [c, d]] ∧ K a q1 ∧ K b q2 ∧ K c q3 ∧ K d q4
def EncSeg (K : Val → Rat → Prop) (v : Val) (s : Seg) : Prop := Enc4 K v s.a.x s.a.y s.b.x s.b.y
def EncRect (K : Val → Rat → Prop) (v : Val) (r : Rect) : Prop := Enc4 K v r.xmin r.ymin r.xmax r.ymax

theorem loop_bridge {K : Val → Rat → Prop} (hK : Enc K) (amb : Nat) (r : Rect)
    (a b c' d : Val) (ha : K a r.xmin) (hb : K b r.ymin) (hc : K c' r.xmax) (hd : K d r.ymax) :
    ∀ (n fuel it : Nat) (s : Seg) (acc : Bool) (s' : Seg) (j1 j2 j3 xn sl yn x1 y1 x2 y2 : Val), n ≤ fuel →
      K x1 s.a.x → K y1 s.a.y → K x2 s.b.x → K y2 s.b.y →
      clipLoop r n it s = .ok (some (acc, s')) →
      ∃ vs', EncSeg K vs' s' ∧
        Gen.clip_segment_loop1 Rounding.exact amb a b c' d fuel j1 j2 j3 xn sl yn x1 y1 x2 y2
          (.tup [.tup [x1, y1], .tup [x2, y2]]) (.int (it : Int)) = .ret (.tup [.bool_ acc, vs']) := by
  intro n
  induction n with
  | zero => intro fuel it s acc s' j1 j2 j3 xn sl yn x1 y1 x2 y2 _ _ _ _ _ h; cases h
  | succ n ih =>
    intro fuel it s acc s' j1 j2 j3 xn sl yn x1 y1 x2 y2 hn hx1 hy1 hx2 hy2 h
    obtain ⟨fuel, rfl⟩ : ∃ f, fuel = f + 1 := ⟨fuel - 1, by omega⟩
    rw [Gen.clip_segment_loop1]
    rw [clipLoop_succ] at h
    by_cases hacc : code r s.a = 0 ∧ code r s.b = 0
    · rw [if_pos hacc] at h
      cases h
      exact ⟨_, ⟨x1, y1, x2, y2, rfl, hx1, hy1, hx2, hy2⟩,
        body_accept hK amb r s a b c' d ha hb hc hd _ j1 j2 j3 xn sl yn x1 y1 x2 y2 _ hx1 hy1 hx2 hy2 it hacc⟩
    rw [if_neg hacc] at h
    by_cases hrej : code r s.a &&& code r s.b ≠ 0
    · rw [if_pos hrej] at h
      cases h
      exact ⟨_, ⟨x1, y1, x2, y2, rfl, hx1, hy1, hx2, hy2⟩,
        body_reject hK amb r s a b c' d ha hb hc hd _ j1 j2 j3 xn sl yn x1 y1 x2 y2 _ hx1 hy1 hx2 hy2 it hacc hrej⟩
    rw [if_neg hrej] at h
    by_cases hit : it > 3
    · rw [if_pos hit] at h; cases h
    rw [if_neg hit] at h
    cases hnp : newPoint (pick r s) s r with
    | error e => rw [hnp] at h; cases h
    | ok p =>
      rw [hnp] at h
      obtain ⟨n1, n2, n3, xn', sl', yn', x1', y1', x2', y2', hstep, k1, k2, k3, k4⟩ :=
        body_step hK amb r s a b c' d ha hb hc hd
          (Gen.clip_segment_loop1 Rounding.exact amb a b c' d fuel) j1 j2 j3 xn sl yn x1 y1 x2 y2
          (.tup [.tup [x1, y1], .tup [x2, y2]]) hx1 hy1 hx2 hy2 it hacc hrej hit p hnp
      rw [hstep]
      exact ih fuel (it + 1) _ acc s' n1 n2 n3 xn' sl' yn' x1' y1' x2' y2' (by omega) k1 k2 k3 k4 h

/-- **bridge**: the regenerated `clip_segment`, in exact arithmetic and with fuel ≥ 5, returns what the
hand model `C08.clipSegment` returns, for every encoding of the rationals that exact arithmetic preserves -/
theorem clip_segment_bridge {K : Val → Rat → Prop} (hK : Enc K) (amb fuel : Nat) (hf : 5 ≤ fuel)
    (r : Rect) (s : Seg) (vs vr : Val) (hs : EncSeg K vs s) (hr : EncRect K vr r) :
    ∃ acc s' vs', clipSegment r s = .ok (some (acc, s')) ∧ EncSeg K vs' s' ∧
      Gen.clip_segment Rounding.exact amb fuel vs vr = .val (.tup [.bool_ acc, vs']) := by
  obtain ⟨acc, s', hm, _⟩ := clip_spec r s
  obtain ⟨x1, y1, x2, y2, rfl, hx1, hy1, hx2, hy2⟩ := hs
  obtain ⟨a, b, c', d, rfl, ha, hb, hc, hd⟩ := hr
  obtain ⟨vs', hvs', hloop⟩ := loop_bridge hK amb r a b c' d ha hb hc hd 5 fuel 0 s acc s'
    .err .err .err .err .err .err x1 y1 x2 y2 hf hx1 hy1 hx2 hy2 hm
  refine ⟨acc, s', vs', hm, hvs', ?_⟩
  unfold Gen.clip_segment
  simp only [Py.getItem_cons_zero, Py.getItem_cons_succ]
  rw [show (Val.int 0) = Val.int ((0 : Nat) : Int) from rfl, hloop]

def encPt (p : Pt) : Val := .tup [.flt p.x, .flt p.y]
/-- `[[x_1, y_1], [x_2, y_2]]`, every coordinate a `float` holding exactly that rational -/
def encSeg (s : Seg) : Val := .tup [encPt s.a, encPt s.b]
/-- `[[x_min, y_min], [x_max, y_max]]` -/
def encRect (r : Rect) : Val := .tup [.tup [.flt r.xmin, .flt r.ymin], .tup [.flt r.xmax, .flt r.ymax]]
/-- the Python result `(accept, segment)` of a model result. Only the first arm is ever produced by
`clipSegment` (`clip_spec`/`C08_total`: no exception, no failsafe return); the other is a placeholder. -/
def encResult : Except PyExc (Option (Bool × Seg)) → Py.Out
  | .ok (some (acc, s)) => .val (.tup [.bool_ acc, encSeg s])
  | _ => .val .err

theorem encSeg_isFlt (s : Seg) : EncSeg IsFlt (encSeg s) s := ⟨_, _, _, _, rfl, rfl, rfl, rfl, rfl⟩
theorem encRect_isFlt (r : Rect) : EncRect IsFlt (encRect r) r := ⟨_, _, _, _, rfl, rfl, rfl, rfl, rfl⟩
theorem encSeg_of_isFlt {v : Val} {s : Seg} (h : EncSeg IsFlt v s) : v = encSeg s := by
  obtain ⟨a, b, c, d, rfl, rfl, rfl, rfl, rfl⟩ := h; rfl

theorem Enc4.mono {K K' : Val → Rat → Prop} (hKK : ∀ v q, K v q → K' v q) {v : Val} {q1 q2 q3 q4 : Rat}
    (h : Enc4 K v q1 q2 q3 q4) : Enc4 K' v q1 q2 q3 q4 := by
  obtain ⟨a, b, c, d, e, h1, h2, h3, h4⟩ := h
  exact ⟨a, b, c, d, e, hKK _ _ h1, hKK _ _ h2, hKK _ _ h3, hKK _ _ h4⟩

end C08
end Plotink
