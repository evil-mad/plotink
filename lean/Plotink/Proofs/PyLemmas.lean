import Plotink.Py
/-! Evaluation lemmas for the dynamically typed operators on tagged values; used to normalise generated code before the
numeric part of a proof. Core Lean only. -/
namespace Plotink
namespace Py
open Val

@[simp] theorem unpackN_tup2 (a b : Val) : unpackN (.tup [a, b]) 2 = .tup [a, b] := rfl
@[simp] theorem unpackN_tup3 (a b c : Val) : unpackN (.tup [a, b, c]) 3 = .tup [a, b, c] := rfl
@[simp] theorem getItem_cons_zero (a : Val) (l : List Val) : getItem (.tup (a :: l)) 0 = a := rfl
@[simp] theorem getItem_cons_succ (a : Val) (l : List Val) (n : Nat) :
    getItem (.tup (a :: l)) (n + 1) = getItem (.tup l) n := rfl

theorem index_neg_one (l : List Val) (x : Val) : index (.tup (l ++ [x])) (.int (-1)) = x := by
  have hl : ((l ++ [x]).length : Int) = l.length + 1 := by simp
  have h : (0 : Int) ≤ -1 + ((l ++ [x]).length : Int) ∧ -1 + ((l ++ [x]).length : Int) < ((l ++ [x]).length : Int) := by
    omega
  have e : (-1 + ((l ++ [x]).length : Int)).toNat = l.length := by omega
  simp only [index, kind, toInt, show ((-1 : Int) < 0) from by decide, if_true, if_pos h, e,
    List.getD_eq_getElem?_getD, List.getElem?_concat_length, Option.getD_some]

theorem add_int_int (R p) (a b : Int) : add R p (.int a) (.int b) = .int (a + b) := rfl
theorem sub_int_int (R p) (a b : Int) : sub R p (.int a) (.int b) = .int (a - b) := rfl
theorem add_nat_one (R p) (n : Nat) : add R p (.int (n : Int)) (.int 1) = .int ((n + 1 : Nat) : Int) := rfl
theorem sub_nat_one (R p) (i : Nat) (hi : 1 ≤ i) : sub R p (.int (i : Int)) (.int 1) = .int ((i - 1 : Nat) : Int) := by
  show Val.int ((i : Int) - 1) = _
  congr 1; omega
theorem mul_int_int (R p) (a b : Int) : mul R p (.int a) (.int b) = .int (a * b) := rfl
theorem add_int_mpf (R : Rounding) (p) (a : Int) (b : Rat) : add R p (.int a) (.mpf b) = .mpf (R.mp p ((a : Rat) + b)) := rfl
theorem add_mpf_int (R : Rounding) (p) (a : Rat) (b : Int) : add R p (.mpf a) (.int b) = .mpf (R.mp p (a + (b : Rat))) := rfl
theorem add_mpf_mpf (R : Rounding) (p) (a b : Rat) : add R p (.mpf a) (.mpf b) = .mpf (R.mp p (a + b)) := rfl
theorem sub_mpf_int (R : Rounding) (p) (a : Rat) (b : Int) : sub R p (.mpf a) (.int b) = .mpf (R.mp p (a - (b : Rat))) := rfl
theorem sub_int_mpf (R : Rounding) (p) (a : Int) (b : Rat) : sub R p (.int a) (.mpf b) = .mpf (R.mp p ((a : Rat) - b)) := rfl
theorem sub_mpf_mpf (R : Rounding) (p) (a b : Rat) : sub R p (.mpf a) (.mpf b) = .mpf (R.mp p (a - b)) := rfl
theorem mul_mpf_int (R : Rounding) (p) (a : Rat) (b : Int) : mul R p (.mpf a) (.int b) = .mpf (R.mp p (a * (b : Rat))) := rfl
theorem mul_int_mpf (R : Rounding) (p) (a : Int) (b : Rat) : mul R p (.int a) (.mpf b) = .mpf (R.mp p ((a : Rat) * b)) := rfl
theorem mul_mpf_mpf (R : Rounding) (p) (a b : Rat) : mul R p (.mpf a) (.mpf b) = .mpf (R.mp p (a * b)) := rfl
theorem add_int_flt (R : Rounding) (p) (a : Int) (b : Rat) : add R p (.int a) (.flt b) = .flt (R.f64 ((a : Rat) + b)) := rfl
theorem add_flt_int (R : Rounding) (p) (a : Rat) (b : Int) : add R p (.flt a) (.int b) = .flt (R.f64 (a + (b : Rat))) := rfl
theorem add_flt_flt (R : Rounding) (p) (a b : Rat) : add R p (.flt a) (.flt b) = .flt (R.f64 (a + b)) := rfl
theorem sub_int_flt (R : Rounding) (p) (a : Int) (b : Rat) : sub R p (.int a) (.flt b) = .flt (R.f64 ((a : Rat) - b)) := rfl
theorem sub_flt_int (R : Rounding) (p) (a : Rat) (b : Int) : sub R p (.flt a) (.int b) = .flt (R.f64 (a - (b : Rat))) := rfl
theorem sub_flt_flt (R : Rounding) (p) (a b : Rat) : sub R p (.flt a) (.flt b) = .flt (R.f64 (a - b)) := rfl
theorem mul_int_flt (R : Rounding) (p) (a : Int) (b : Rat) : mul R p (.int a) (.flt b) = .flt (R.f64 ((a : Rat) * b)) := rfl
theorem mul_flt_int (R : Rounding) (p) (a : Rat) (b : Int) : mul R p (.flt a) (.int b) = .flt (R.f64 (a * (b : Rat))) := rfl
theorem mul_flt_flt (R : Rounding) (p) (a b : Rat) : mul R p (.flt a) (.flt b) = .flt (R.f64 (a * b)) := rfl
theorem mpf_int (R : Rounding) (p) (a : Int) : mpf_ R p (.int a) = .mpf (R.mp p (a : Rat)) := rfl
theorem mpf_mpf (R : Rounding) (p) (a : Rat) : mpf_ R p (.mpf a) = .mpf (R.mp p a) := rfl
theorem int_int (a : Int) : int_ (.int a) = .int a := rfl
theorem int_mpf (a : Rat) : int_ (.mpf a) = .int (intOfRat a) := rfl
theorem int_flt (a : Rat) : int_ (.flt a) = .int (intOfRat a) := rfl
theorem floor_mpf (a : Rat) : mp_floor (.mpf a) = .mpf (a.floor : Rat) := rfl
theorem ceil_mpf (a : Rat) : mp_ceil (.mpf a) = .mpf (ceilRat a : Rat) := rfl
theorem round_mpf (a : Rat) : round_ (.mpf a) = .int (roundHE a) := rfl
theorem round_flt (a : Rat) : round_ (.flt a) = .int (roundHE a) := rfl
theorem round_int (a : Int) : round_ (.int a) = .int a := rfl
theorem lt_iff (a b : Val) : lt a b = true ↔ num a < num b := decide_eq_true_iff
theorem gt_iff (a b : Val) : gt a b = true ↔ num b < num a := decide_eq_true_iff
theorem eq_int_str (a : Int) (s : String) : eq (.int a) (.str s) = false := rfl
theorem eq_str_str (s t : String) : eq (.str s) (.str t) = (s == t) := rfl

end Py
end Plotink
