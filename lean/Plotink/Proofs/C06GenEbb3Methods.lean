import Plotink.Proofs.C06GenEbb3Calls
import Plotink.Proofs.Ebb3GenRun
/-! # C06 over the regenerated code: what the EBB3 methods write

Through the master bridge `Ebb3Gen.gen_bridge` (regenerated method ~ `Ebb3.run srcParams scriptDev`): what the model of
a method writes (`C06GenEbb3Calls`), the regenerated method writes.  First the methods that transmit one command; then
the remaining ones (`callNew`): the query methods and the direct writes for every script of the domain, the methods that
transmit several requests under the acknowledging-script hypothesis `AckFor`. -/
namespace Plotink
namespace C06Gen
open PyObj Gen Ebb3Gen

theorem outWorld3_eq (o : Out EBB3_Obj) : outWorld3 o = Ebb3Gen.outWorld o := by cases o <;> rfl

theorem ready_abs (w : World EBB3_Obj) (he : w.obj.err = .none) (hc : connected w = true) : Ebb3.Ready (absWorld w) := by
  refine ⟨hc, ?_⟩
  show absOpt w.obj.err = Option.none
  rw [he]; rfl

theorem wrote3_of_sends (fuel : Nat) (c : Ebb3.Call) (hcov : Covered fuel c) (w : World EBB3_Obj) (hg : Good w) (hp : Pre c w)
    (cs : List C06.Cmd)
    (hs : Ebb3.Sends (Ebb3.run Ebb3.srcParams Ebb3.scriptDev c) (absWorld w) (cs.map (fun c => c.wire.toList))) :
    Wrote3 (genRun fuel c w) w (some cs) := by
  obtain ⟨w', h1, h2, _⟩ := sim_world (gen_bridge fuel c hcov w hg hp)
  refine ⟨w', by rw [outWorld3_eq]; exact h1, ?_⟩
  have : (absWorld w').out = (absWorld w).out ++ cs.map (fun c => c.wire.toList) := by rw [h2]; exact hs
  exact this

/-- a guarded method on an object without a port or with a recorded error writes nothing (C04) -/
theorem wrote3_blocked (fuel : Nat) (c : Ebb3.Call) (hcov : Covered fuel c) (hreq : c.method.isRequest = true)
    (w : World EBB3_Obj) (hg : Good w) (hp : Pre c w) (hb : (absSt w.obj).blocked = true) :
    Wrote3 (genRun fuel c w) w (some []) := by
  refine wrote3_of_sends fuel c hcov w hg hp [] ?_
  unfold Ebb3.Sends
  rw [Ebb3.run_blocked Ebb3.srcParams Ebb3.scriptDev c hreq (absWorld w) hb]
  exact (List.append_nil _).symm

theorem wrote3_one (fuel : Nat) (c : Ebb3.Call) (hcov : Covered fuel c) (hreq : c.method.isRequest = true)
    (w : World EBB3_Obj) (hg : Good w) (he : w.obj.err = .none) (hp : Pre c w) (cmd : C06.Cmd)
    (hs : ∀ aw, Ebb3.Ready aw → Ebb3.Sends (Ebb3.run Ebb3.srcParams Ebb3.scriptDev c) aw [cmd.wire.toList]) :
    Wrote3 (genRun fuel c w) w (some (if connected w then [cmd] else [])) := by
  cases hc : connected w with
  | false => exact wrote3_blocked fuel c hcov hreq w hg hp (by rw [blocked_of_err_none w he, hc]; rfl)
  | true => exact wrote3_of_sends fuel c hcov w hg hp [cmd] (hs _ (ready_abs w he hc))

theorem wrote3_cmdP (fuel : Nat) (c : Ebb3.Call) (hcov : Covered fuel c) (hreq : c.method.isRequest = true)
    (w : World EBB3_Obj) (hg : Good w) (he : w.obj.err = .none) (hp : Pre c w) (n : String) (l : List Int) (t : Ebb3.Str)
    (hc : Ebb3.prog Ebb3.srcParams Ebb3.scriptDev c = Ebb3.cmdP Ebb3.srcParams Ebb3.scriptDev t) (ht : t = textChars n l)
    (hn : IsName n) :
    Wrote3 (genRun fuel c w) w (some (if connected w then [⟨n, l⟩] else [])) :=
  wrote3_one fuel c hcov hreq w hg he hp ⟨n, l⟩ fun aw hr =>
    sends_request _ c .none n l (Ebb3.cmd_ _ _) t _ (Ebb3.Sends.cmd_ _) (by rw [hc]; rfl) (by rw [hc]; rfl) ht hn
      (fun _ => Ebb3.NoIO.pure _) aw hr

/-- the regenerated EBB3 method serving `r` (`none`: no method, or not bridged here — the methods that transmit several
commands or query the board) -/
def ebb3Gen (fuel : Nat) (w : World EBB3_Obj) : C06.Req → Option (Out EBB3_Obj)
  | .xyMove dx dy dur => some (EBBMotionWrap_xy_move fuel (.int dx) (.int dy) (.int dur) w)
  | .absMove rate p1 p2 => some (EBBMotionWrap_abs_move fuel (.int rate) (encOpt p1) (encOpt p2) w)
  | .penDown delay pin => some (EBBMotionWrap_pen_lower fuel (.int delay) (encOpt pin) w)
  | .penUp delay pin => some (EBBMotionWrap_pen_raise fuel (.int delay) (encOpt pin) w)
  | .disable => some (EBBMotionWrap_motors_disable fuel w)
  | .pbSet pin state => some (EBBMotionWrap_dio_b_set fuel (.int pin) (.int state) w)
  | .penPosDown v => some (EBBMotionWrap_pen_pos_down fuel (.int v) w)
  | .penPosUp v => some (EBBMotionWrap_pen_pos_up fuel (.int v) w)
  | .penRateDown v => some (EBBMotionWrap_pen_rate_down fuel (.int v) w)
  | .penRateUp v => some (EBBMotionWrap_pen_rate_up fuel (.int v) w)
  | .servoTimeout ms state => some (EBBMotionWrap_servo_timeout fuel (.int ms) (encOpt state) w)
  | .clearSteps => some (EBBMotionWrap_clear_steps fuel w)
  | .clearAccumulators => some (EBBMotionWrap_clear_accumulators fuel w)
  | .varWrite v i => some (EBB3_var_write fuel (.int v) (.int i) w)
  | _ => Option.none

theorem ebb3Emit_of_gen {fuel : Nat} {w : World EBB3_Obj} {r : C06.Req} {o : Out EBB3_Obj} (b : C06.Board)
    (ho : ebb3Gen fuel w r = some o) : ∃ l, C06.ebb3Emit true b r = some l := by
  cases r <;> first | exact ⟨_, rfl⟩ | cases ho

/-- **Every bridged EBB3 method transmits exactly `ebb3Emit`** — on any object of the domain with no recorded error,
whatever the board replies.  Row by row: the call of the model that the method is bridged to, and the text of that
call as the request line it renders. -/
theorem ebb3Gen_emit (fuel : Nat) (hf : 26 ≤ fuel) (b : C06.Board) (w : World EBB3_Obj) (hg : Good w) (he : w.obj.err = .none)
    (r : C06.Req) (o : Out EBB3_Obj) (ho : ebb3Gen fuel w r = some o) :
    Wrote3 o w (C06.ebb3Emit (connected w) b r) := by
  cases r with
  | xyMove dx dy dur =>
    cases ho
    exact wrote3_cmdP fuel (.xy_move dx dy dur) ⟨rfl, trivial, hf⟩ rfl w hg he trivial "SM" [dur, dy, dx] _ rfl
      (textChars_lit "SM" "SM," String.toList_ofList dur [dy, dx]) (by decide)
  | absMove rate p1 p2 =>
    rcases p1 with _ | a <;> rcases p2 with _ | c <;> cases ho
    · exact wrote3_cmdP fuel (.abs_move rate Option.none Option.none) ⟨rfl, trivial, hf⟩ rfl w hg he trivial "HM" [rate] _ rfl
        (textChars_lit "HM" "HM," String.toList_ofList rate []) (by decide)
    · exact wrote3_cmdP fuel (.abs_move rate Option.none (some c)) ⟨rfl, trivial, hf⟩ rfl w hg he trivial "HM" [rate] _ rfl
        (textChars_lit "HM" "HM," String.toList_ofList rate []) (by decide)
    · exact wrote3_cmdP fuel (.abs_move rate (some a) Option.none) ⟨rfl, trivial, hf⟩ rfl w hg he trivial "HM" [rate] _ rfl
        (textChars_lit "HM" "HM," String.toList_ofList rate []) (by decide)
    · exact wrote3_cmdP fuel (.abs_move rate (some a) (some c)) ⟨rfl, trivial, hf⟩ rfl w hg he trivial "HM" [rate, a, c] _ rfl
        (textChars_lit "HM" "HM," String.toList_ofList rate [a, c]) (by decide)
  | penDown delay pin =>
    rcases pin with _ | q <;> cases ho
    · exact wrote3_cmdP fuel (.pen_lower delay Option.none) ⟨rfl, trivial, hf⟩ rfl w hg he trivial "SP" [0, delay] _ rfl
        (textChars_lit "SP" "SP," String.toList_ofList 0 [delay]) (by decide)
    · exact wrote3_cmdP fuel (.pen_lower delay (some q)) ⟨rfl, trivial, hf⟩ rfl w hg he trivial "SP" [0, delay, q] _ rfl
        (textChars_lit "SP" "SP," String.toList_ofList 0 [delay, q]) (by decide)
  | penUp delay pin =>
    rcases pin with _ | q <;> cases ho
    · exact wrote3_cmdP fuel (.pen_raise delay Option.none) ⟨rfl, trivial, hf⟩ rfl w hg he trivial "SP" [1, delay] _ rfl
        (textChars_lit "SP" "SP," String.toList_ofList 1 [delay]) (by decide)
    · exact wrote3_cmdP fuel (.pen_raise delay (some q)) ⟨rfl, trivial, hf⟩ rfl w hg he trivial "SP" [1, delay, q] _ rfl
        (textChars_lit "SP" "SP," String.toList_ofList 1 [delay, q]) (by decide)
  | disable =>
    cases ho
    exact wrote3_cmdP fuel .motors_disable ⟨rfl, trivial, hf⟩ rfl w hg he trivial "EM" [0, 0] _ rfl
      (String.toList_ofList.trans (textChars_cons "EM" 0 [0]).symm) (by decide)
  | pbSet pin state =>
    cases ho
    exact wrote3_cmdP fuel (.dio_b_set pin state) ⟨rfl, trivial, hf⟩ rfl w hg he trivial "PO,B" [pin, state] _ rfl
      (textChars_lit "PO,B" "PO,B," String.toList_ofList pin [state]) (by decide)
  | penPosDown v =>
    cases ho
    exact wrote3_cmdP fuel (.pen_pos_down v) ⟨rfl, trivial, hf⟩ rfl w hg he trivial "SC" [5, v] _ rfl
      ((congrArg (· ++ Ebb3.showInt v) String.toList_ofList).trans (textChars_cons "SC" 5 [v]).symm) (by decide)
  | penPosUp v =>
    cases ho
    exact wrote3_cmdP fuel (.pen_pos_up v) ⟨rfl, trivial, hf⟩ rfl w hg he trivial "SC" [4, v] _ rfl
      ((congrArg (· ++ Ebb3.showInt v) String.toList_ofList).trans (textChars_cons "SC" 4 [v]).symm) (by decide)
  | penRateDown v =>
    cases ho
    exact wrote3_cmdP fuel (.pen_rate_down v) ⟨rfl, trivial, hf⟩ rfl w hg he trivial "SC" [12, v] _ rfl
      ((congrArg (· ++ Ebb3.showInt v) String.toList_ofList).trans (textChars_cons "SC" 12 [v]).symm) (by decide)
  | penRateUp v =>
    cases ho
    exact wrote3_cmdP fuel (.pen_rate_up v) ⟨rfl, trivial, hf⟩ rfl w hg he trivial "SC" [11, v] _ rfl
      ((congrArg (· ++ Ebb3.showInt v) String.toList_ofList).trans (textChars_cons "SC" 11 [v]).symm) (by decide)
  | servoTimeout ms state =>
    rcases state with _ | q <;> cases ho
    · exact wrote3_cmdP fuel (.servo_timeout ms Option.none) ⟨rfl, trivial, hf⟩ rfl w hg he trivial "SR" [ms] _ rfl
        (textChars_lit "SR" "SR," String.toList_ofList ms []) (by decide)
    · exact wrote3_cmdP fuel (.servo_timeout ms (some q)) ⟨rfl, trivial, hf⟩ rfl w hg he trivial "SR" [ms, q] _ rfl
        (textChars_lit "SR" "SR," String.toList_ofList ms [q]) (by decide)
  | clearSteps =>
    cases ho
    exact wrote3_cmdP fuel .clear_steps ⟨rfl, trivial, hf⟩ rfl w hg he trivial "CS" [] _ rfl (textChars_nil "CS").symm (by decide)
  | clearAccumulators =>
    cases ho
    exact wrote3_cmdP fuel .clear_accumulators ⟨rfl, trivial, hf⟩ rfl w hg he trivial "T3" [1, 0, 0, 0, 0, 0, 0, 3] _ rfl
      (String.toList_ofList.trans (textChars_cons "T3" 1 [0, 0, 0, 0, 0, 0, 3]).symm) (by decide)
  | varWrite v i =>
    cases ho
    exact wrote3_one fuel (.var_write v i) ⟨rfl, trivial, hf⟩ rfl w hg he trivial ⟨"SL", [v, i]⟩ fun aw hr =>
      sends_request _ _ (.bool false) "SL" [v, i] _ _ _ (Ebb3.Sends.command _) rfl rfl
        ((congrArg (· ++ Ebb3.showInt v ++ [','] ++ Ebb3.showInt i) String.toList_ofList).trans
          (textChars_cons "SL" v [i]).symm)
        (by decide) (fun _ => (Ebb3.noIOSt Ebb3.Script).errIsNone) aw hr
  | _ => cases ho

/-- the EBB3 call serving each of the 15 requests not covered by `ebb3Gen` -/
def callNew : C06.Req → Option Ebb3.Call
  | .timedPause n => some (.timed_pause n)
  | .enable r1 r2 => some (.motors_enable r1 r2)
  | .pbConfig p s d => some (.dio_b_config p s d)
  | .pbRead p => some (.dio_b_read p)
  | .varRead i => some (.var_read i)
  | .varWriteInt32 v i => some (.var_write_int32 v i)
  | .varReadInt32 i => some (.var_read_int32 i)
  | .querySteps => some .query_steps
  | .queryVoltage => some (.query_voltage Option.none)
  | .queryCurrent => some .query_current
  | .queryMotorsQE => some .motors_query_enabled
  | .queryNickname => some .query_nickname
  | .queryStatus => some .query_statusbyte
  | .reboot => some .reboot
  | .bootload => some .bootload
  | _ => Option.none

/-- **the acknowledging-script hypothesis**, per request: for the methods that transmit several requests, the script
answers each documented request in turn with a line that begins with its name and carries no `Err:`, after at most
`retry` blank reads, on a write that does not fault (`Ebb3.Acked`); the `QL` payloads are integers, the `QE` payload
reports the board state `bd`.  Nothing is asked for the methods that transmit one request. -/
def AckFor (bd : C06.Board) (r : C06.Req) (sc : Ebb3.Script) : Prop :=
  match r with
  | .timedPause n => Ebb3.Acked Ebb3.srcParams ((C06.docPause n).map (fun d => Ebb3.Xch.cmd (textChars "SM" [d, 0, 0]))) sc
  | .pbConfig p s d => Ebb3.Acked Ebb3.srcParams [.cmd (textChars "PO,B" [p, s]), .cmd (textChars "PD,B" [p, d])] sc
  | .varWriteInt32 v i =>
      Ebb3.Acked Ebb3.srcParams ((C06.documented ⟨0, 0⟩ (.varWriteInt32 v i)).map (fun c => Ebb3.Xch.cmd (textChars c.name c.args))) sc
  | .varReadInt32 i =>
      Ebb3.Acked Ebb3.srcParams ((C06.documented ⟨0, 0⟩ (.varReadInt32 i)).map (fun c => Ebb3.Xch.qry (textChars c.name c.args) IntPayload)) sc
  | .enable r1 r2 => Ebb3.Acked Ebb3.srcParams ((C06.documented bd (.enable r1 r2)).map (xchOf bd)) sc
  | _ => True

/-- **Each of the 15 remaining EBB3 methods transmits exactly the documented request(s).** -/
theorem ebb3New_emit (fuel : Nat) (bd : C06.Board) (w : World EBB3_Obj) (hg : Good w) (he : w.obj.err = .none)
    (hc : connected w = true) (r : C06.Req) (c : Ebb3.Call) (hcall : callNew r = some c) (hf : fuelNeed c ≤ fuel)
    (hp : Pre c w) (hsup : C06.ebb3Supports r) (hack : AckFor bd r (absWorld w).dev) :
    Wrote3 (genRun fuel c w) w (some (C06.documented bd r)) := by
  have hr := ready_abs w he hc
  -- every row: from the model's write log to the method's
  cases r <;> cases hcall <;> refine wrote3_of_sends fuel _ (by exact ⟨rfl, trivial, hf⟩) w hg hp _ ?_
  case timedPause n =>
    show Ebb3.Sends _ _ (((C06.docPause n).map fun d => (⟨"SM", [d, 0, 0]⟩ : C06.Cmd)).map _)
    rw [List.map_map]
    exact sends_timed_pause n _ hr hack
  case enable r1 r2 => exact sends_motors_enable _ bd r1 r2 _ hr hack
  case pbConfig p s d => exact sends_dio_b_config _ p s d _ hr hack
  case pbRead p => exact sends_dio_b_read _ p _ hr
  case varRead i => exact sends_var_read _ i _ hr
  case varWriteInt32 v i => exact sends_var_write_int32 _ v i hsup _ hr hack
  case varReadInt32 i => exact sends_var_read_int32 _ i _ hr hack
  case querySteps => exact sends_query_steps _ _ hr
  case queryVoltage => exact sends_query_voltage _ Option.none _ hr
  case queryCurrent => exact sends_query_current _ _ hr
  case queryMotorsQE => exact sends_motors_query_enabled _ _ hr
  case queryNickname => exact sends_query_nickname _ _ hr
  case queryStatus => exact sends_query_statusbyte _ _ hr
  case reboot => exact sends_reboot _ _ hr
  case bootload => exact sends_bootload _ _ hr

theorem ebb3New_noport (fuel : Nat) (w : World EBB3_Obj) (hg : Good w) (hb : (absSt w.obj).blocked = true)
    (r : C06.Req) (c : Ebb3.Call) (hcall : callNew r = some c) (hf : fuelNeed c ≤ fuel) :
    Wrote3 (genRun fuel c w) w (some []) := by
  obtain ⟨hreq, hasc⟩ : c.method.isRequest = true ∧ ArgsAscii c := by
    cases r <;> cases hcall <;> exact ⟨rfl, trivial⟩
  exact wrote3_blocked fuel c ⟨rfl, hasc, hf⟩ hreq w hg (pre_of_blocked hreq hb) hb

/-- the regenerated EBB3 method serving `r`: all 29 requests the layer serves -/
def ebb3GenFull (fuel : Nat) (w : World EBB3_Obj) (r : C06.Req) : Option (Out EBB3_Obj) :=
  match ebb3Gen fuel w r with
  | some o => some o
  | Option.none => (callNew r).map (fun c => genRun fuel c w)

def Ebb3Side (fuel : Nat) (w : World EBB3_Obj) (r : C06.Req) : Prop :=
  26 ≤ fuel ∧ ∀ c, callNew r = some c → fuelNeed c ≤ fuel ∧ Pre c w

theorem ebb3GenFull_isSome (fuel : Nat) (w : World EBB3_Obj) (b : C06.Board) (r : C06.Req) (h : (C06.ebb3Emit true b r).isSome) :
    (ebb3GenFull fuel w r).isSome := by
  cases r <;> first | rfl | cases h

end C06Gen
end Plotink
