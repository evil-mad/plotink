import Plotink.Gen.rtree_Index
import Plotink.Proofs.PySeq
import Plotink.Proofs.PyEnc
import Plotink.Proofs.PyExtLemmas
import Plotink.Proofs.C14

/-! # C14 — bridge: the source-regenerated class `rtree.Index` = the hand model `C14.build` / `C14.query`

`Gen.rtree_Index_init` (`__init__`: one loop, four list comprehensions, `max(map(len, …))`, the recursive
`[Index(sub) for sub in sub_bboxes]`) and `Gen.rtree_Index_intersection` (two loops, a set, the recursive call on the
subtrees) are regenerated from `plotink/rtree.py`; recursion runs on fuel (`…_body` + wrapper).
An instance is the tuple `("Index", bboxes, subtrees, xmin, ymin, xmax, ymax)` (`encTree`); `math.inf` is a sentinel
of the extended comparisons; a set is a duplicate-free list (`encSet`).  Exact arithmetic, all-`float` coordinates.

In `intersection` the set collected so far is `encSet (gather …)`, and the whole answer is `qset`, the ids of `query`, each
once (`mem_qset`, `nodup_qset`).  In `__init__` the instance under construction is `inst bb st e` with `e` the extent so
far (`extStep`), the centre so far a step of `meanStep`. -/

namespace Plotink
namespace C14
open Py Py.Val

def encBox (b : Box) : Val := .tup [.flt b.x1, .flt b.y1, .flt b.x2, .flt b.y2]
def encIBox (b : IBox) : Val := .tup [.int (b.1 : Int), encBox b.2]
def encIBoxes (bs : List IBox) : Val := .tup (bs.map encIBox)

/-- the target lists `i, (xmin, ymin, xmax, ymax)` of the loops and comprehensions unpack an encoded box -/
theorem unpack_encIBox (b : IBox) : Py.unpackN (encIBox b) 2 = .tup [.int (b.1 : Int), encBox b.2] := rfl
theorem unpack_encBox (q : Box) : Py.unpackN (encBox q) 4 = .tup [.flt q.x1, .flt q.y1, .flt q.x2, .flt q.y2] := rfl

/-- the four extent attributes `xmin ymin xmax ymax`; `none` = the start values `inf, inf, -inf, -inf` -/
def extVals : Option Box → List Val
  | none => [Py.posInf, Py.posInf, Py.negInf, Py.negInf]
  | some e => [.flt e.x1, .flt e.y1, .flt e.x2, .flt e.y2]

/-- an `Index` instance: `("Index", bboxes, subtrees, xmin, ymin, xmax, ymax)`; `own` = the extent of the node's own
box list (the model's `Tree` keeps the extents of the four children in the parent) -/
def encTree : Option Box → Tree → Val
  | own, .leaf bs => .tup ([.str "Index", encIBoxes bs, .tup []] ++ extVals own)
  | own, .node e0 e1 e2 e3 t0 t1 t2 t3 =>
    .tup ([.str "Index", .tup [], .tup [encTree e0 t0, encTree e1 t1, encTree e2 t2, encTree e3 t3]] ++ extVals own)

theorem infSign_flt (q : Rat) : Py.infSign (.flt q) = 0 := rfl
theorem infSign_int (z : Int) : Py.infSign (.int z) = 0 := rfl

theorem leE_flt (a b : Rat) : Py.leE (.flt a) (.flt b) = decide (a ≤ b) := if_pos ⟨rfl, rfl⟩
theorem geE_flt (a b : Rat) : Py.geE (.flt a) (.flt b) = decide (a ≥ b) := if_pos ⟨rfl, rfl⟩

def sunion (a b : List Nat) : List Nat := a ++ b.filter (fun v => !(a.any (fun w => decide (v = w))))
def encId (i : Nat) : Val := .int (i : Int)
def encSet (l : List Nat) : Val := .tup (l.map encId)

theorem set_add_enc (l : List Nat) (i : Nat) : Py.set_add (encSet l) (.int (i : Int)) = encSet (sunion l [i]) := by
  unfold Py.set_add encSet sunion
  simp only [show Val.int (i : Int) = encId i from rfl, Py.any_eq_map encId Py.eq_nat, List.filter_cons, List.filter_nil]
  cases l.any (fun v => decide (i = v)) <;>
    simp only [Bool.not_true, Bool.not_false, Bool.false_eq_true, if_true, if_false, List.append_nil, List.map_append,
      List.map_cons, List.map_nil, encId]

theorem bitor_enc (a b : List Nat) : Py.bitor (encSet a) (encSet b) = encSet (sunion a b) := by
  simp only [Py.bitor, encSet, sunion, List.map_append, List.filter_map, Function.comp_def]
  simp only [Py.any_eq_map encId Py.eq_nat]

theorem mem_sunion (a b : List Nat) (j : Nat) : j ∈ sunion a b ↔ j ∈ a ∨ j ∈ b := by
  simp only [sunion, List.mem_append, List.mem_filter, Bool.not_eq_true', List.any_eq_false, decide_eq_true_eq]
  by_cases ha : j ∈ a
  · simp only [ha, true_or]
  · exact or_congr_right (and_iff_left fun x hx e => ha (e ▸ hx))

theorem nodup_sunion (a b : List Nat) (ha : a.Nodup) (hb : b.Nodup) : (sunion a b).Nodup := by
  unfold sunion
  rw [List.nodup_append]
  refine ⟨ha, hb.filter _, ?_⟩
  intro x hx y hy
  simp only [List.mem_filter, Bool.not_eq_true', List.any_eq_false, decide_eq_true_eq] at hy
  exact fun e => hy.2 x hx e.symm

/-- the id set a loop leaves behind: every item `x` that passes `c` adds the ids `r x` -/
def gather {α : Type} (c : α → Bool) (r : α → List Nat) (acc : List Nat) (xs : List α) : List Nat :=
  xs.foldl (fun a x => if c x then sunion a (r x) else a) acc

theorem mem_gather {α : Type} (c : α → Bool) (r : α → List Nat) (xs : List α) (acc : List Nat) (j : Nat) :
    j ∈ gather c r acc xs ↔ j ∈ acc ∨ ∃ x ∈ xs, c x = true ∧ j ∈ r x := by
  induction xs generalizing acc with
  | nil => simp only [gather, List.foldl_nil, List.not_mem_nil, false_and, exists_false, or_false]
  | cons x xs ih =>
    rw [gather, List.foldl_cons, ← gather, ih]
    cases hc : c x <;>
      simp only [Bool.false_eq_true, if_true, if_false, mem_sunion, List.mem_cons, exists_eq_or_imp, hc, false_and,
        true_and, false_or, or_assoc]

theorem nodup_gather {α : Type} (c : α → Bool) (r : α → List Nat) (xs : List α) (acc : List Nat) (ha : acc.Nodup)
    (hr : ∀ x ∈ xs, (r x).Nodup) : (gather c r acc xs).Nodup := by
  induction xs generalizing acc with
  | nil => exact ha
  | cons x xs ih =>
    rw [gather, List.foldl_cons, ← gather]
    refine ih _ ?_ (fun y hy => hr y (List.mem_cons_of_mem _ hy))
    cases c x
    · exact ha
    · exact nodup_sunion _ _ ha (hr x List.mem_cons_self)

/-- the id set `intersection` returns (insertion order, no duplicates): the boxes of a leaf that meet the query, the
answers of the subtrees whose extent meets it -/
def qset (q : Box) : Tree → List Nat
  | .leaf bs => gather (fun b => overlaps q b.2) (fun b => [b.1]) [] bs
  | .node e0 e1 e2 e3 t0 t1 t2 t3 =>
    gather (fun p => extentHit q p.1) Prod.snd [] [(e0, qset q t0), (e1, qset q t1), (e2, qset q t2), (e3, qset q t3)]

theorem mem_qset (q : Box) (t : Tree) (i : Nat) : i ∈ qset q t ↔ i ∈ query q t := by
  induction t with
  | leaf bs =>
    simp only [qset, query, mem_gather, List.not_mem_nil, false_or, List.mem_singleton, List.mem_map, List.mem_filter,
      and_assoc, eq_comm]
  | node e0 e1 e2 e3 t0 t1 t2 t3 ih0 ih1 ih2 ih3 =>
    simp only [qset, query, mem_gather, List.mem_cons, exists_eq_or_imp, List.not_mem_nil, or_false, false_or,
      exists_eq_left, List.mem_append, List.mem_ite_nil_right, ih0, ih1, ih2, ih3, or_assoc]

theorem nodup_qset (q : Box) (t : Tree) : (qset q t).Nodup := by
  induction t with
  | leaf bs => exact nodup_gather _ _ _ _ List.nodup_nil (fun _ _ => List.pairwise_singleton _ _)
  | node e0 e1 e2 e3 t0 t1 t2 t3 ih0 ih1 ih2 ih3 =>
    refine nodup_gather _ _ _ _ List.nodup_nil ?_
    simp only [List.forall_mem_cons, ih0, ih1, ih2, ih3, and_self, List.not_mem_nil, false_imp_iff, implies_true]

abbrev KI1 := Val → Val → Val → Val → Val → Val → Val → Loop (Val × Val × Val × Val × Val × Val × Val)
abbrev KI2 := Val → Val → Val → Loop (Val × Val × Val)

theorem ibody1 (amb : Nat) (q : Box) (rec_ : Val → Val → Out) (k : KI1) (b : IBox) (j0 j1 j2 j3 j4 j5 : Val) (l : List Nat) :
    Gen.rtree_Index_intersection_body1 Rounding.exact amb (.flt q.x1) (.flt q.y1) (.flt q.x2) (.flt q.y2) rec_ k
      (encIBox b) j0 j1 j2 j3 j4 j5 (encSet l) =
    k (.int (b.1 : Int)) (.flt b.2.x1) (.flt b.2.y1) (.flt b.2.x2) (.flt b.2.y2) (.bool_ (!(overlaps q b.2)))
      (encSet (if overlaps q b.2 then sunion l [b.1] else l)) := by
  unfold Gen.rtree_Index_intersection_body1
  simp only [unpack_encIBox, unpack_encBox, Py.getItem_cons_zero, Py.getItem_cons_succ, gtE_flt, ltE_flt, Py.truthy]
  have ho : overlaps q b.2 = !(decide (q.x1 > b.2.x2) || decide (q.y1 > b.2.y2) || decide (q.x2 < b.2.x1) || decide (q.y2 < b.2.y1)) := rfl
  rw [ho]
  cases hd : (decide (q.x1 > b.2.x2) || decide (q.y1 > b.2.y2) || decide (q.x2 < b.2.x1) || decide (q.y2 < b.2.y1))
  · simp only [Bool.not_false, if_true, set_add_enc, Bool.not_true]
  · simp only [Bool.not_true, Bool.false_eq_true, if_false, Bool.not_false]

theorem iloop1 (amb : Nat) (q : Box) (rec_ : Val → Val → Out) : ∀ (bs : List IBox) (j0 j1 j2 j3 j4 j5 : Val) (l : List Nat),
    ∃ k0 k1 k2 k3 k4 k5, Gen.rtree_Index_intersection_loop1 Rounding.exact amb (.flt q.x1) (.flt q.y1) (.flt q.x2) (.flt q.y2) rec_
      (bs.map encIBox) j0 j1 j2 j3 j4 j5 (encSet l) =
        .done (k0, k1, k2, k3, k4, k5, encSet (gather (fun b => overlaps q b.2) (fun b => [b.1]) l bs)) := by
  intro bs
  induction bs with
  | nil => intro j0 j1 j2 j3 j4 j5 l; exact ⟨_, _, _, _, _, _, rfl⟩
  | cons b bs ih =>
    intro j0 j1 j2 j3 j4 j5 l
    rw [List.map_cons, Gen.rtree_Index_intersection_loop1, ibody1]
    exact ih _ _ _ _ _ _ _

theorem tree_ext (own : Option Box) (t : Tree) (k : Nat) :
    Py.getItem (encTree own t) (k + 3) = (extVals own).getD k .err := by
  cases t <;> rfl

/-- the pruning test of `intersection` on an encoded instance (whose extent may be the `±inf` start values) -/
theorem hit_enc (q : Box) (own : Option Box) (t : Tree) :
    (Py.gtE (.flt q.x1) (Py.getItem (encTree own t) 5) || Py.gtE (.flt q.y1) (Py.getItem (encTree own t) 6) ||
      Py.ltE (.flt q.x2) (Py.getItem (encTree own t) 3) || Py.ltE (.flt q.y2) (Py.getItem (encTree own t) 4))
      = !(extentHit q own) := by
  rw [tree_ext own t 2, tree_ext own t 3, tree_ext own t 0, tree_ext own t 1]
  cases own with
  | none =>
    simp only [extVals, List.getD_cons_succ, List.getD_cons_zero, gtE_flt_negInf, Bool.true_or, extentHit, Bool.not_false]
  | some e => simp only [extVals, List.getD_cons_succ, List.getD_cons_zero, gtE_flt, ltE_flt, extentHit, Bool.not_not]

/-- one pass of the loop over the subtrees, given what the recursive call returns -/
theorem ibody2 (amb : Nat) (q : Box) (rec_ : Val → Val → Out) (k : KI2) (e : Option Box) (t : Tree) (j0 j1 : Val)
    (l r : List Nat) (hrec : rec_ (encTree e t) (encBox q) = .val (encSet r)) :
    Gen.rtree_Index_intersection_body2 Rounding.exact amb (encBox q) (.flt q.x1) (.flt q.y1) (.flt q.x2) (.flt q.y2) rec_ k
      (encTree e t) j0 j1 (encSet l) =
    k (encTree e t) (.bool_ (!(extentHit q e))) (encSet (if extentHit q e then sunion l r else l)) := by
  unfold Gen.rtree_Index_intersection_body2
  simp only [hit_enc, Py.truthy, hrec]
  cases extentHit q e
  · simp only [Bool.not_false, Bool.not_true, Bool.false_eq_true, if_false]
  · simp only [Bool.not_true, Bool.not_false, if_true, bitor_enc]

/-- `intersection` on an instance with the boxes `bs` and the subtrees `ts`, given what its second loop does -/
theorem ibody (amb : Nat) (q : Box) (rec_ : Val → Val → Out) (self : Val) (bs : List IBox) (ts : List Val) (l : List Nat)
    (h1 : Py.getItem self 1 = encIBoxes bs) (h2 : Py.getItem self 2 = .tup ts)
    (hl : ∀ j, ∃ k0 k1, Gen.rtree_Index_intersection_loop2 Rounding.exact amb (encBox q) (.flt q.x1) (.flt q.y1) (.flt q.x2)
      (.flt q.y2) rec_ ts .err j (encSet (gather (fun b => overlaps q b.2) (fun b => [b.1]) [] bs)) = .done (k0, k1, encSet l)) :
    Gen.rtree_Index_intersection_body Rounding.exact amb rec_ self (encBox q) = .val (encSet l) := by
  obtain ⟨k0, k1, k2, k3, k4, k5, h⟩ := iloop1 amb q rec_ bs .err .err .err .err .err .err []
  obtain ⟨m0, m1, h'⟩ := hl k5
  unfold Gen.rtree_Index_intersection_body
  simp only [Py.unpackN_tup2, Py.getItem_cons_zero, Py.getItem_cons_succ, unpack_encBox, h1, h2, encIBoxes, Py.iter]
  rw [show (Val.tup []) = encSet [] from rfl, h]
  simp only [h']

theorem intersection_bridge (amb : Nat) (q : Box) : ∀ (t : Tree) (own : Option Box) (fuel : Nat), t.depth < fuel →
    Gen.rtree_Index_intersection Rounding.exact amb fuel (encTree own t) (encBox q) = .val (encSet (qset q t)) := by
  intro t
  induction t with
  | leaf bs =>
    intro own fuel hf
    obtain ⟨f, rfl⟩ := Nat.exists_eq_add_one.mpr hf
    rw [Gen.rtree_Index_intersection]
    exact ibody amb q _ _ bs [] _ rfl rfl (fun j => ⟨_, _, rfl⟩)
  | node e0 e1 e2 e3 t0 t1 t2 t3 ih0 ih1 ih2 ih3 =>
    intro own fuel hf
    obtain ⟨f, rfl⟩ := Nat.exists_eq_add_one.mpr (Nat.zero_lt_of_lt hf)
    obtain ⟨d0, d1, d2, d3⟩ := depth_node_lt hf
    rw [Gen.rtree_Index_intersection]
    refine ibody amb q _ _ [] [encTree e0 t0, encTree e1 t1, encTree e2 t2, encTree e3 t3] _ ?_ ?_ (fun j => ?_)
    · rfl
    · rfl
    · simp only [Gen.rtree_Index_intersection_loop2]
      rw [ibody2 amb q _ _ e0 t0 _ _ _ _ (ih0 e0 f d0), ibody2 amb q _ _ e1 t1 _ _ _ _ (ih1 e1 f d1),
        ibody2 amb q _ _ e2 t2 _ _ _ _ (ih2 e2 f d2), ibody2 amb q _ _ e3 t3 _ _ _ _ (ih3 e3 f d3)]
      exact ⟨_, _, rfl⟩

/-- an instance under construction: `("Index", bboxes, subtrees, xmin, ymin, xmax, ymax)` -/
def inst (bb st : Val) (e : Option Box) : Val := .tup ([.str "Index", bb, st] ++ extVals e)

section fields
variable (a0 a1 a2 a3 a4 a5 a6 v : Val)
theorem getF1 : Py.getItem (.tup [a0, a1, a2, a3, a4, a5, a6]) 1 = a1 := rfl
theorem getF2 : Py.getItem (.tup [a0, a1, a2, a3, a4, a5, a6]) 2 = a2 := rfl
theorem getF3 : Py.getItem (.tup [a0, a1, a2, a3, a4, a5, a6]) 3 = a3 := rfl
theorem getF4 : Py.getItem (.tup [a0, a1, a2, a3, a4, a5, a6]) 4 = a4 := rfl
theorem getF5 : Py.getItem (.tup [a0, a1, a2, a3, a4, a5, a6]) 5 = a5 := rfl
theorem getF6 : Py.getItem (.tup [a0, a1, a2, a3, a4, a5, a6]) 6 = a6 := rfl
theorem setF1 : Py.setField (.tup [a0, a1, a2, a3, a4, a5, a6]) 1 v = .tup [a0, v, a2, a3, a4, a5, a6] := rfl
theorem setF2 : Py.setField (.tup [a0, a1, a2, a3, a4, a5, a6]) 2 v = .tup [a0, a1, v, a3, a4, a5, a6] := rfl
theorem setF3 : Py.setField (.tup [a0, a1, a2, a3, a4, a5, a6]) 3 v = .tup [a0, a1, a2, v, a4, a5, a6] := rfl
theorem setF4 : Py.setField (.tup [a0, a1, a2, a3, a4, a5, a6]) 4 v = .tup [a0, a1, a2, a3, v, a5, a6] := rfl
theorem setF5 : Py.setField (.tup [a0, a1, a2, a3, a4, a5, a6]) 5 v = .tup [a0, a1, a2, a3, a4, v, a6] := rfl
theorem setF6 : Py.setField (.tup [a0, a1, a2, a3, a4, a5, a6]) 6 v = .tup [a0, a1, a2, a3, a4, a5, v] := rfl
end fields
theorem minE2 (a x : Val) : Py.minE [a, x] = if Py.ltE x a = true then x else a := rfl
theorem maxE2 (a x : Val) : Py.maxE [a, x] = if Py.gtE x a = true then x else a := rfl
theorem inst_none (bb st : Val) : inst bb st none = .tup [.str "Index", bb, st, Py.posInf, Py.posInf, Py.negInf, Py.negInf] := rfl
theorem inst_some (bb st : Val) (e : Box) :
    inst bb st (some e) = .tup [.str "Index", bb, st, .flt e.x1, .flt e.y1, .flt e.x2, .flt e.y2] := rfl

/-- assigning `self.bboxes`, `self.subtrees` -/
theorem setField_inst1 (bb st v : Val) (e : Option Box) : Py.setField (inst bb st e) 1 v = inst v st e := by
  cases e <;> rfl
theorem setField_inst2 (bb st v : Val) (e : Option Box) : Py.setField (inst bb st e) 2 v = inst bb v e := by
  cases e <;> rfl

theorem add_ff (p : Nat) (a b : Rat) : Py.add Rounding.exact p (.flt a) (.flt b) = .flt (a + b) := rfl
/-- one step of the running mean (`meanCenter id`) -/
def meanStep (n : Rat) (c : Rat × Rat) (b : IBox) : Rat × Rat :=
  (c.1 + (b.2.x1 / 2 + b.2.x2 / 2) / n, c.2 + (b.2.y1 / 2 + b.2.y2 / 2) / n)

abbrev KN1 := Val → Val → Val → Val → Val → Val → Val → Val → Loop (Val × Val × Val × Val × Val × Val × Val × Val)

/-- one pass of the loop of `__init__`: a step of the running mean, and the four updates
`self.xmin = min(self.xmin, xmin)` … are the model's `extStep` -/
theorem nbody1 (amb : Nat) (bs0 : List IBox) (hn : bs0.length ≠ 0) (rec_ : Val → Out) (k : KN1) (b : IBox)
    (j0 j1 j2 j3 j4 cxv cyv bb st : Val) (c : Rat × Rat) (e : Option Box) (hx : IsNum cxv c.1) (hy : IsNum cyv c.2) :
    Gen.rtree_Index_init_body1 Rounding.exact amb (encIBoxes bs0) rec_ k (encIBox b) j0 j1 j2 j3 j4 cxv cyv (inst bb st e) =
    k (.int (b.1 : Int)) (.flt b.2.x1) (.flt b.2.y1) (.flt b.2.x2) (.flt b.2.y2)
      (.flt (meanStep (bs0.length : Rat) c b).1) (.flt (meanStep (bs0.length : Rat) c b).2) (inst bb st (extStep e b)) := by
  unfold Gen.rtree_Index_init_body1
  simp only [unpack_encIBox, unpack_encBox, Py.getItem_cons_zero, Py.getItem_cons_succ, encIBoxes, Py.len_map, add_ff,
    truediv_flt_int _ _ 2 (by decide), truediv_flt_int _ _ _ (Int.natCast_ne_zero.2 hn), Int.cast_ofNat, Int.cast_natCast,
    hx.add_flt, hy.add_flt]
  cases e with
  | none =>
    simp only [inst_none, getF3, getF4, getF5, getF6, setF3, setF4, setF5, setF6, minE_posInf, maxE_negInf, extStep, inst_some]
    rfl
  | some e =>
    simp only [inst_some, getF3, getF4, getF5, getF6, setF3, setF4, setF5, setF6, minE_flt, maxE_flt, extStep]
    rfl

/-- the loop of `__init__` over a list `bs` no longer than the whole list `bs0` (whose length is the divisor) -/
theorem nloop1 (amb : Nat) (bs0 : List IBox) (rec_ : Val → Out) (bb st : Val) :
    ∀ (bs : List IBox) (j0 j1 j2 j3 j4 cxv cyv : Val) (c : Rat × Rat) (e : Option Box), bs.length ≤ bs0.length →
    IsNum cxv c.1 → IsNum cyv c.2 →
    ∃ k0 k1 k2 k3 k4 cxv' cyv', IsNum cxv' (bs.foldl (meanStep (bs0.length : Rat)) c).1 ∧
      IsNum cyv' (bs.foldl (meanStep (bs0.length : Rat)) c).2 ∧
      Gen.rtree_Index_init_loop1 Rounding.exact amb (encIBoxes bs0) rec_ (bs.map encIBox) j0 j1 j2 j3 j4 cxv cyv (inst bb st e)
        = .done (k0, k1, k2, k3, k4, cxv', cyv', inst bb st (bs.foldl extStep e)) := by
  intro bs
  induction bs with
  | nil => intro j0 j1 j2 j3 j4 cxv cyv c e _ hx hy; exact ⟨_, _, _, _, _, cxv, cyv, hx, hy, rfl⟩
  | cons b bs ih =>
    intro j0 j1 j2 j3 j4 cxv cyv c e hle hx hy
    rw [List.map_cons, Gen.rtree_Index_init_loop1,
      nbody1 amb bs0 (Nat.ne_of_gt (Nat.lt_of_lt_of_le (Nat.succ_pos _) hle)) rec_ _ b j0 j1 j2 j3 j4 cxv cyv bb st c e hx hy]
    exact ih _ _ _ _ _ _ _ (meanStep (bs0.length : Rat) c b) (extStep e b) (Nat.le_of_succ_le hle) (Or.inl rfl) (Or.inl rfl)

theorem meanCenter_eq (bs : List IBox) : meanCenter id bs = bs.foldl (meanStep (bs.length : Rat)) (0, 0) := rfl

theorem comp_filter_encIBoxes (bs : List IBox) (f : Val → Option Val) (p : IBox → Bool)
    (h : ∀ b, f (encIBox b) = if p b then some (encIBox b) else none) :
    Py.comp (encIBoxes bs) f = encIBoxes (bs.filter p) := Py.comp_filter encIBox bs f p h

/-- `max(map(len, sub_bboxes))` -/
theorem max_lens (s0 s1 s2 s3 : List IBox) :
    Py.maxOfE (Py.comp (.tup [encIBoxes s0, encIBoxes s1, encIBoxes s2, encIBoxes s3]) (fun it => some (Py.len_ it)))
      = .int ((max (max s0.length s1.length) (max s2.length s3.length) : Nat) : Int) := by
  simp only [Py.comp, Py.iter, List.filterMap_cons, List.filterMap_nil, encIBoxes, Py.len_map, Py.maxOfE]
  rw [maxE_cons_cons, maxE_int, maxE_cons_cons, maxE_int, maxE_int]
  simp only [Nat.cast_max, max_assoc]

theorem quad_lemma (cxv cyv : Val) (c : Rat × Rat) (hx : IsNum cxv c.1) (hy : IsNum cyv c.2) (b : IBox) :
    ((if (Py.leE (.flt b.2.x1) cxv && Py.leE (.flt b.2.y1) cyv) = true then some (encIBox b) else none)
      = if quad Strict.none c.1 c.2 0 b then some (encIBox b) else none) ∧
    ((if (Py.geE (.flt b.2.x2) cxv && Py.leE (.flt b.2.y1) cyv) = true then some (encIBox b) else none)
      = if quad Strict.none c.1 c.2 1 b then some (encIBox b) else none) ∧
    ((if (Py.leE (.flt b.2.x1) cxv && Py.geE (.flt b.2.y2) cyv) = true then some (encIBox b) else none)
      = if quad Strict.none c.1 c.2 2 b then some (encIBox b) else none) ∧
    ((if (Py.geE (.flt b.2.x2) cxv && Py.geE (.flt b.2.y2) cyv) = true then some (encIBox b) else none)
      = if quad Strict.none c.1 c.2 3 b then some (encIBox b) else none) := by
  have f : ∀ x : Rat, IsNum (.flt x) x := fun _ => Or.inl rfl
  simp only [enc_isNum.leE_eq (f _) hx, enc_isNum.leE_eq (f _) hy, enc_isNum.geE_eq (f _) hx, enc_isNum.geE_eq (f _) hy, quad, lo, hi, Strict.none,
    Bool.false_eq_true, if_false, and_self]

theorem compOut4 (rec_ : Val → Out) (a0 a1 a2 a3 r0 r1 r2 r3 : Val)
    (h0 : rec_ a0 = .val r0) (h1 : rec_ a1 = .val r1) (h2 : rec_ a2 = .val r2) (h3 : rec_ a3 = .val r3) :
    Py.compOut (.tup [a0, a1, a2, a3]) (fun it => some (rec_ it)) = .val (.tup [r0, r1, r2, r3]) := by
  simp only [Py.compOut, Py.iter, Py.compOut.go, h0, h1, h2, h3, List.reverse_cons, List.reverse_nil, List.nil_append,
    List.cons_append]

/-- `__init__` up to the recursive calls: the loop, the four comprehensions, the size test -/
theorem init_body (amb : Nat) (rec_ : Val → Out) (bs : List IBox) :
    Gen.rtree_Index_init_body Rounding.exact amb rec_ (encIBoxes bs) =
      if Stuck Strict.none (meanCenter id) bs then .val (inst (encIBoxes bs) (.tup []) (extent bs))
      else match Py.compOut (.tup [encIBoxes (quadrant Strict.none (meanCenter id) bs 0),
          encIBoxes (quadrant Strict.none (meanCenter id) bs 1), encIBoxes (quadrant Strict.none (meanCenter id) bs 2),
          encIBoxes (quadrant Strict.none (meanCenter id) bs 3)]) (fun it => some (rec_ it)) with
        | .fuelOut => .fuelOut
        | .val v => .val (inst (.tup []) v (extent bs)) := by
  unfold Gen.rtree_Index_init_body
  simp only [Py.unpackN_tup2, Py.getItem_cons_zero, Py.getItem_cons_succ, setF3, setF4, setF5, setF6]
  have z : IsNum (.int 0) 0 := Or.inr ⟨0, rfl, Int.cast_zero⟩
  -- the loop: running mean and extent
  obtain ⟨k0, k1, k2, k3, k4, cxv, cyv, hx, hy, hl⟩ := nloop1 amb bs rec_ (.tup []) (.tup []) bs .err .err .err .err .err
    (.int 0) (.int 0) (0, 0) none (le_refl _) z z
  rw [show Py.iter (encIBoxes bs) = some (bs.map encIBox) from rfl, ← inst_none]
  simp only [hl]
  -- the four quadrant lists
  have hq := fun b => quad_lemma cxv cyv (meanCenter id bs) hx hy b
  rw [comp_filter_encIBoxes bs _ _ (fun b => (hq b).1), comp_filter_encIBoxes bs _ _ (fun b => (hq b).2.1),
    comp_filter_encIBoxes bs _ _ (fun b => (hq b).2.2.1), comp_filter_encIBoxes bs _ _ (fun b => (hq b).2.2.2)]
  rw [max_lens, encIBoxes, Py.len_map, Py.eq_nat]
  simp only [setField_inst1, setField_inst2, decide_eq_true_eq]
  rfl

theorem init_bridge (amb : Nat) (bs : List IBox) : ∀ fuel, bs.length < fuel →
    Gen.rtree_Index_init Rounding.exact amb fuel (encIBoxes bs)
      = .val (encTree (extent bs) (build Strict.none (meanCenter id) bs)) := by
  refine build_induction Strict.none (meanCenter id) (P := fun bs t => ∀ fuel, bs.length < fuel →
    Gen.rtree_Index_init Rounding.exact amb fuel (encIBoxes bs) = .val (encTree (extent bs) t))
    (fun bs h fuel hf => ?_) (fun bs h hlt ih fuel hf => ?_) bs
  · obtain ⟨f, rfl⟩ := Nat.exists_eq_add_one.mpr (Nat.zero_lt_of_lt hf)
    rw [Gen.rtree_Index_init, init_body, if_pos h]
    rfl
  · obtain ⟨f, rfl⟩ := Nat.exists_eq_add_one.mpr (Nat.zero_lt_of_lt hf)
    have r := fun k => ih k f (lt_of_lt_of_le (hlt k) (Nat.le_of_lt_succ hf))
    rw [Gen.rtree_Index_init, init_body, if_neg h, compOut4 _ _ _ _ _ _ _ _ _ (r 0) (r 1) (r 2) (r 3)]
    rfl

end C14
end Plotink
