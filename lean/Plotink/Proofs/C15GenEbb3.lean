import Plotink.Proofs.C15GenLegacy
import Plotink.Proofs.C15Models
import Plotink.Proofs.Ebb3GenConnect
/-! # C15 (regenerated code) — the EBB3 layer

The regenerated `parse_version` and `min_version` on an object in state `st` (`encSt st`) do what the model's do, on any
port: from their bridges in `Ebb3GenHelpers`, which ask nothing of the scripts and give the world itself (`ObjSim`).  The
regenerated `connect` up to the minimum-version check is the head of `C15.connect` (`connectHeadP`, with the runtime's
`parse` for the reply's version text).  It is not evaluated here: `connect_head_gen` follows from its bridge to
`Model/Ebb3.lean` (`Ebb3Gen.connect_head`, every fuel, every I/O fault class) and the agreement of the two hand models
(`connectBody_head`, `Proofs/C15Models.lean`), because the objects `encSt st` are exactly the `ObjOk` objects of `Ebb3Gen`
and its abstraction keeps the attributes, `ext` and the write log.  Port location (`_get_port_name`) is an input, as in
the model; `get_port_name_named` discharges it for a given name.

Last, the parameters the regenerated code realises (`genParams`) and numeric order in the regenerated `EBB3` layer
(`ebb3_layer_gen`, `order_gen`). -/
namespace Plotink.C15Gen
open PyObj Gen

def optStr : Option (List Char) → Val
  | some s => .str s
  | Option.none => .none

/-- the attributes of an `EBB3` object in state `st` -/
def encSt (st : C15.St) : EBB3_Obj :=
  { port_name := optStr st.portName, port := if st.port then .port else .none, version := optStr st.version,
    version_parsed := (match st.vparsed with | some v => .version v | Option.none => .none),
    name := optStr st.name, err := optStr st.err, caller := optStr st.caller }

section
-- the statement quotes generated code, whose lambdas all bind `fuel` and `env`
set_option linter.unusedVariables false
/-- the two statements of a version probe, as they stand (twice) in the regenerated `connect` -/
def probeStmt : Stmt EBB3_Obj EBB3_connect_Env :=
  seq (expr (fun fuel env => eff2 meth_write (getattr (·.port))
      (app2 meth_encode (ok (Val.str ['v', '\r'])) (ok (Val.str ['a', 's', 'c', 'i', 'i'])))))
    (assign (fun env v => { env with str_version := v }) (fun fuel env =>
      app1 meth_strip (app2 meth_decode (eff1 meth_readline (getattr (·.port))) (ok (Val.str ['a', 's', 'c', 'i', 'i'])))))
end

/-- the `C15` script of a world: whether `serial.Serial(...)` opens, and the port's outcome lists -/
def ioOf (ext : Ext) (p : PyIO.Port) : C15.Io := ⟨[ext.openOk], p.reads.map absRd, p.writes.map absWr, []⟩

/-! `encSt st` are exactly the `ObjOk` objects, and the abstraction of `Ebb3Gen` is injective on those: a world whose
abstraction has the attributes `toSt st'` holds the object `encSt st'`. -/
section Abs
open Ebb3Gen

theorem isOptStr_optStr (o : Option (List Char)) : IsOptStr (optStr o) := by cases o <;> trivial

theorem objOk_encSt (st : C15.St) : ObjOk (encSt st) where
  port := by unfold encSt; cases st.port <;> simp
  err := isOptStr_optStr _
  version := isOptStr_optStr _
  version_parsed := by unfold encSt; cases st.vparsed <;> simp
  name := isOptStr_optStr _
  caller := isOptStr_optStr _
  port_name := isOptStr_optStr _

theorem optStr_eq_encReq (o : Option (List Char)) : optStr o = encReq o := by cases o <;> rfl

theorem recErr_encSt (m : List Char) (st : C15.St) : recErr m (encSt st) = encSt (C15.recordError st m) := by
  obtain ⟨port, pn, v, vp, nm, err, cl⟩ := st
  cases err <;> rfl

theorem gpnObj_encSt (given found : Option (List Char)) (st : C15.St) :
    gpnObj given found (encSt st) = encSt (locSt st given found) := by
  unfold gpnObj locSt
  cases found with
  | none =>
    rw [Option.isNone_none, if_pos rfl, ← optStr_eq_encReq]
    cases given <;> exact recErr_encSt _ { st with portName := Option.none }
  | some pn => rfl

theorem rdEv_absRd (r : PyIO.Rd) : rdEv (absRd r) = Ebb3Gen.absRd r := by cases r <;> rfl
theorem wrEv_absWr (r : PyIO.Wr) : wrEv (absWr r) = Ebb3Gen.absWr r := by cases r <;> rfl

theorem absOpt_optStr (o : Option (List Char)) : absOpt (optStr o) = o := by cases o <;> rfl

theorem optStr_absOpt {v : Val} (h : IsOptStr v) : optStr (absOpt v) = v := by
  cases v <;> first | rfl | exact h.elim

theorem absSt_encSt (st : C15.St) : absSt (encSt st) = toSt st := by
  obtain ⟨port, pn, v, vp, nm, err, cl⟩ := st
  simp only [absSt, encSt, toSt, absOpt_optStr]
  cases port <;> cases vp <;> rfl

theorem absWorld_encSt (st : C15.St) (p : PyIO.Port) (ext : Ext) :
    absWorld ⟨encSt st, p, ext⟩ = ebb3World st (scriptOf (ioOf ext p)) p.log p.nread := by
  simp only [absWorld, absSt_encSt, scriptOf, ioOf, List.map_map]
  rw [show rdEv ∘ absRd = Ebb3Gen.absRd from funext rdEv_absRd, show wrEv ∘ absWr = Ebb3Gen.absWr from funext wrEv_absWr]

theorem good_encSt (st : C15.St) {p : PyIO.Port} (ext : Ext) (h : PortOk p) : Good ⟨encSt st, p, ext⟩ where
  obj := objOk_encSt st
  ioR := h.io.1
  ioW := h.io.2
  ascii := fun _ hb => List.all_eq_true.mp h.ascii _ hb

theorem encSt_of_absSt {o : EBB3_Obj} (ho : ObjOk o) {st : C15.St} (h : absSt o = toSt st) : o = encSt st := by
  obtain ⟨port, pn, v, vp, nm, err, cl⟩ := st
  injection h with h1 h2 h3 h4 h5 h6 h7
  subst h1 h2 h3 h4 h5 h6 h7
  obtain ⟨pn, prt, v, vp, nm, err, cl⟩ := o
  simp only [encSt, optStr_absOpt ho.port_name, optStr_absOpt ho.version, optStr_absOpt ho.name, optStr_absOpt ho.err,
    optStr_absOpt ho.caller]
  congr 1
  · rcases ho.port with h | h <;> simp only at h <;> subst h <;> rfl
  · rcases ho.version_parsed with h | ⟨r, h⟩ <;> simp only at h <;> subst h <;> rfl

/-- a method bridged by `Ebb3Gen.ObjSim`, started at `encSt st`, on a run of the model that ends with the attributes
`st'`: it ends in `encSt st'`, on the port and `ext` it started with, whatever the port is -/
theorem out_of_objSim {st st' : C15.St} {p : PyIO.Port} {ext : Ext} {out : PyObj.Out EBB3_Obj}
    {res : Except Ebb3.PyExc Ebb3.Val} {sc : Ebb3.Script} {lg : List Ebb3.Str} {n : Nat}
    (h : ObjSim ⟨encSt st, p, ext⟩ out (res, ebb3World st' sc lg n)) :
    out = match (generalizing := false) res with
      | .ok v => .val (encVal v) ⟨encSt st', p, ext⟩
      | .error e => .exc (excOfEbb3 e) ⟨encSt st', p, ext⟩ := by
  cases res <;> obtain ⟨o', ho, rfl, haw⟩ := h <;>
    obtain rfl := encSt_of_absSt ho (st := st') (congrArg (·.st) haw).symm <;> rfl

end Abs

section Methods
open Ebb3Gen

theorem parse_version_gen (fuel : Nat) (sv : List Char) (st : C15.St) (p : PyIO.Port) (ext : Ext) :
    EBB3_parse_version fuel (.str sv) ⟨encSt st, p, ext⟩ =
      match C15.versionText sv with
      | Option.none => .val .none ⟨encSt st, p, ext⟩
      | some t => match Ebb3.parseRelease t with
        | some v => .val .none ⟨encSt { st with version := some t, vparsed := some v }, p, ext⟩
        | Option.none => .exc .invalidVersion ⟨encSt { st with version := some t }, p, ext⟩ := by
  have h := parse_version_obj fuel sv ⟨encSt st, p, ext⟩ (objOk_encSt st)
  rw [absWorld_encSt] at h
  change ObjSim _ _ ((Ebb3.parseVersionM sv >>= fun _ => pure Ebb3.Val.none) _) at h
  rw [Ebb3.bind_apply, parseVersionM_agree] at h
  unfold parseStmtP at h
  cases hvt : C15.versionText sv with
  | none => simp only [hvt, Ebb3.pure_apply] at h ⊢; exact out_of_objSim h
  | some t =>
    cases hp : Ebb3.parseRelease t <;> simp only [hvt, hp, Ebb3.pure_apply] at h ⊢ <;> exact out_of_objSim h

theorem min_version3_gen (fuel : Nat) (thr : List Char) (g : List Nat) (hg : Ebb3.parseRelease thr = some g)
    (st : C15.St) (p : PyIO.Port) (ext : Ext) :
    EBB3_min_version fuel (.str thr) ⟨encSt st, p, ext⟩ =
      match st.vparsed with
      | some v => .val (.bool (C15.versionGe v g)) ⟨encSt st, p, ext⟩
      | Option.none => .exc .typeError ⟨encSt st, p, ext⟩ := by
  have h := min_version_obj fuel thr ⟨encSt st, p, ext⟩ (objOk_encSt st)
  rw [absWorld_encSt] at h
  change ObjSim _ _ (Ebb3.minVersionM thr _) at h
  rw [minVersionM_agree hg] at h
  cases hv : st.vparsed <;> simp only [hv] at h ⊢ <;> exact out_of_objSim h

/-- what a run `r` of the regenerated `connect`, started on port `p`, owes to each way the model's head can end: a refusal
returns `False` in the model's state with at most two probes attempted (none under `c0`); a failure is an escaping
exception; nothing is claimed when the head passes -/
def HeadSpec (r : PyObj.Out EBB3_Obj) (p : PyIO.Port) (ext : Ext) (c0 : Prop) : Head → Prop
  | .refused st' _ => ∃ (p' : PyIO.Port) (k : Nat), r = .val (.bool false) ⟨encSt st', p', ext⟩ ∧ k ≤ 2 ∧
      p'.log = p.log ++ List.replicate k C15.vProbe ∧ (c0 → k = 0)
  | .failed _ _ _ => ∃ (c : PyIO.ExcClass) (w' : World EBB3_Obj), r = .exc c w'
  | .pass _ _ => True

theorem headSpec_true {r : PyObj.Out EBB3_Obj} {p : PyIO.Port} {ext : Ext} {c0 : Prop} {h : Head} {w' : World EBB3_Obj}
    (hs : HeadSpec r p ext c0 h) (hr : r = .val (.bool true) w') : ∃ st io, h = .pass st io := by
  cases h with
  | refused st' io' => obtain ⟨p', k, e, _⟩ := hs; rw [e] at hr; cases hr
  | failed e st' io' => obtain ⟨c, w'', e⟩ := hs; rw [e] at hr; cases hr
  | pass st io => exact ⟨st, io, rfl⟩

/-- **the regenerated `EBB3.connect`, up to the minimum-version check, is the head of `C15.connect`** (with the
runtime's parser for the reply's version text): every refusal returns `False` in exactly the model's state, having
attempted at most two probes; every failure of the head is an escaping exception. -/
theorem connect_head_gen (fuel : Nat) (P : C15.Params) (hmin : P.minVersion = ['3', '.', '0', '.', '2'])
    (st : C15.St) (hp : st.port = false) (given found caller : Option (List Char))
    (p : PyIO.Port) (ext : Ext) (hok : PortOk p)
    (hloc : EBB3__get_port_name fuel (optStr given) ⟨encSt st, p, ext⟩
      = .val .none ⟨encSt (locSt st given found), p, ext⟩) :
    HeadSpec (EBB3_connect fuel (optStr given) (optStr caller) ⟨encSt st, p, ext⟩) p ext
      (found = Option.none ∨ ext.openOk = false) (connectHeadP Ebb3.parseRelease P st given found (ioOf ext p)) := by
  have hm := connectBody_head P hmin st hp given caller found (ioOf ext p) p.log p.nread
  rw [← absWorld_encSt] at hm
  rw [optStr_eq_encReq, optStr_eq_encReq] at *
  have hfr := fr_EBB3_connect fuel (encReq given) (encReq caller) ⟨encSt st, p, ext⟩
  rcases connect_head fuel given caller found _ (good_encSt st ext hok) (by rw [gpnObj_encSt]; exact hloc) with
    hsim | ⟨env, w4, -, -, -, -, hmod⟩
  · change Sim _ (Ebb3.connectBody _ _ given caller found (C15.openAt (ioOf ext p) 0) _) at hsim
    generalize connectHeadP Ebb3.parseRelease P st given found (ioOf ext p) = h at hm ⊢
    cases h with
    | pass => trivial
    | failed e st' io' =>
      obtain ⟨e', aw, he, -⟩ := hm
      rw [he] at hsim
      rcases sim_cases hsim with ⟨v, w', h1, -⟩ | ⟨ex, w', -, h2, -⟩
      · cases h1
      · exact ⟨_, _, h2⟩
    | refused st' io' =>
      obtain ⟨k, sc, n', hk, hk0, e⟩ := hm
      rw [e] at hsim
      rcases sim_cases hsim with ⟨v, ⟨o, p', ext'⟩, h1, hout, hg'⟩ | ⟨ex, w', h1, -⟩
      · injection h1 with hv habs
        cases hv
        rw [hout] at hfr
        obtain rfl : ext' = ext := hfr.1
        -- the abstraction of the final world has the model's attributes and log: so has the world
        obtain rfl := encSt_of_absSt hg'.obj (congrArg (·.st) habs.symm)
        exact ⟨p', k, hout, hk, congrArg (·.out) habs.symm, hk0⟩
      · cases h1
  · -- both sides stand in front of the tail, which does not end as a refusal or a failure of the head does
    change Ebb3.connectBody _ _ given caller found (C15.openAt (ioOf ext p) 0) _ = _ at hmod
    rw [hmod] at hm
    obtain ⟨w', hres⟩ := enterFuture_res Ebb3.srcParams caller (absWorld w4)
    generalize connectHeadP Ebb3.parseRelease P st given found (ioOf ext p) = h at hm ⊢
    cases h with
    | pass => trivial
    | failed e st' io' =>
      obtain ⟨e', aw, he, hne⟩ := hm
      rcases hres with h | h <;> rw [h] at he <;> cases he
      exact absurd rfl hne
    | refused st' io' =>
      obtain ⟨k, sc, n', -, -, e⟩ := hm
      rcases hres with h | h <;> rw [h] at e <;> cases e

/-- `_get_port_name(given)` for a given name: `find_named` is the input `ext.findNamed` -/
theorem get_port_name_named (fuel : Nat) (g : List Char) (found : Option (List Char)) (st : C15.St)
    (p : PyIO.Port) (ext : Ext) (hext : ext.findNamed = optStr found) :
    EBB3__get_port_name fuel (optStr (some g)) ⟨encSt st, p, ext⟩
      = .val .none ⟨encSt (locSt st (some g) found), p, ext⟩ := by
  rw [← gpnObj_encSt]
  exact get_port_name_eval fuel (some g) found ⟨encSt st, p, ext⟩ (objOk_encSt st) (hext.trans (optStr_eq_encReq _))

end Methods

open C15

/-- the `C15` parameters of the regenerated code: the retry loop of `ebb_serial.query` decodes (that is the code
`C07_gen_bridge` was proved about); every version literal is the one standing in the regenerated code -/
def genParams : Params := { Params.std with decodeRetry := true }

theorem genParams_ok : GenParams genParams := ⟨rfl, rfl⟩
theorem genParams_min : genParams.minVersion = ['3', '.', '0', '.', '2'] := by decide +kernel

theorem ebb3_layer_gen (fuel : Nat) (thr : List Char) (g v : List Nat) (hthr : NoV thr) (hg : parseVersion thr = some g)
    (st : St) (p : PyIO.Port) (ext : Ext) (reply t : List Char) (ht : versionText reply = some t) (hnt : NoV t)
    (hv : parseVersion t = some v) :
    ∃ st1, EBB3_parse_version fuel (.str reply) ⟨encSt st, p, ext⟩ = .val .none ⟨encSt st1, p, ext⟩ ∧
      EBB3_min_version fuel (.str thr) ⟨encSt st1, p, ext⟩ = .val (.bool (vle g v)) ⟨encSt st1, p, ext⟩ := by
  have hpv := parse_version_gen fuel reply st p ext
  rw [ht] at hpv
  simp only [parseRelease_agree t hnt, hv] at hpv
  refine ⟨_, hpv, ?_⟩
  have hm := min_version3_gen fuel thr g (by rw [parseRelease_agree thr hthr]; exact hg)
    { st with version := some t, vparsed := some v } p ext
  simp only [versionGe_eq_vle] at hm
  exact hm

theorem order_gen (fuel : Nat) (l g : List Nat) (hl : l ≠ []) (hg : g ≠ []) (st : St) (p : PyIO.Port)
    (ext : Ext) (reply : List Char) (hr : versionText reply = some (render l)) :
    ∃ st1, EBB3_parse_version fuel (.str reply) ⟨encSt st, p, ext⟩ = .val .none ⟨encSt st1, p, ext⟩ ∧
      EBB3_min_version fuel (.str (render g)) ⟨encSt st1, p, ext⟩ = .val (.bool (vle g l)) ⟨encSt st1, p, ext⟩ :=
  ebb3_layer_gen fuel (render g) g l (noV_render g) (parseVersion_render g hg) st p ext reply _ hr
    (noV_render l) (parseVersion_render l hl)

end Plotink.C15Gen
