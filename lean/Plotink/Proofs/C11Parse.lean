import Plotink.Model.C11
import Plotink.Proofs.Strip
/-! `str.split()` (`pySplit`, `Model/PyFloat.lean`) on blanks and tokens; then `parTokens` on well-formed
preserveAspectRatio text: any casing, any non-empty separator runs of blanks/commas, optional `defer`.  Core Lean only. -/
namespace Plotink
namespace PyFloat

theorem splitGo_spaces (l r : List Char) (hl : ∀ c ∈ l, isPySpace c = true) :
    splitGo (l ++ r) [] = splitGo r [] := by
  induction l with
  | nil => rfl
  | cons c l ih =>
    have hc : isPySpace c = true := hl c (by simp)
    have := ih (fun d hd => hl d (by simp [hd]))
    simp [splitGo, hc, this]

theorem splitGo_tok (tok r cur : List Char) (ht : ∀ c ∈ tok, isPySpace c = false) :
    splitGo (tok ++ r) cur = splitGo r (tok.reverse ++ cur) := by
  induction tok generalizing cur with
  | nil => rfl
  | cons c tok ih =>
    have hc : isPySpace c = false := ht c (by simp)
    have := ih (c :: cur) (fun d hd => ht d (by simp [hd]))
    simp [splitGo, hc, this]

theorem splitGo_trailing (r : List Char) (hr : ∀ c ∈ r, isPySpace c = true) (cur : List Char) :
    splitGo r cur = if cur = [] then [] else [cur.reverse] := by
  induction r generalizing cur with
  | nil => rfl
  | cons c r ih =>
    have hc : isPySpace c = true := hr c (by simp)
    have h0 := ih (fun d hd => hr d (by simp [hd])) []
    by_cases hcur : cur = []
    · simp [splitGo, hc, hcur, h0]
    · simp [splitGo, hc, hcur, h0]

theorem splitGo_tok_sep (tok sp r : List Char) (hne : tok ≠ []) (ht : ∀ c ∈ tok, isPySpace c = false)
    (hsne : sp ≠ []) (hs : ∀ c ∈ sp, isPySpace c = true) :
    splitGo (tok ++ (sp ++ r)) [] = tok :: splitGo r [] := by
  rw [splitGo_tok tok _ [] ht]
  cases sp with
  | nil => exact absurd rfl hsne
  | cons c sp =>
    have hc : isPySpace c = true := hs c (by simp)
    have hrev : tok.reverse ++ [] ≠ [] := by simp [hne]
    simp only [List.cons_append, splitGo, hc, if_true, hrev, if_false]
    rw [splitGo_spaces sp r (fun d hd => hs d (by simp [hd]))]
    simp

theorem splitGo_tok_end (tok sp : List Char) (hne : tok ≠ []) (ht : ∀ c ∈ tok, isPySpace c = false)
    (hs : ∀ c ∈ sp, isPySpace c = true) :
    splitGo (tok ++ sp) [] = [tok] := by
  rw [splitGo_tok tok _ [] ht, splitGo_trailing sp hs]
  simp [hne]

def isSep (c : Char) : Bool := isPySpace c || c == ','
/-- what `.replace(',', ' ').lower()` does to one character -/
def sepLower (c : Char) : Char := lowerAscii (if c = ',' then ' ' else c)

theorem lower_commaToBlank (s : List Char) : lower (commaToBlank s) = s.map sepLower := by
  simp [lower, commaToBlank, sepLower, List.map_map, Function.comp_def]

theorem isPySpace_le (c : Char) (h : isPySpace c = true) : c.toNat ≤ 32 := by
  simp only [isPySpace, isCSpace, Bool.or_eq_true, Bool.and_eq_true, beq_iff_eq, decide_eq_true_eq] at h
  omega

theorem lowerAscii_space (c : Char) (h : isPySpace c = true) : lowerAscii c = c := by
  have := isPySpace_le c h
  have h2 : ¬ (65 ≤ c.toNat) := by omega
  simp [lowerAscii, h2]

theorem comma_toNat : (',' : Char).toNat = 44 := by decide
theorem blank_space : isPySpace ' ' = true := by decide

theorem sepLower_sep (c : Char) (h : isSep c = true) : isPySpace (sepLower c) = true := by
  simp only [isSep, Bool.or_eq_true, beq_iff_eq] at h
  rcases h with h | h
  · have hc : c ≠ ',' := by
      intro e; subst e; exact absurd h (by decide)
    simp only [sepLower, hc, if_false]
    rw [lowerAscii_space c h]; exact h
  · subst h; decide

theorem lowerAscii_nonspace (c : Char) (h : isPySpace c = false) : isPySpace (lowerAscii c) = false := by
  unfold lowerAscii
  by_cases hu : (65 ≤ c.toNat && c.toNat ≤ 90) = true
  · rw [if_pos hu]
    simp only [Bool.and_eq_true, decide_eq_true_eq] at hu
    have := toNat_ofNat_valid (n := c.toNat + 32) (.inl (by omega))
    simp only [isPySpace, isCSpace, this]
    simp
    omega
  · rw [if_neg hu]; exact h

theorem sepLower_nonsep (c : Char) (h : isSep c = false) : sepLower c = lowerAscii c ∧ isPySpace (lowerAscii c) = false := by
  simp only [isSep, Bool.or_eq_false_iff, beq_eq_false_iff_ne] at h
  exact ⟨by simp [sepLower, h.2], lowerAscii_nonspace c h.1⟩

theorem map_sepLower_seps (l : List Char) (h : ∀ c ∈ l, isSep c = true) : ∀ c ∈ l.map sepLower, isPySpace c = true := by
  intro c hc
  rw [List.mem_map] at hc
  obtain ⟨d, hd, rfl⟩ := hc
  exact sepLower_sep d (h d hd)

theorem map_sepLower_tok (t : List Char) (h : ∀ c ∈ t, isSep c = false) :
    t.map sepLower = lower t ∧ ∀ c ∈ lower t, isPySpace c = false := by
  constructor
  · unfold lower
    apply List.map_congr_left
    intro c hc; exact (sepLower_nonsep c (h c hc)).1
  · intro c hc
    unfold lower at hc
    rw [List.mem_map] at hc
    obtain ⟨d, hd, rfl⟩ := hc
    exact (sepLower_nonsep d (h d hd)).2

/-- `strip()` before `split()` is redundant -/
theorem split_sepLower_strip (s : List Char) :
    pySplit (lower (commaToBlank (pyStrip s))) = pySplit (lower (commaToBlank s)) := by
  obtain ⟨l, r, hl, hr, hs⟩ := stripBy_decomp isPySpace s
  have hl' : ∀ c ∈ l.map sepLower, isPySpace c = true :=
    map_sepLower_seps l (fun c hc => by simp [isSep, hl c hc])
  have hr' : ∀ c ∈ r.map sepLower, isPySpace c = true :=
    map_sepLower_seps r (fun c hc => by simp [isSep, hr c hc])
  rw [lower_commaToBlank, lower_commaToBlank]
  conv => rhs; rw [hs]
  simp only [pyStrip, pySplit, List.map_append]
  rw [splitGo_spaces _ _ hl']
  have key : ∀ (m cur : List Char), splitGo (m ++ r.map sepLower) cur = splitGo m cur := by
    intro m
    induction m with
    | nil =>
      intro cur
      rw [List.nil_append, splitGo_trailing _ hr']
      simp [splitGo]
    | cons c m ih =>
      intro cur
      simp only [List.cons_append, splitGo, ih]
  rw [key]

end PyFloat

namespace C11
open PyFloat

def optText : Option (List Char × List Char) → List Char
  | some (a, b) => a ++ b
  | none => []

/-- the text of a preserveAspectRatio attribute: separators, optional (`defer`, separators), the align
word, optional (separators, meetOrSlice word), separators -/
def parText (pre : List Char) (defer : Option (List Char × List Char)) (A : List Char)
    (mos : Option (List Char × List Char)) (post : List Char) : List Char :=
  pre ++ (optText defer ++ (A ++ (optText mos ++ post)))

def mosTok : Option (List Char × List Char) → List Char
  | some (_, M) => lower M
  | none => sMeet

def mosToks : Option (List Char × List Char) → List (List Char)
  | some (_, M) => [lower M]
  | none => []

theorem tail_split (A post : List Char) (mos : Option (List Char × List Char))
    (hpost : ∀ c ∈ post, isSep c = true)
    (hAne : A ≠ []) (hAsep : ∀ c ∈ A, isSep c = false)
    (hmos : ∀ s1 M, mos = some (s1, M) → s1 ≠ [] ∧ (∀ c ∈ s1, isSep c = true) ∧ M ≠ [] ∧
      ∀ c ∈ M, isSep c = false) :
    splitGo ((A ++ (optText mos ++ post)).map sepLower) [] = lower A :: mosToks mos := by
  have hpost' := map_sepLower_seps post hpost
  obtain ⟨hAmap, hAns⟩ := map_sepLower_tok A hAsep
  have hlAne : lower A ≠ [] := by simpa [lower] using hAne
  rw [List.map_append, hAmap]
  rcases mos with _ | ⟨s1, M⟩
  · simp only [optText, mosToks, List.nil_append]
    exact splitGo_tok_end _ _ hlAne hAns hpost'
  · obtain ⟨hs1ne, hs1, hMne, hM⟩ := hmos s1 M rfl
    obtain ⟨hMmap, hMns⟩ := map_sepLower_tok M hM
    have hlMne : lower M ≠ [] := by simpa [lower] using hMne
    simp only [optText, mosToks, List.map_append, List.append_assoc]
    rw [splitGo_tok_sep _ _ _ hlAne hAns (by simpa using hs1ne) (map_sepLower_seps s1 hs1), hMmap,
      splitGo_tok_end _ _ hlMne hMns hpost']

theorem parTokens_general (pre post A : List Char) (defer mos : Option (List Char × List Char))
    (hpre : ∀ c ∈ pre, isSep c = true) (hpost : ∀ c ∈ post, isSep c = true)
    (hA : A ≠ [] ∧ (∀ c ∈ A, isSep c = false) ∧ lower A ≠ sDefer)
    (hdefer : ∀ D s0, defer = some (D, s0) → (∀ c ∈ D, isSep c = false) ∧ lower D = sDefer ∧
      s0 ≠ [] ∧ ∀ c ∈ s0, isSep c = true)
    (hmos : ∀ s1 M, mos = some (s1, M) → s1 ≠ [] ∧ (∀ c ∈ s1, isSep c = true) ∧ M ≠ [] ∧
      ∀ c ∈ M, isSep c = false) :
    parTokens (some (parText pre defer A mos post)) = (lower A, mosTok mos) := by
  obtain ⟨hAne, hAsep, hAnd⟩ := hA
  have tail := tail_split A post mos hpost hAne hAsep hmos
  have hpre' := map_sepLower_seps pre hpre
  unfold parTokens
  simp only
  rw [split_sepLower_strip, lower_commaToBlank]
  unfold parText pySplit
  rw [List.map_append, splitGo_spaces _ _ hpre']
  rcases defer with _ | ⟨D, s0⟩
  · have e : optText (none : Option (List Char × List Char)) = [] := rfl
    rw [e, List.nil_append, tail]
    rcases mos with _ | ⟨s1, M⟩ <;> simp [hAnd, mosTok, mosToks]
  · obtain ⟨hD, hDl, hs0ne, hs0⟩ := hdefer D s0 rfl
    obtain ⟨hDmap, hDns⟩ := map_sepLower_tok D hD
    have hDne : lower D ≠ [] := by rw [hDl]; decide
    have e : optText (some (D, s0)) = D ++ s0 := rfl
    rw [e, List.append_assoc, List.map_append, List.map_append, hDmap,
      splitGo_tok_sep _ _ _ hDne hDns (by simpa using hs0ne) (map_sepLower_seps s0 hs0), tail, hDl]
    rcases mos with _ | ⟨s1, M⟩ <;> simp [mosTok, mosToks]

theorem parTokens_blank (s : List Char) (hs : ∀ c ∈ s, isSep c = true) :
    parTokens (some s) = (sXmidYmid, sMeet) := by
  unfold parTokens
  simp only
  rw [split_sepLower_strip, lower_commaToBlank]
  have := splitGo_trailing (s.map sepLower) (map_sepLower_seps s hs) []
  unfold pySplit
  rw [this]
  simp

end C11
end Plotink
