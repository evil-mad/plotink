import Plotink.Proofs.Contract

/-! The part of the rounding contract (`Proofs/Contract.lean`, DESIGN §5b) that C02 and C17 need, in namespace
`Plotink.T3`: `T3.Rep` is literally `Plotink.Rep`, and `T3.Contract` is `ContractBasic` without monotonicity. It is a
*hypothesis* of theorems, never an axiom.  It is implied by `ContractBasic` (`T3.contract_of_basic`), hence met by the
concrete rounding instance `Rounding.ieee` that the driver executes and that the correspondence run validates against
CPython/mpmath (`T3.contract_ieee`, `Proofs/ContractIeee.lean`): the hypotheses of C02/C17 are not vacuous for the
arithmetic that is actually modelled. -/

namespace Plotink
namespace T3

def Rep (p : Nat) (x : Rat) : Prop := ∃ (m e : Int), x = (m : Rat) * (2 : Rat) ^ e ∧ |m| < 2 ^ p

structure Contract (R : Rounding) : Prop where
  f64_exact : ∀ x, Rep 53 x → R.f64 x = x
  mp_exact : ∀ p x, Rep p x → R.mp p x = x
  f64_err : ∀ x, |R.f64 x - x| ≤ |x| / 2 ^ 53
  mp_err : ∀ p x, |R.mp p x - x| ≤ |x| / 2 ^ p

/-- the exactness half, in the form the lemmas shared with C01 take (`T3.Rep` unfolds to `Plotink.Rep`) -/
theorem Contract.toExact {R : Rounding} (h : Contract R) : ContractExact R := ⟨h.f64_exact, h.mp_exact⟩

theorem contract_exact : Contract Rounding.exact where
  f64_exact := fun _ _ => rfl
  mp_exact := fun _ _ _ => rfl
  f64_err := fun x => by
    simp only [Rounding.exact, id, sub_self, abs_zero]; positivity
  mp_err := fun p x => by
    simp only [Rounding.exact, id, sub_self, abs_zero]; positivity

end T3

theorem T3.rep_iff (p : Nat) (x : Rat) : T3.Rep p x ↔ Rep p x := Iff.rfl

theorem T3.contract_of_basic {R : Rounding} (h : ContractBasic R) : T3.Contract R where
  f64_exact := fun x hx => h.f64_exact x hx
  mp_exact := fun p x hx => h.mp_exact p x hx
  f64_err := h.f64_err
  mp_err := h.mp_err

end Plotink
