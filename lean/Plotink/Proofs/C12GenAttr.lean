import Plotink.Gen.getLength
import Plotink.Gen.getLengthInches
import Plotink.Proofs.C12Gen
import Mathlib.Tactic.FieldSimp

/-! # C12 — the source-regenerated document-attribute readers `getLength` / `getLengthInches`

Regenerated from `plotink/plot_utils.py`, with the document lookup replaced by the parameter `attr_name`
(`Props/C12.lean` says how).

Exact arithmetic, float literals as the doubles the source denotes (as in `Proofs/C12Gen.lean`).  Both functions write
the unit table the way `userUnitToUnits` does (`25.4`, `2.54`, `40.0 * 2.54`), so their factor is `genBackFactor`:
`getLength` is value × `genBackFactor u`, `getLengthInches` is value × `genBackFactor u` / 96, hence pixels =
96 × inches *exactly*.  `getLength` and `unitsToUserUnits` agree on every unit but `Q`; there `40.0 * 2.54` and `101.6`
are two different doubles, so the two agree up to relative `2^-52`. -/

namespace Plotink
namespace C12
open Py Py.Val PyFloat

theorem parse_nonempty (s : String) (v : Num) (u : List Char) (hp : parseLength (some s.toList) = some (v, u)) :
    Py.truthy (.str s) = true := by
  have hne : s ≠ "" := by
    rintro rfl
    have : parseLength (some ("" : String).toList) = none := by decide +kernel
    rw [this] at hp
    cases hp
  simp [Py.truthy, hne]

theorem mul_lit (p : Nat) (a b : Rat) : Py.mul Rounding.exact p (.flt a) (.flt b) = .flt (a * b) := mul_exact p a b

theorem len_tables (amb : Nat) (s : String) (dv : Val) (v g : Rat) (u : List Char)
    (hp : parseLength (some s.toList) = some (.fin v, u)) (hg : genBackFactor u = some g) :
    Gen.getLength Rounding.exact amb (.str s) dv = .flt (v * g) := by
  have hpar : Gen.parseLengthWithUnits Rounding.exact amb (.str s) = .tup [.flt v, Py.ofL u] :=
    (parse_bridge Rounding.exact amb s).2 v u hp
  unfold Gen.getLength
  simp only [parse_nonempty s _ u hp, if_true, hpar, Py.unpackN_tup2, Py.getItem_cons_zero, Py.getItem_cons_succ,
    Py.isNone, float_flt, mul_exact, unit_eval]
  rcases genBackFactor_cases u g hg with ⟨rfl | rfl, rfl⟩ | ⟨rfl, rfl⟩ | ⟨rfl, rfl⟩ | ⟨rfl, rfl⟩ | ⟨rfl | rfl, rfl⟩ |
      ⟨rfl, rfl⟩ | ⟨rfl, rfl⟩ <;>
    simp only [unit_eval]
  · rw [mul_one]
  · rw [mul_one]
  · exact truediv_mul _ _ _ _ lit25_4_ne
  · exact truediv_mul _ _ _ _ lit2_54_ne
  · exact truediv_mul _ _ _ _ (mul_ne_zero (by norm_num) lit2_54_ne)
  · exact truediv_mul _ _ _ _ (mul_ne_zero (by norm_num) lit2_54_ne)
  · exact truediv_mul _ _ _ _ (by norm_num)
  · exact truediv_mul _ _ _ _ (by norm_num)

/-- `value / c` as `getLengthInches` writes it, against the pixel factor `96 / c` -/
theorem truediv_inch (p : Nat) (v c : Rat) (hc : c ≠ 0) :
    Py.truediv Rounding.exact p (.flt v) (.flt c) = .flt (v * (96 / c) / 96) := by
  rw [Py.truediv_flt_flt _ _ _ hc]; exact congrArg Val.flt (by field_simp)

theorem inch_tables (amb : Nat) (s : String) (v g : Rat) (u : List Char)
    (hp : parseLength (some s.toList) = some (.fin v, u)) (hg : genBackFactor u = some g) :
    Gen.getLengthInches Rounding.exact amb (.str s) = .flt (v * g / 96) := by
  have hpar : Gen.parseLengthWithUnits Rounding.exact amb (.str s) = .tup [.flt v, Py.ofL u] :=
    (parse_bridge Rounding.exact amb s).2 v u hp
  unfold Gen.getLengthInches
  simp only [parse_nonempty s _ u hp, if_true, hpar, Py.unpackN_tup2, Py.getItem_cons_zero, Py.getItem_cons_succ,
    Py.isNone, float_flt, mul_exact, unit_eval]
  rcases genBackFactor_cases u g hg with ⟨rfl | rfl, rfl⟩ | ⟨rfl, rfl⟩ | ⟨rfl, rfl⟩ | ⟨rfl, rfl⟩ | ⟨rfl | rfl, rfl⟩ |
      ⟨rfl, rfl⟩ | ⟨rfl, rfl⟩ <;>
    simp only [unit_eval]
  · rw [mul_one]; exact Py.truediv_flt_flt _ _ _ (by norm_num)
  · rw [mul_one]; exact Py.truediv_flt_flt _ _ _ (by norm_num)
  · exact congrArg Val.flt (by field_simp)
  · exact truediv_inch _ _ _ lit25_4_ne
  · exact truediv_inch _ _ _ lit2_54_ne
  · exact truediv_inch _ _ _ (mul_ne_zero (by norm_num) lit2_54_ne)
  · exact truediv_inch _ _ _ (mul_ne_zero (by norm_num) lit2_54_ne)
  · exact truediv_inch _ _ _ (by norm_num)
  · exact truediv_inch _ _ _ (by norm_num)

theorem unit_factor_or_pct (s : Option (List Char)) (v : Num) (u : List Char) (hp : parseLength s = some (v, u)) :
    u = ['%'] ∨ ∃ g, genBackFactor u = some g := by
  rcases gen_factors s v u hp with h | rfl | ⟨g, -, -, hg⟩
  · exact Or.inl h
  · exact Or.inr ⟨96 / (40 * lit2_54), by decide +kernel⟩
  · exact Or.inr ⟨g, hg⟩

theorem gen_attr_px_inch (amb : Nat) (s : String) (dv : Val) (v : Rat) (u : List Char)
    (hp : parseLength (some s.toList) = some (.fin v, u)) (hu : u ≠ ['%']) :
    ∃ px inch, Gen.getLength Rounding.exact amb (.str s) dv = .flt px ∧
      Gen.getLengthInches Rounding.exact amb (.str s) = .flt inch ∧ px = 96 * inch := by
  rcases unit_factor_or_pct _ _ u hp with h | ⟨g, hg⟩
  · exact absurd h hu
  · exact ⟨v * g, v * g / 96, len_tables amb s dv v g u hp hg, inch_tables amb s v g u hp hg, by ring⟩

theorem len_percent (amb : Nat) (s : String) (v : Rat) (hp : parseLength (some s.toList) = some (.fin v, ['%']))
    (rv : Val) (r : Rat) (hr : IsNum rv r) :
    Gen.getLength Rounding.exact amb (.str s) rv = .flt (r * v / 100) := by
  have hpar := (parse_bridge Rounding.exact amb s).2 v _ hp
  rw [exact_f64] at hpar
  have htr := parse_nonempty s _ _ hp
  unfold Gen.getLength
  simp only [htr, if_true, hpar, Py.unpackN_tup2, Py.getItem_cons_zero, Py.getItem_cons_succ, Py.isNone, float_flt, hr.float,
    mul_exact, unit_eval]
  exact Py.truediv_flt_flt _ _ _ (by norm_num)

/-- percentages: `getLengthInches` has no reference to take them of — `None` (every rounding mode) -/
theorem inch_percent (R : Rounding) (amb : Nat) (s : String) (v : Rat)
    (hp : parseLength (some s.toList) = some (.fin v, ['%'])) :
    Gen.getLengthInches R amb (.str s) = .none_ := by
  have hpar := (parse_bridge R amb s).2 v _ hp
  have htr := parse_nonempty s _ _ hp
  unfold Gen.getLengthInches
  simp only [htr, if_true, hpar, Py.unpackN_tup2, Py.getItem_cons_zero, Py.getItem_cons_succ, Py.isNone]
  simp only [unit_eval]

theorem len_absent (R : Rounding) (amb : Nat) (dv : Val) :
    Gen.getLength R amb .none_ dv = Py.float_ R dv ∧ Gen.getLength R amb (.str "") dv = Py.float_ R dv := ⟨rfl, rfl⟩
theorem inch_absent (R : Rounding) (amb : Nat) :
    Gen.getLengthInches R amb .none_ = .none_ ∧ Gen.getLengthInches R amb (.str "") = .none_ := ⟨rfl, rfl⟩

theorem len_reject (R : Rounding) (amb : Nat) (s : String) (dv : Val) (hs : s ≠ "")
    (h : parseLength (some s.toList) = none) : Gen.getLength R amb (.str s) dv = .none_ := by
  have hpar := (parse_bridge R amb s).1 h
  have htr : Py.truthy (.str s) = true := by simp [Py.truthy, hs]
  unfold Gen.getLength
  simp only [htr, if_true, hpar, Py.unpackN_tup2, Py.getItem_cons_zero, Py.isNone]
theorem inch_reject (R : Rounding) (amb : Nat) (s : String)
    (h : parseLength (some s.toList) = none) : Gen.getLengthInches R amb (.str s) = .none_ := by
  have hpar := (parse_bridge R amb s).1 h
  unfold Gen.getLengthInches
  by_cases htr : Py.truthy (.str s) = true
  · simp only [htr, if_true, hpar, Py.unpackN_tup2, Py.getItem_cons_zero, Py.isNone]
  · simp only [htr, if_false, Bool.false_eq_true]

theorem len_eq_uu (amb : Nat) (s : String) (v : Rat) (u : List Char)
    (hp : parseLength (some s.toList) = some (.fin v, u)) (hQ : u ≠ ['Q']) (rv : Val) (r : Rat) (hr : IsNum rv r) :
    Gen.getLength Rounding.exact amb (.str s) rv = Gen.unitsToUserUnits Rounding.exact amb (.str s) rv := by
  rcases gen_factors _ _ u hp with rfl | h | ⟨f, -, h1, h2⟩
  · rw [len_percent amb s v hp rv r hr, (uu_percent amb s v hp).2 rv r hr, mul_comm]
  · exact absurd h hQ
  · rw [len_tables amb s rv v f u hp h2, uu_tables amb s rv v f u hp h1]

theorem len_uu_Q (amb : Nat) (s : String) (v : Rat) (hp : parseLength (some s.toList) = some (.fin v, ['Q'])) (rv : Val) :
    ∃ a b, Gen.getLength Rounding.exact amb (.str s) rv = .flt a ∧
      Gen.unitsToUserUnits Rounding.exact amb (.str s) rv = .flt b ∧ |a - b| ≤ |b| / 2 ^ 52 := by
  refine ⟨v * (96 / (40 * lit2_54)), v * (96 / lit101_6),
    len_tables amb s rv v _ _ hp (by decide +kernel), uu_tables amb s rv v _ _ hp (by decide +kernel), ?_⟩
  have e : v * (96 / (40 * lit2_54)) = v * (96 / lit101_6) * (lit101_6 / (40 * lit2_54)) := by
    unfold lit101_6 lit2_54; field_simp
  rw [e]
  exact rel_close _ _ q_lits.2

end C12
end Plotink
