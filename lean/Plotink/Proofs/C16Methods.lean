import Plotink.Proofs.C16Trace
/-! The modelled methods on a ready object, over `World.after` (the world after a list of requests).  First the model's
link on a conforming exchange; then each method: started in `w.after pre` it returns its value and ends in
`w.after (pre ++ reqs)`, `reqs` the request lines it sends (the composite methods and the nickname pair are stated from
`w` itself).  `motors_enable` is walked statement by statement. -/
namespace Plotink.C16

/-- the world after the exchanges of `reqs` (oldest first): the board has answered each, each is in `sent` -/
def World.after (w : World) (reqs : List Str) : World := ⟨w.py, boardAfter w.board reqs, reqs.reverse ++ w.sent⟩

theorem World.after_py (w : World) (reqs : List Str) : (w.after reqs).py = w.py := rfl

theorem World.after_nil (w : World) : w.after [] = w := rfl

namespace Exch
variable {b b' : Board} {l reply resp : Str}

theorem exchange_eq (h : Exch b l b' reply resp) : exchange b l = (b', resp) := by
  simp only [exchange, h.recv, h.resp_eq]

/-! The model's link on a conforming exchange.  The world is `w.after pre` throughout, so that a proof which walks a
method rewrites exchange after exchange and the trace stays one list. -/

theorem command {w : World} (hr : Ready w) (pre : List Str) (h : Exch (boardAfter w.board pre) l b' reply resp) :
    command (w.after pre) l = .ok (true, w.after (pre ++ [l])) := by
  obtain ⟨c0, c1, tl, rfl, hsep, hsw⟩ := h.shape
  unfold C16.command
  simp [hr.1, hr.2, h.trimmed, cmdName, hsep, h.exchange_eq, hsw, h.noErr, bind, Except.bind, World.after,
    h.after, boardAfter_nil, boardAfter_append]

theorem query {w : World} {seen : Str} (hr : Ready w) (pre : List Str) (h : Exch (boardAfter w.board pre) l b' reply resp)
    (hresp : resp = l.take 2 ++ ',' :: seen) : query (w.after pre) l = .ok (some seen, w.after (pre ++ [l])) := by
  obtain ⟨c0, c1, tl, rfl, hsep, hsw⟩ := h.shape
  subst hresp
  have hsw : startsWith (c0 :: c1 :: ',' :: seen) [c0, c1] = true := hsw
  have hn : isInfix sErr (c0 :: c1 :: ',' :: seen) = false := h.noErr
  unfold C16.query
  simp [hr.1, hr.2, h.trimmed, cmdName, hsep, h.exchange_eq, hsw, hn, bind, Except.bind, World.after,
    h.after, boardAfter_nil, boardAfter_append]

end Exch

/-- a successful step hands its value on; with it a proof runs a `do` block one step at a time, never unfolding
the branches not taken -/
theorem ok_bind {ε α β : Type} (a : α) (f : α → Except ε β) : (Except.ok a >>= f) = f a := rfl

theorem var_write_after {w : World} (hr : Ready w) (hwf : w.board.WF) (pre : List Str) {v i : Nat} (hv : v ≤ 255)
    (hi : i ≤ 31) : var_write (w.after pre) v i = .ok (.bool true, w.after (pre ++ [lineSL v i])) := by
  have hcmd :=
    (exch_SL _ hv hi (boardAfter_wf hwf pre).len).toExch.command hr pre
  simp [var_write, hr.1, hr.2, showInt_ofNat, ← lineSL.eq_1, hcmd, bind, Except.bind, World.after_py]

theorem var_read_after {w : World} (hr : Ready w) (hwf : w.board.WF) (pre : List Str) {i : Nat} (hi : i ≤ 31) :
    var_read (w.after pre) i =
      .ok (.int ((boardAfter w.board pre).vars.getD i 0), w.after (pre ++ [lineQL i])) := by
  have hq := (exch_QL _ hi (boardAfter_wf hwf pre).len).toExch.query hr pre rfl
  simp [var_read, hr.1, hr.2, showInt_ofNat, ← lineQL.eq_1, hq, bind, Except.bind, World.after_py, pyInt_showNat]

theorem writeLoop_cons {w : World} (hr : Ready w) (hwf : w.board.WF) (pre : List Str) {v i : Nat} (hv : v ≤ 255)
    (hi : i ≤ 31) (rest : List Int) :
    writeLoop (w.after pre) ((v : Int) :: rest) (i : Int) =
      writeLoop (w.after (pre ++ [lineSL v i])) rest ((i + 1 : Nat) : Int) := by
  rw [writeLoop, var_write_after hr hwf pre hv hi]; rfl

theorem var_write_int32_after {w : World} (hr : Ready w) (hwf : w.board.WF) {v : Int} (hv : IsInt32 v) {i : Nat}
    (hi : i ≤ 28) : var_write_int32 w v i = .ok (.bool true, w.after (w32Reqs v i)) := by
  unfold var_write_int32
  simp only [hr.1, hr.2, toBytes4_eq hv, Bind.bind, Except.bind, Bool.not_true, Bool.or_self, Bool.false_eq_true, if_false]
  rw [← w.after_nil, writeLoop_cons hr hwf _ (beByte_le v 0) (by omega),
    writeLoop_cons hr hwf _ (beByte_le v 1) (by omega), writeLoop_cons hr hwf _ (beByte_le v 2) (by omega),
    writeLoop_cons hr hwf _ (beByte_le v 3) (by omega), writeLoop]
  simp only [World.after_py, hr.2, Bool.false_eq_true, if_false]
  rfl

/-- `off` is the literal as it stands in the model's `[0, 1, 2, 3]`, `k` the same number in `ℕ` -/
theorem readLoop_cons {w : World} (hr : Ready w) (hwf : w.board.WF) (pre : List Str) {i : Nat} (k : Nat) (off : Int)
    (hoff : off = k) (hi : i + k ≤ 31) (rest : List Int) :
    readLoop (w.after pre) (i : Int) (off :: rest) =
      (readLoop (w.after (pre ++ [lineQL (i + k)])) (i : Int) rest).map fun r =>
        (.int ((boardAfter w.board pre).vars.getD (i + k) 0) :: r.1, r.2) := by
  rw [readLoop, hoff, ← Int.natCast_add, var_read_after hr hwf pre hi]
  rfl

theorem var_read_int32_after {w : World} (hr : Ready w) (hwf : w.board.WF) {i : Nat} (hi : i ≤ 28) :
    var_read_int32 w i = .ok (.int (Spec.decode32 (w.board.vars.getD i 0) (w.board.vars.getD (i + 1) 0)
      (w.board.vars.getD (i + 2) 0) (w.board.vars.getD (i + 3) 0)), w.after (r32Reqs i)) := by
  unfold var_read_int32
  simp only [hr.1, hr.2, Bind.bind, Except.bind, Bool.not_true, Bool.or_self, Bool.false_eq_true, if_false]
  rw [← w.after_nil, readLoop_cons hr hwf _ 0 0 rfl (by omega), readLoop_cons hr hwf _ 1 1 rfl (by omega),
    readLoop_cons hr hwf _ 2 2 rfl (by omega), readLoop_cons hr hwf _ 3 3 rfl (by omega), readLoop]
  simp only [Except.map, World.after_py, after_QL, boardAfter_nil, hr.2, List.cons_append, List.nil_append,
    Bool.false_eq_true, if_false, fromBytes4_nat (getD_byte hwf _) (getD_byte hwf _) (getD_byte hwf _) (getD_byte hwf _)]
  rfl

theorem write_nickname_after {w : World} (hr : Ready w) {s : Str} (hs : NickOK s) :
    write_nickname w s = .ok (.bool true,
      { w.after [cST ++ ',' :: strip s] with py := { w.py with name := some (strip s) } }) := by
  have hcmd : command w _ = _ := (exch_ST w.board hs).toExch.command hr []
  simp [write_nickname, hr.1, hr.2, hcmd, Bind.bind, Except.bind, World.after_py]

theorem query_nickname_after {w : World} (hr : Ready w) (herr : isInfix sErr w.board.name = false) :
    query_nickname w = .ok (.none, { w.after [cQT] with py := { w.py with name := some (strip w.board.name) } }) := by
  have hq : query w cQT = _ := (exch_QT w.board herr).query hr [] rfl
  simp [query_nickname, hr.1, hr.2, hq, Bind.bind, Except.bind, isspace_of_last (rstrip_last w.board.name), strip_rstrip,
    World.after_py]

theorem motors_query_enabled_after {w : World} (hr : Ready w) (pre : List Str)
    (hm : 1 ≤ (boardAfter w.board pre).mode ∧ (boardAfter w.board pre).mode ≤ 5) :
    motors_query_enabled (w.after pre) = .ok (some (qeRes (boardAfter w.board pre)), w.after (pre ++ [cQE])) := by
  have hq := (exch_QE _).toExch.query hr pre rfl
  simp only [motors_query_enabled, World.after_py, hr.1, hr.2, hq, bind, Except.bind, Bool.not_true, Bool.or_self,
    Bool.false_eq_true, if_false, splitOn_qePayload]
  simp [index, pyInt_showNat, resMap_qe hm, qeRes]

/-- an optional step in front of a continuation, as `do` notation lays it out -/
theorem ite_bind_pure {ε α β : Type} (A : Prop) [Decidable A] (x : Except ε α) (a : α) (f : α → Except ε β) :
    (if A then x >>= f else pure a >>= f) = (if A then x else pure a) >>= f := by
  split <;> rfl

theorem opt_command {w : World} (A : Prop) [Decidable A] {pre : List Str} {l : Str}
    (h : command (w.after pre) l = .ok (true, w.after (pre ++ [l]))) :
    (if A then command (w.after pre) l >>= fun x => pure x.2 else pure (w.after pre) : Except Exc World) =
      .ok (w.after (pre ++ if A then [l] else [])) := by
  split
  · rw [h]; rfl
  · rw [List.append_nil]; rfl

theorem motors_enable_after {w : World} (hr : Ready w) (hm : 1 ≤ w.board.mode ∧ w.board.mode ≤ 5) (r1 r2 : Int) :
    motors_enable w r1 r2 = .ok (.none, w.after (meReqs w.board (Spec.clamp r1) (Spec.clamp r2))) := by
  have h1 := clamp_range r1
  have h2 := clamp_range r2
  have hEM := fun pre (a c : Int) ha hc => (exch_EM (boardAfter w.board pre) (a := a) (c := c) ha hc).toExch.command hr pre
  unfold motors_enable
  rw [if_neg (by simp [hr.1, hr.2]), clamp05_eq, clamp05_eq]
  dsimp only
  rw [← w.after_nil, ite_bind_pure, opt_command _ ((exch_CU50 _).toExch.command hr _), ok_bind]
  split
  · next hB =>
    rw [motors_query_enabled_after hr _ (by rw [List.nil_append, (optCU_motors _ _).2]; exact hm), ok_bind]
    dsimp only
    rw [ite_bind_pure, opt_command _ (hEM _ _ _ h2 h2), ok_bind, hEM _ _ _ h1 h2, ok_bind]
    simp only [meReqs, if_pos hB, List.nil_append, List.append_assoc, List.cons_append, (optCU_motors _ _).1]
    rfl
  · next hB =>
    rw [hEM _ _ _ h1 h2, ok_bind]
    simp only [meReqs, if_neg hB, List.nil_append]
    rfl

end Plotink.C16
