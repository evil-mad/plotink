import Plotink.Model.C20
/-! `xml_escape` as an instance of a fact about any table of one-character replacements: `s.replace(c₁, r₁).replace(c₂, r₂)…`
is the one-pass map "each character becomes the text of the first row whose pattern it is" whenever no replacement text
contains the pattern of a later row (`seqReplace_eq`).  What the one-pass map produces is read off the table
(`oneOf_cases`), so the facts about `escChar` are facts about the five rows; then how `unescape` and `parse` read the
escaped text back: the strict parser by induction over the escaped text, the lenient decoder because it agrees with the
parser wherever that accepts (`unescape_of_parse`).  Core Lean only. -/
namespace Plotink
namespace C20

theorem replaceChar_cons (c : Char) (r : List Char) (x : Char) (s : List Char) :
    replaceChar c r (x :: s) = (if x = c then r else [x]) ++ replaceChar c r s := by
  simp [replaceChar]

/-- what the rows make of one character: the text of the first row whose pattern it is, else the character -/
def oneOf : List (Char × List Char) → Char → List Char
  | [], x => [x]
  | (c, r) :: t, x => if x = c then r else oneOf t x

/-- `s.replace(c₁, r₁).replace(c₂, r₂)…`, in the order of the rows -/
def seqReplace (tbl : List (Char × List Char)) (s : List Char) : List Char :=
  tbl.foldl (fun t p => replaceChar p.1 p.2 t) s

theorem flatMap_congr {α β} {l : List α} {f g : α → List β} (h : ∀ a ∈ l, f a = g a) : l.flatMap f = l.flatMap g := by
  rw [List.flatMap_def, List.flatMap_def, List.map_congr_left h]

theorem oneOf_of_no_row {t : List (Char × List Char)} {x : Char} (h : ∀ p ∈ t, p.1 ≠ x) : oneOf t x = [x] := by
  induction t with
  | nil => rfl
  | cons p t ih =>
    rw [oneOf, if_neg (h p List.mem_cons_self).symm, ih fun q hq => h q (List.mem_cons_of_mem _ hq)]

/-- which row decided -/
theorem oneOf_cases (t : List (Char × List Char)) (x : Char) :
    (x, oneOf t x) ∈ t ∨ ((∀ p ∈ t, p.1 ≠ x) ∧ oneOf t x = [x]) := by
  induction t with
  | nil => exact .inr ⟨fun _ h => (nomatch h), rfl⟩
  | cons p t ih =>
    rw [oneOf]
    by_cases h : x = p.1
    · rw [if_pos h, h]; exact .inl List.mem_cons_self
    · rw [if_neg h]
      rcases ih with m | ⟨n, e⟩
      · exact .inl (List.mem_cons_of_mem _ m)
      · refine .inr ⟨fun q hq => ?_, e⟩
        rcases List.mem_cons.1 hq with rfl | hq
        · exact Ne.symm h
        · exact n q hq

/-- no replacement text contains the pattern of a later row, so a later `replace` leaves what an earlier one has put in
alone -/
theorem seqReplace_eq (tbl : List (Char × List Char)) (h : tbl.Pairwise fun p q => q.1 ∉ p.2) (s : List Char) :
    seqReplace tbl s = s.flatMap (oneOf tbl) := by
  induction tbl generalizing s with
  | nil => exact (List.flatMap_singleton' s).symm
  | cons p t ih =>
    obtain ⟨hp, ht⟩ := List.pairwise_cons.1 h
    show seqReplace t (replaceChar p.1 p.2 s) = _
    rw [ih ht, replaceChar, List.flatMap_assoc]
    refine flatMap_congr fun x _ => ?_
    rw [oneOf]
    split
    · -- the text just put in has no pattern of `t`
      conv => rhs; rw [← List.flatMap_singleton' p.2]
      exact flatMap_congr fun y hy => oneOf_of_no_row fun q hq e => hp q hq (e ▸ hy)
    · exact List.flatMap_singleton _ x

/-- the rows of `xml_escape`, in the order of the source text -/
def xmlRows : List (Char × List Char) := [('&', eAmp), ('<', eLt), ('>', eGt), ('"', eQuot), ('\'', eApos)]

-- not `rfl`: the unifier would evaluate the fold the slow way, unfolding `replaceChar` as it goes
theorem escape_eq_seq (s : List Char) : escape s = seqReplace xmlRows s := by
  simp only [escape, seqReplace, xmlRows, List.foldl_cons, List.foldl_nil]
theorem escChar_eq_oneOf (c : Char) : escChar c = oneOf xmlRows c := rfl

theorem escape_eq_escapeMap (s : List Char) : escape s = escapeMap s := by
  rw [escape_eq_seq, seqReplace_eq xmlRows (by decide), escapeMap]
  exact flatMap_congr fun c _ => (escChar_eq_oneOf c).symm

theorem escapeMap_nil : escapeMap [] = [] := rfl

theorem escapeMap_cons (c : Char) (s : List Char) : escapeMap (c :: s) = escChar c ++ escapeMap s := List.flatMap_cons

/-- the four characters that must not occur at all -/
def Bare (c : Char) : Prop := c = '<' ∨ c = '>' ∨ c = '"' ∨ c = '\''

instance (c : Char) : Decidable (Bare c) := by unfold Bare; infer_instance

theorem escChar_cases (c : Char) : (c, escChar c) ∈ xmlRows ∨ (c ≠ '&' ∧ ¬ Bare c ∧ escChar c = [c]) := by
  rcases oneOf_cases xmlRows c with m | ⟨n, e⟩
  · exact .inl m
  · refine .inr ⟨(n ('&', eAmp) (by decide)).symm, ?_, e⟩
    rintro (rfl | rfl | rfl | rfl)
    · exact n ('<', eLt) (by decide) rfl
    · exact n ('>', eGt) (by decide) rfl
    · exact n ('"', eQuot) (by decide) rfl
    · exact n ('\'', eApos) (by decide) rfl

theorem escChar_no_bare (c x : Char) (hx : x ∈ escChar c) : ¬ Bare x := by
  rcases escChar_cases c with m | ⟨-, hb, e⟩
  · exact (by decide : ∀ p ∈ xmlRows, ∀ x ∈ p.2, ¬ Bare x) _ m x hx
  · rw [e, List.mem_singleton] at hx
    exact hx ▸ hb

theorem escapeMap_no_bare (s : List Char) (x : Char) (hx : x ∈ escapeMap s) : ¬ Bare x := by
  unfold escapeMap at hx
  rw [List.mem_flatMap] at hx
  obtain ⟨c, _, hc⟩ := hx
  exact escChar_no_bare c x hc

theorem escChar_amp_split (c : Char) (pre post : List Char) (h : escChar c = pre ++ '&' :: post) :
    pre = [] ∧ escChar c ∈ entities := by
  rcases escChar_cases c with m | ⟨hc, -, e⟩
  · obtain ⟨he, hd, tl⟩ := (by decide : ∀ p ∈ xmlRows, p.2 ∈ entities ∧ p.2.head? = some '&' ∧ '&' ∉ p.2.tail) _ m
    refine ⟨?_, he⟩
    rw [h] at hd tl
    cases pre with
    | nil => rfl
    | cons p pre' => exact absurd (List.mem_append_right pre' List.mem_cons_self) tl
  · rw [e] at h
    have : '&' ∈ [c] := h ▸ List.mem_append_right pre List.mem_cons_self
    exact absurd (List.mem_singleton.1 this).symm hc

theorem escapeMap_amp (s : List Char) : ∀ (pre post : List Char), escapeMap s = pre ++ '&' :: post →
    ∃ e ∈ entities, e <+: '&' :: post := by
  induction s with
  | nil => intro pre post h; rw [escapeMap_nil] at h; simp at h
  | cons c s ih =>
    intro pre post h
    rw [escapeMap_cons, List.append_eq_append_iff] at h
    rcases h with ⟨a', hpre, hs⟩ | ⟨c', hc, hrest⟩
    · exact ih a' post hs
    · cases c' with
      | nil =>
        simp only [List.nil_append] at hrest
        exact ih [] post (by simpa using hrest.symm)
      | cons x c'' =>
        simp only [List.cons_append, List.cons.injEq] at hrest
        obtain ⟨hx, hpost⟩ := hrest
        subst hx
        obtain ⟨hp, hent⟩ := escChar_amp_split c pre c'' hc
        subst hp
        simp only [List.nil_append] at hc
        refine ⟨escChar c, hent, ?_⟩
        rw [hc, hpost]
        exact ⟨escapeMap s, by simp⟩

theorem parse_plain (p : Place) (c : Char) (r : List Char) (h : c ≠ '&') :
    parse p (c :: r) = if breaks p c then none else (parse p r).map (c :: ·) := by
  rw [parse] <;> simp [h]

theorem parse_escChar (p : Place) (c : Char) (r : List Char) :
    parse p (escChar c ++ r) = (parse p r).map (c :: ·) := by
  rcases escChar_cases c with m | ⟨hc, hb, e⟩
  · revert m
    generalize escChar c = t
    simp only [xmlRows, List.mem_cons, Prod.mk.injEq, List.not_mem_nil, or_false]
    rintro (⟨rfl, rfl⟩ | ⟨rfl, rfl⟩ | ⟨rfl, rfl⟩ | ⟨rfl, rfl⟩ | ⟨rfl, rfl⟩) <;>
      simp only [eAmp, eLt, eGt, eQuot, eApos, List.cons_append, List.nil_append, parse]
  · have hbr : breaks p c = false := by
      simp only [Bare, not_or] at hb
      simp [breaks, hc, hb]
    rw [e, List.singleton_append, parse_plain p c r hc, hbr]; rfl

theorem parse_escapeMap (p : Place) (s : List Char) : parse p (escapeMap s) = some s := by
  induction s with
  | nil => rw [escapeMap_nil, parse]
  | cons c s ih => rw [escapeMap_cons, parse_escChar, ih]; rfl

/-- where the strict parser accepts, it reads what the lenient decoder reads (the two have the same patterns) -/
theorem unescape_of_parse (p : Place) (s : List Char) : ∀ t, parse p s = some t → unescape s = t := by
  -- the cases of `parse.induct`: 1–5 an entity (the last alternative below), 6 a character that breaks, 7 any other
  -- character, 8 the end
  fun_induction parse p s with
  | case6 => exact fun _ h => nomatch h
  | case7 c r h1 h2 h3 h4 h5 hb ih =>
    intro t h
    obtain ⟨t', ht', rfl⟩ := Option.map_eq_some_iff.1 h
    rw [unescape.eq_6 _ _ h1 h2 h3 h4 h5, ih t' ht']
  | case8 => exact fun _ h => Option.some.inj h ▸ unescape.eq_7
  | _ r ih =>
    intro t h
    obtain ⟨t', ht', rfl⟩ := Option.map_eq_some_iff.1 h
    rw [unescape, ih t' ht']

end C20
end Plotink
