import Plotink.Proofs.C16Basic
import Plotink.PyIO
/-! The board, request line by request line: how it parses the lines the methods format and what it does with each, the
board and the reply lines after a list of requests (`boardAfter`, `boardReads`),
and `Board.WF` as an invariant of the board whatever request lines arrive. -/
namespace Plotink.C16

theorem boardRecv_line (b : Board) (cmd : Str) :
    boardRecv b (cmd ++ ['\r']) =
      ((boardStep b (parseReq cmd)).1, renderReply (boardStep b (parseReq cmd)).2) := by
  unfold boardRecv
  simp

/-- the request lines of `var_write` / `var_read` for a value and an index that are naturals -/
def lineSL (v i : Nat) : Str := cSL ++ ',' :: (showNat v ++ ',' :: showNat i)

def lineQL (i : Nat) : Str := cQL ++ ',' :: showNat i

theorem parseReq_SL (v i : Nat) : parseReq (lineSL v i) = .sl v i := by
  rw [lineSL, parseReq, if_neg (by simp [startsWith, cSL, cST]), splitOn_append_sep _ (by decide),
    splitOn_append_sep _ (comma_not_mem_showNat v), splitOn_noSep (comma_not_mem_showNat i)]
  simp [parseInt?_showNat]

theorem parseReq_QL (i : Nat) : parseReq (lineQL i) = .ql i := by
  rw [lineQL, parseReq, if_neg (by simp [startsWith, cQL, cST]), splitOn_append_sep _ (by decide),
    splitOn_noSep (comma_not_mem_showNat i)]
  simp [parseInt?_showNat, cQL, cSL]

theorem parseReq_EM (a b : Nat) : parseReq (cEM ++ ',' :: (showNat a ++ ',' :: showNat b)) = .em a (some b) := by
  rw [parseReq, if_neg (by simp [startsWith, cEM, cST]), splitOn_append_sep _ (by decide),
    splitOn_append_sep _ (comma_not_mem_showNat a), splitOn_noSep (comma_not_mem_showNat b)]
  simp [parseInt?_showNat, cEM, cSL, cQL, cST, cQT]

theorem parseReq_ST (n : Str) : parseReq (cST ++ ',' :: n) = .st n := by
  rw [parseReq, if_pos (by simp [startsWith, cST])]
  simp [cST]

theorem parseReq_QT : parseReq cQT = .qt := by decide

theorem parseReq_QE : parseReq cQE = .qe := by decide

theorem parseReq_CU50 : parseReq cmdCU50 = .cu 50 0 := by decide

theorem step_SL (b : Board) {v i : Nat} (hv : v ≤ 255) (hi : i ≤ 31) (hl : i < b.vars.length) :
    boardStep b (parseReq (lineSL v i)) = ({ b with vars := b.vars.set i v }, .ack cSL) := by
  have h1 : (v : Int) ≤ 255 := by omega
  have h2 : (i : Int) ≤ 31 := by omega
  rw [parseReq_SL]
  simp [boardStep, h1, h2, hl]

theorem getD_of_lt {l : List Nat} {n : Nat} (h : n < l.length) : l[n]? = some (l.getD n 0) := by
  simp [List.getD_eq_getElem?_getD, List.getElem?_eq_getElem h]

theorem step_QL (b : Board) {i x : Nat} (hi : i ≤ 31) (hx : b.vars[i]? = some x) :
    boardStep b (parseReq (lineQL i)) = (b, .data cQL (showNat x)) := by
  have h2 : (i : Int) ≤ 31 := by omega
  rw [parseReq_QL]
  simp [boardStep, h2, hx]

theorem step_ST (b : Board) {nk : Str} (hl : nk.length ≤ 16) :
    boardStep b (parseReq (cST ++ ',' :: nk)) = ({ b with name := nk }, .ack cST) := by
  rw [parseReq_ST]; simp [boardStep, hl]

theorem step_QT (b : Board) : boardStep b (parseReq cQT) = (b, .data cQT b.name) := by
  rw [parseReq_QT]; rfl

/-- the payload of the board's answer to `QE` -/
def qePayload (b : Board) : Str :=
  showNat (if b.m1 = true then qeCode b.mode else 0) ++ ',' :: showNat (if b.m2 = true then qeCode b.mode else 0)

theorem splitOn_qePayload (b : Board) : splitOn ',' (qePayload b) =
    [showNat (if b.m1 = true then qeCode b.mode else 0), showNat (if b.m2 = true then qeCode b.mode else 0)] := by
  rw [qePayload, splitOn_append_sep _ (comma_not_mem_showNat _), splitOn_noSep (comma_not_mem_showNat _)]

theorem step_QE (b : Board) : boardStep b (parseReq cQE) = (b, .data cQE (qePayload b)) := by
  rw [parseReq_QE]; simp [boardStep, qePayload]

theorem step_CU50 (b : Board) : boardStep b (parseReq cmdCU50) = ({ b with autoEnable := false }, .ack cCU) := by
  rw [parseReq_CU50]; simp [boardStep]

/-- the board after an accepted `EM,a,c` -/
def emBoard (b : Board) (a c : Int) : Board :=
  { b with mode := if a = 0 then b.mode else a.toNat, m1 := decide (a ≠ 0), m2 := decide (c ≠ 0) }

theorem step_EM (b : Board) {a c : Nat} (ha : a ≤ 5) (hc : c ≤ 5) :
    boardStep b (parseReq (cEM ++ ',' :: (showNat a ++ ',' :: showNat c))) = (emBoard b a c, .ack cEM) := by
  have h1 : (a : Int) ≤ 5 := by omega
  have h2 : (c : Int) ≤ 5 := by omega
  rw [parseReq_EM]
  simp [boardStep, h1, h2, em2Ok, emBoard]

/-- the board's reply lines to the request lines `reqs` (each sent with its CR), in order -/
def boardReads (b : Board) : List Str → List PyIO.Rd
  | [] => []
  | l :: ls => .line (boardRecv b (l ++ ['\r'])).2 :: boardReads (boardRecv b (l ++ ['\r'])).1 ls

def boardAfter (b : Board) : List Str → Board
  | [] => b
  | l :: ls => boardAfter (boardRecv b (l ++ ['\r'])).1 ls

theorem boardReads_append (b : Board) (r1 r2 : List Str) :
    boardReads b (r1 ++ r2) = boardReads b r1 ++ boardReads (boardAfter b r1) r2 := by
  induction r1 generalizing b with
  | nil => rfl
  | cons l ls ih => simp [boardReads, boardAfter, ih]

theorem boardAfter_append (b : Board) (r1 r2 : List Str) :
    boardAfter b (r1 ++ r2) = boardAfter (boardAfter b r1) r2 := by
  induction r1 generalizing b with
  | nil => rfl
  | cons l ls ih => simp [boardAfter, ih]

theorem boardAfter_nil (b : Board) : boardAfter b [] = b := rfl

/-- a `QL` request leaves the board as it is, in range or not -/
theorem after_QL (b : Board) (i : Nat) (ls : List Str) : boardAfter b (lineQL i :: ls) = boardAfter b ls := by
  rw [boardAfter, boardRecv_line, parseReq_QL]
  simp only [boardStep]
  split
  · split <;> rfl
  · rfl

theorem after_QT (b : Board) (ls : List Str) : boardAfter b (cQT :: ls) = boardAfter b ls := by
  rw [boardAfter, boardRecv_line, parseReq_QT]; rfl

theorem boardStep_wf {b : Board} (h : b.WF) (r : Request) : (boardStep b r).1.WF := by
  cases r with
  | sl v i =>
    simp only [boardStep]
    split
    · refine ⟨by simp [h.len], fun x hx => ?_, h.mode⟩
      rcases List.mem_or_eq_of_mem_set hx with hx | rfl
      · exact h.byte x hx
      · omega
    · exact h
  | em e1 e2 =>
    simp only [boardStep]
    split
    · refine ⟨h.len, h.byte, ?_⟩
      have := h.mode
      show 1 ≤ (if e1 = 0 then b.mode else e1.toNat) ∧ (if e1 = 0 then b.mode else e1.toNat) ≤ 5
      split <;> omega
    · exact h
  | ql i =>
    simp only [boardStep]
    split
    · split <;> exact h
    · exact h
  | st n => simp only [boardStep]; split <;> exact ⟨h.len, h.byte, h.mode⟩
  | cu p v => simp only [boardStep]; split <;> exact ⟨h.len, h.byte, h.mode⟩
  | _ => exact h

theorem boardAfter_wf {b : Board} (h : b.WF) (reqs : List Str) : (boardAfter b reqs).WF := by
  induction reqs generalizing b with
  | nil => exact h
  | cons l ls ih =>
    apply ih
    rw [boardRecv_line]
    exact boardStep_wf h _

end Plotink.C16
