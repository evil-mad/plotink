import Plotink.Proofs.C05Frame
import Plotink.Proofs.C05Decode
/-!
The generic "every request method returns" theorem `total_of_sound`: for any device `D` and any invariant `I` of
worlds for which `D` is *sound* — from the worlds of `I` every exchange returns and keeps `I`, and an accepted reply to a
decoded query carries a well-formed payload (`Sound`; what `command`, `query`, `query_statusbyte` then do follows by the
normal forms of `Proofs/Ebb3Verdict.lean`: `Sound.cmd`, `Sound.qry`, `Sound.qg`) — every request method, with in-domain
arguments, returns (no exception) and keeps `I`.  Instantiated twice: scripts over the fault alphabet (C05_no_raise) and
conforming devices (C05_attribution).  Core Lean only.
-/
namespace Plotink
namespace Ebb3

variable {σ : Type}

def Total {α : Type} (I : World σ → Prop) (x : M σ α) : Prop :=
  ∀ w, I w → ∃ v w', x w = (.ok v, w') ∧ I w'

theorem Total.pure {α : Type} {I : World σ → Prop} (a : α) : Total I (Pure.pure a : M σ α) :=
  fun w hI => ⟨a, w, rfl, hI⟩

theorem Total.bind {α β : Type} {I : World σ → Prop} {x : M σ α} {f : α → M σ β} (hx : Total I x)
    (hf : ∀ a, Total I (f a)) : Total I (x >>= f) := by
  intro w hI
  obtain ⟨a, w1, h1, hI1⟩ := hx w hI
  obtain ⟨b, w2, h2, hI2⟩ := hf a w1 hI1
  exact ⟨b, w2, by rw [bind_ok h1]; exact h2, hI2⟩

theorem errIsNone_total {I : World σ → Prop} : Total I (errIsNone : M σ Val) := fun w hI => ⟨_, w, rfl, hI⟩

theorem Total.ite {α : Type} {I : World σ → Prop} {c : Prop} [Decidable c] {x y : M σ α} (hx : Total I x)
    (hy : Total I y) : Total I (if c then x else y) := by
  split <;> assumption

theorem total_guarded {I : World σ → Prop} (p : Prog σ) (fv : Val) (hg : p.guard = some fv)
    (hbody : ∀ w, I w → w.st.blocked = false → ∃ v w', p.body w = (.ok v, w') ∧ I w') : Total I p.run := by
  intro w hI
  rcases Prog.run_cases p fv hg w with hr | ⟨hb, hr⟩ <;> rw [hr]
  · exact ⟨fv, w, rfl, hI⟩
  · exact hbody w hI hb

theorem Total.guarded {I : World σ → Prop} (p : Prog σ) (fv : Val) (hg : p.guard = some fv) (hb : Total I p.body) :
    Total I p.run :=
  total_guarded p fv hg fun w hI _ => hb w hI

theorem errTruthy_isSome {st : St} (h : errTruthy st = true) : st.err.isSome = true := by
  unfold errTruthy at h
  split at h
  · rename_i e he; simp [he]
  · cases h

theorem errTruthy_of_none {st : St} (h : st.err = Option.none) : errTruthy st = false := by
  simp [errTruthy, h]

theorem errTruthy_some {st : St} {m : Str} (h : st.err = some m) (hm : m.isEmpty = false) :
    errTruthy st = true := by
  simp [errTruthy, h, hm]

/-- the hypothesis has the form that `by decide` proves for a literal prefix -/
theorem strip_ne_of_prefix (pre rest : Str) (h : (pre.head?.map isSpace) = some false) :
    strip (pre ++ rest) ≠ [] := by
  cases pre with
  | nil => simp at h
  | cons c tl =>
    simp only [List.head?_cons, Option.map_some, Option.some.injEq] at h
    rw [List.cons_append, strip_cons_nonspace _ h]
    exact List.cons_ne_nil _ _

theorem cmdName_of_prefix2 (c d : Char) (rest : Str) (hc : isSpace c = false) (hd : isSpace d = false)
    (hne : d ≠ ',') : cmdName (strip (c :: d :: rest)) = .ok [c, d] := by
  rw [strip_cons_nonspace _ hc, rstrip_cons_nonspace _ hd]
  simp [cmdName, hne]

/-- alternatives after a step of a multi-step method: an error is recorded, or still unblocked -/
def Live (w : World σ) : Prop := w.st.err.isSome = true ∨ w.st.blocked = false

theorem run_of_err (p : Prog σ) (fv : Val) (hg : p.guard = some fv) (w : World σ)
    (h : w.st.err.isSome = true) : p.run w = (.ok fv, w) :=
  Prog.run_blocked p fv hg w (by simp [St.blocked, h])

theorem toBytes4_ok {v : Int} (h : -2147483648 ≤ v ∧ v < 2147483648) :
    ∃ b3 b2 b1 b0, toBytes4 v = .ok (b3, b2, b1, b0) := by
  simp [toBytes4, h]

theorem isSome_keeps (p : Prog σ) (fv : Val) (hg : p.guard = some fv) {w : World σ} {r : Except PyExc Val}
    {w' : World σ} (h : p.run w = (r, w')) (he : w.st.err.isSome = true) : w'.st.err.isSome = true := by
  obtain ⟨e, he'⟩ := Option.isSome_iff_exists.mp he
  have := KeepsErr.guarded p fv hg w e he'
  rw [h] at this
  exact Option.isSome_iff_exists.mpr ⟨e, this⟩

theorem pauseText_ne (d : Int) : strip (pauseText d) ≠ [] := by
  unfold pauseText
  rw [List.append_assoc]
  exact strip_ne_of_prefix _ _ (by decide)

theorem absMoveText_ne (r : Int) (a b : Option Int) : strip (absMoveText r a b) ≠ [] := by
  cases a <;> cases b <;> exact strip_ne_of_prefix _ _ (by decide)

theorem penText_ne (u d : Int) (p : Option Int) : strip (penText u d p) ≠ [] := by
  cases p <;> exact strip_ne_of_prefix _ _ (by decide)

theorem servoText_ne (m : Int) (s : Option Int) : strip (servoText m s) ≠ [] := by
  cases s <;> exact strip_ne_of_prefix _ _ (by decide)

theorem emText_ne (x y : Int) : strip (emText x y) ≠ [] := by
  unfold emText; exact strip_ne_of_prefix _ _ (by decide)

/-- the exchanges of the request methods: `command`, `query`, and the one read of `query_statusbyte` -/
def IsXch (P : Params) (retry : Nat) (req : Str) : Prop :=
  retry = P.retryCmd ∨ retry = P.retryQry ∨ (retry = 0 ∧ req = "QG".toList)

/-- an accepted reply to a decoded query is `name,payload` with a well-formed payload -/
def GoodReply (name : Str) (r : Option Str) : Prop :=
  ∀ t, r = some t → startsWith name t = true → hasErr t = false → name ∈ parsedNames →
    ∃ payload, t = name ++ ',' :: payload ∧ GoodPayload name payload

/-- what the device answers, from the unblocked worlds of `I`.  `xch`: an exchange of a request method (`req` trimmed,
with name `name`) returns some `r`; if `r` is accepted and `name` is a decoded query, `r` is well formed; and `I`
holds afterwards whatever message `v` the method then records.  Where `r` is accepted the methods record nothing, so
only `v = none` is asked for there: this is how a device whose replies are all accepted keeps an invariant that says
"no error" (`ConfInvR`).  `raw`: the raw write of `reboot` / `bootload` keeps `I`. -/
structure Sound (P : Params) (D : Device σ) (I : World σ → Prop) : Prop where
  /-- `I` does not depend on attributes other than `err` and `port` -/
  congr : ∀ (w : World σ) (f : St → St), (∀ st, (f st).err = st.err ∧ (f st).port = st.port) → I w →
    I { w with st := f w.st }
  xch : ∀ (retry : Nat) (req name : Str) (w : World σ), IsXch P retry req → cmdName req = .ok name → strip req = req →
    I w → w.st.blocked = false →
    ∃ r w', exchange D retry req w = (.ok r, w') ∧ GoodReply name r ∧
      ∀ v : Option Str, (Accepted name r → v = .none) → I { w' with st := recordOpt v w'.st }
  raw : ∀ (text : Str) (w : World σ), I w → w.st.blocked = false →
    ∃ v w', rawCloseBody D text w = (.ok v, w') ∧ I w'

section
variable {P : Params} {D : Device σ} {I : World σ → Prop} (S : Sound P D I)
include S

theorem Sound.cmd (text : Str) (w : World σ) (hnb : strip text ≠ []) (hI : I w) (hb : w.st.blocked = false) :
    ∃ w', commandCore P D (strip text) w = (.ok (.bool w'.st.err.isNone), w') ∧ I w' := by
  obtain ⟨name, hn, -⟩ := cmdName_ok_of_ne hnb
  obtain ⟨r, w1, hx, -, hI'⟩ := S.xch P.retryCmd _ name w (Or.inl rfl) hn (strip_idem text) hI hb
  exact ⟨_, commandCore_of_exchange P D hn hx, hI' _ (cmdVerdict_accepted P _)⟩

/-- `query` on a sound device: `None` with an error that `if self.err:` sees, or a well-formed payload and no error -/
theorem Sound.qry (q name : Str) (w : World σ) (hn : cmdName (strip q) = .ok name) (hI : I w)
    (hb : w.st.blocked = false) :
    ∃ v w', queryCore P D (strip q) w = (.ok v, w') ∧ I w' ∧ w'.st.port = w.st.port ∧
      ((v = .none ∧ errTruthy w'.st = true) ∨
       (∃ s, v = .str s ∧ GoodPayload name s ∧ w'.st.err = Option.none)) := by
  have hne := cmdName_ne hn
  obtain ⟨r, w1, hx, hgood, hI'⟩ := S.xch P.retryQry _ name w (Or.inr (Or.inl rfl)) hn (strip_idem q) hI hb
  have hst := exchange_st_eq hx
  have herr : w1.st.err = Option.none := by rw [hst]; exact (blocked_false_iff.mp hb).2
  refine ⟨_, _, queryCore_of_exchange P D hn hx, hI' _ (qryVerdictX_none_iff P _ hne r).mpr,
    by rw [← hst]; exact recordOpt_port _ _, ?_⟩
  rw [recordOpt_of_none herr]
  cases hv : qryVerdictX P (strip q) name r with
  | some m => exact Or.inl ⟨qryVal_of_some hv, errTruthy_some rfl (qryVerdictX_nonempty hv)⟩
  | none =>
    refine Or.inr ⟨_, qryVal_of_none hv, ?_, rfl⟩
    have hacc := (qryVerdictX_none_iff P _ hne _).mp hv
    cases r with
    | none => exact hacc.elim
    | some t =>
      by_cases hp : name ∈ parsedNames
      · obtain ⟨payload, hpay, hg⟩ := hgood t rfl hacc.1 hacc.2 hp
        rw [Option.getD_some, hpay, stripHeader_append]
        exact hg
      · exact goodPayload_of_not_parsed hp _

theorem Sound.qg (w : World σ) (hI : I w) (hb : w.st.blocked = false) :
    ∃ v w', queryStatusByteBody D w = (.ok v, w') ∧ I w' := by
  obtain ⟨r, w1, hx, -, hI'⟩ := S.xch 0 "QG".toList "QG".toList w (Or.inr (Or.inr ⟨rfl, rfl⟩)) (by rfl)
    (by decide) hI hb
  rw [queryStatusByteBody_eq, bind_ok hx]
  cases r with
  | none => exact ⟨_, _, rfl, hI' (some Msg.qgUsb) (fun h => h.elim)⟩
  | some t =>
    obtain ⟨val, v, h, hv, -⟩ := qgJudge_run t w1
    exact ⟨val, _, h, hI' v hv⟩

theorem command_total (text : Str) (hnb : strip text ≠ []) : Total I (commandP P D (some text)).run :=
  total_guarded _ _ rfl fun w hI hb =>
    let ⟨w', h⟩ := S.cmd text w hnb hI hb
    ⟨_, w', h⟩

theorem cmd__total (text : Str) (hnb : strip text ≠ []) : Total I (cmd_ P D text) :=
  (command_total S text hnb).bind fun _ => .pure _

theorem cmdP_total (text : Str) (hnb : strip text ≠ []) : Total I (cmdP P D text).run :=
  .guarded _ _ rfl <| (cmd__total S text hnb).bind fun _ => .pure _

theorem runCmds_total : ∀ l : List Str, (∀ t ∈ l, strip t ≠ []) → Total I (runCmds P D l)
  | [], _ => .pure _
  | t :: ts, h => (cmd__total S t (h t (by simp))).bind fun _ => runCmds_total ts fun u hu => h u (by simp [hu])

theorem query_open (q name : Str) (hn : cmdName (strip q) = .ok name) (w : World σ) (hI : I w)
    (hb : w.st.blocked = false) :
    ∃ v w', (queryP P D (some q)).run w = (.ok v, w') ∧ I w' ∧ w'.st.port = w.st.port ∧
      ((v = .none ∧ errTruthy w'.st = true) ∨
       (∃ s, v = .str s ∧ GoodPayload name s ∧ w'.st.err = Option.none)) := by
  rw [Prog.run_open _ _ rfl w hb]
  exact S.qry q name w hn hI hb

theorem query_total (q : Str) (hnb : strip q ≠ []) : Total I (queryP P D (some q)).run :=
  total_guarded _ _ rfl (fun w hI hb => by
    obtain ⟨name, hn, -⟩ := cmdName_ok_of_ne hnb
    obtain ⟨v, w', h, hI', -, -⟩ := S.qry q name w hn hI hb
    exact ⟨v, w', h, hI'⟩)

theorem setName_total (n : Str) : Total I (setName n : M σ Unit) := fun w hI =>
  ⟨_, _, rfl, S.congr w (fun st => { st with name := some n }) (fun _ => ⟨rfl, rfl⟩) hI⟩

theorem queryNickname_total : Total I (queryNicknameP P D).run :=
  .guarded _ _ rfl <| (query_total S "QT".toList (by decide)).bind fun r => by
    cases r with
    | str raw => exact (Total.ite (.pure _) (setName_total S _)).bind fun _ => .pure _
    | _ => exact .pure _

theorem writeNickname_total (nick : Option Str) : Total I (writeNicknameP P D nick).run :=
  .guarded _ _ rfl <| match nick with
    | .none => .pure _
    | some n0 => (command_total S ("ST,".toList ++ strip n0) (strip_ne_of_prefix _ _ (by decide))).bind fun r => by
      split
      · exact (setName_total S _).bind fun _ => .pure _
      · exact .pure _

theorem varWrite_total (v i : Int) : Total I (varWriteP P D v i).run :=
  .guarded _ _ rfl <| (command_total S ("SL,".toList ++ showInt v ++ [','] ++ showInt i)
    (by rw [List.append_assoc, List.append_assoc]; exact strip_ne_of_prefix _ _ (by decide))).bind fun _ =>
      errIsNone_total

theorem varRead_step (i : Int) (w : World σ) (hI : I w) (hl : Live w) :
    ∃ v w', (varReadP P D i).run w = (.ok v, w') ∧ I w' ∧ Live w' ∧
      (w'.st.err.isSome = true ∨ ∃ z, v = .int z ∧ 0 ≤ z ∧ z < 256) := by
  rcases hl with he | hb
  · exact ⟨.none, w, run_of_err _ _ rfl w he, hI, Or.inl he, Or.inl he⟩
  · rw [Prog.run_open _ _ rfl w hb]
    have hn : cmdName (strip ("QL,".toList ++ showInt i)) = .ok "QL".toList :=
      cmdName_of_prefix2 'Q' 'L' _ (by decide) (by decide) (by decide)
    obtain ⟨v, w', h, hI', hport, hv⟩ := query_open S _ _ hn w hI hb
    rcases hv with ⟨rfl, ht⟩ | ⟨s, rfl, hg, he⟩
    · have hs := errTruthy_isSome ht
      exact ⟨.none, w', by simp only [varReadP]; rw [bind_ok h]; simp [bind_apply, hs], hI', Or.inl hs, Or.inl hs⟩
    · obtain ⟨z, hz, h0, h1⟩ := hg.2.2.2.2 rfl
      refine ⟨.int z, w', ?_, hI', Or.inr ?_, Or.inr ⟨z, rfl, h0, h1⟩⟩
      · simp only [varReadP]; rw [bind_ok h]; simp [bind_apply, he, intOfVal_good hz]
      · rw [blocked_false_iff] at hb ⊢
        exact ⟨hport.trans hb.1, he⟩

theorem varRead_total (i : Int) : Total I (varReadP P D i).run := by
  intro w hI
  rcases Prog.run_cases (varReadP P D i) _ rfl w with hr | ⟨hb, -⟩
  · exact ⟨_, w, hr, hI⟩
  · obtain ⟨v, w', h, hI', -, -⟩ := varRead_step S i w hI (Or.inr hb)
    exact ⟨v, w', h, hI'⟩

theorem varWriteInt32_total (v i : Int) (hv : -2147483648 ≤ v ∧ v < 2147483648) :
    Total I (varWriteInt32P P D v i).run :=
  .guarded _ _ rfl <| by
    obtain ⟨b3, b2, b1, b0, hbytes⟩ := toBytes4_ok hv
    simp only [varWriteInt32P, hbytes]
    exact (varWrite_total S b3 i).bind fun _ => (varWrite_total S b2 (i + 1)).bind fun _ =>
      (varWrite_total S b1 (i + 2)).bind fun _ => (varWrite_total S b0 (i + 3)).bind fun _ => errIsNone_total

theorem varReadInt32_total (i : Int) : Total I (varReadInt32P P D i).run :=
  total_guarded _ _ rfl (fun w hI hb => by
    obtain ⟨a, w1, h1, hI1, hl1, hv1⟩ := varRead_step S i w hI (Or.inr hb)
    obtain ⟨b, w2, h2, hI2, hl2, hv2⟩ := varRead_step S (i + 1) w1 hI1 hl1
    obtain ⟨c, w3, h3, hI3, hl3, hv3⟩ := varRead_step S (i + 2) w2 hI2 hl2
    obtain ⟨d, w4, h4, hI4, hl4, hv4⟩ := varRead_step S (i + 3) w3 hI3 hl3
    by_cases he : w4.st.err.isSome = true
    · exact ⟨.none, w4, by simp only [varReadInt32P]; rw [bind_ok h1, bind_ok h2, bind_ok h3, bind_ok h4]; simp [bind_apply, he], hI4⟩
    · have he3 : ¬ w3.st.err.isSome = true := fun h => he (isSome_keeps _ _ rfl h4 h)
      have he2 : ¬ w2.st.err.isSome = true := fun h => he3 (isSome_keeps _ _ rfl h3 h)
      have he1 : ¬ w1.st.err.isSome = true := fun h => he2 (isSome_keeps _ _ rfl h2 h)
      obtain ⟨za, rfl, ha0, ha1⟩ := hv1.resolve_left he1
      obtain ⟨zb, rfl, hb0, hb1⟩ := hv2.resolve_left he2
      obtain ⟨zc, rfl, hc0, hc1⟩ := hv3.resolve_left he3
      obtain ⟨zd, rfl, hd0, hd1⟩ := hv4.resolve_left he
      have hfb : ∃ z, fromBytes4 (.int za) (.int zb) (.int zc) (.int zd) = .ok z := by
        simp [fromBytes4, ha0, ha1, hb0, hb1, hc0, hc1, hd0, hd1]
      obtain ⟨z, hz⟩ := hfb
      refine ⟨.int z, w4, ?_, hI4⟩
      simp only [varReadInt32P]
      rw [bind_ok h1, bind_ok h2, bind_ok h3, bind_ok h4]
      simp [bind_apply, he, hz])

theorem timedPause_total (t : Int) : Total I (timedPauseP P D t).run :=
  .guarded _ _ rfl <| (runCmds_total S ((pauseChunks P (t.toNat + 1) t).map pauseText) fun u hu => by
    obtain ⟨d, -, rfl⟩ := List.mem_map.mp hu
    exact pauseText_ne d).bind fun _ => .pure _

theorem dioBConfig_total (a b c : Int) : Total I (dioBConfigP P D a b c).run :=
  .guarded _ _ rfl <| (cmd__total S ("PO,B,".toList ++ commaInts [a, b]) (strip_ne_of_prefix _ _ (by decide))).bind fun _ =>
    (cmd__total S ("PD,B,".toList ++ commaInts [a, c]) (strip_ne_of_prefix _ _ (by decide))).bind fun _ => .pure _

/-- shape shared by the decoding methods: behind the guard, `query`, then a decoder that accepts the well-formed
payloads of that query -/
theorem decode_total (q name : Str) (hn : cmdName (strip q) = .ok name) (dec : Str → M σ Val) (fv : Val)
    (hdec : ∀ s, GoodPayload name s → ∀ w : World σ, ∃ v, dec s w = (.ok v, w)) :
    Total I (⟨some fv, (queryP P D (some q)).run >>= fun r => match r with | .str s => dec s | _ => pure fv⟩ :
      Prog σ).run :=
  total_guarded _ _ rfl fun w hI hb => by
    obtain ⟨v, w', h, hI', -, hv⟩ := query_open S q name hn w hI hb
    dsimp only
    rw [bind_ok h]
    rcases hv with ⟨rfl, -⟩ | ⟨s, rfl, hg, -⟩
    · exact ⟨fv, w', rfl, hI'⟩
    · obtain ⟨v, hd⟩ := hdec s hg w'
      exact ⟨v, w', hd, hI'⟩

theorem motorsQueryEnabled_total : Total I (motorsQueryEnabledP P D).run :=
  decode_total S "QE".toList "QE".toList (by rfl) (fun s => qeDecode (splitOn ',' s)) .none fun _ hg w =>
    let ⟨_, _, h⟩ := qeDecode_good (hg.2.2.1 rfl) w
    ⟨_, h⟩

theorem motorsEnableCore_total (a b : Int) : Total I (motorsEnableCore P D a b) :=
  (Total.ite (cmd__total S _ (by decide)) (.pure _)).bind fun _ => Total.ite
    ((motorsQueryEnabled_total S).bind fun mr => by
      split
      · exact (Total.ite (cmd__total S _ (emText_ne b b)) (.pure _)).bind fun _ =>
          (cmd__total S _ (emText_ne a b)).bind fun _ => .pure _
      · exact .pure _)
    ((cmd__total S _ (emText_ne a b)).bind fun _ => .pure _)

theorem motorsEnable_total (r1 r2 : Int) : Total I (motorsEnableP P D r1 r2).run :=
  .guarded _ _ rfl (motorsEnableCore_total S _ _)

theorem querySteps_total : Total I (queryStepsP P D).run :=
  total_guarded _ _ rfl (fun w hI hb => by
    obtain ⟨v, w', h, hI', -, hv⟩ := query_open S "QS".toList "QS".toList (by rfl) w hI hb
    rcases hv with ⟨rfl, ht⟩ | ⟨s, rfl, hg, he⟩
    · exact ⟨.none, w', by simp only [queryStepsP]; rw [bind_ok h]; simp [bind_apply, ht], hI'⟩
    · obtain ⟨za, zb, hd⟩ := int2_good (hg.1 rfl) w'
      exact ⟨.pair (.int za) (.int zb), w',
        by simp only [queryStepsP]; rw [bind_ok h]; simp [bind_apply, errTruthy_of_none he, hd], hI'⟩)

end

/-- the arguments for which the statement claims "no exception": non-blank request strings, int32
values for the 4-byte writer -/
def Call.InDomain : Call → Prop
  | .command (some s) => strip s ≠ []
  | .query (some s) => strip s ≠ []
  | .var_write_int32 v _ => -2147483648 ≤ v ∧ v < 2147483648
  | _ => True

theorem total_of_sound {P : Params} {D : Device σ} {I : World σ → Prop} (S : Sound P D I) (c : Call)
    (hr : c.method.isRequest = true) (hd : c.InDomain) : Total I (run P D c) := by
  unfold run
  cases c
  case reboot => exact total_guarded _ _ rfl (S.raw _)
  case bootload => exact total_guarded _ _ rfl (S.raw _)
  case query_nickname => exact queryNickname_total S
  case write_nickname n => exact writeNickname_total S n
  case command cmd =>
    cases cmd with
    | none => exact .guarded _ _ rfl (.pure _)
    | some s => exact command_total S s hd
  case query q =>
    cases q with
    | none => exact .guarded _ _ rfl (.pure _)
    | some s => exact query_total S s hd
  case query_statusbyte => exact total_guarded _ _ rfl S.qg
  case var_write v i => exact varWrite_total S v i
  case var_read i => exact varRead_total S i
  case var_write_int32 v i => exact varWriteInt32_total S v i hd
  case var_read_int32 i => exact varReadInt32_total S i
  case timed_pause t => exact timedPause_total S t
  case xy_move dx dy dur => exact cmdP_total S _ (strip_ne_of_prefix _ _ (by decide))
  case abs_move r a b => exact cmdP_total S _ (absMoveText_ne r a b)
  case motors_disable => exact cmdP_total S _ (by decide)
  case motors_enable a b => exact motorsEnable_total S a b
  case motors_query_enabled => exact motorsQueryEnabled_total S
  case query_steps => exact querySteps_total S
  case clear_steps => exact cmdP_total S _ (by decide)
  case clear_accumulators => exact cmdP_total S _ (by decide)
  case pen_lower d p => exact cmdP_total S _ (penText_ne 0 d p)
  case pen_raise d p => exact cmdP_total S _ (penText_ne 1 d p)
  case dio_b_config a b c => exact dioBConfig_total S a b c
  case dio_b_set a b => exact cmdP_total S _ (strip_ne_of_prefix _ _ (by decide))
  case dio_b_read p =>
    exact decode_total S _ _ (cmdName_of_prefix2 'P' 'I' _ (by decide) (by decide) (by decide)) boolOfStr .none
      fun _ hg w => let ⟨_, hz⟩ := hg.2.2.2.1 rfl; ⟨_, boolOfStr_good hz w⟩
  case pen_pos_down v => exact cmdP_total S _ (strip_ne_of_prefix _ _ (by decide))
  case pen_pos_up v => exact cmdP_total S _ (strip_ne_of_prefix _ _ (by decide))
  case pen_rate_down v => exact cmdP_total S _ (strip_ne_of_prefix _ _ (by decide))
  case pen_rate_up v => exact cmdP_total S _ (strip_ne_of_prefix _ _ (by decide))
  case servo_timeout m s => exact cmdP_total S _ (servoText_ne m s)
  case query_voltage t =>
    exact decode_total S "QC".toList "QC".toList (by rfl) (fun s => voltageDecode _ (split1 ',' s)) .none
      fun _ hg w => let ⟨_, h⟩ := voltageDecode_good _ (hg.2.1 rfl) w; ⟨_, h⟩
  case query_current =>
    exact decode_total S "QC".toList "QC".toList (by rfl) (fun s => currentDecode (split1 ',' s)) _
      fun _ hg w => let ⟨_, _, h⟩ := currentDecode_good (hg.2.1 rfl) w; ⟨_, h⟩
  all_goals cases hr

theorem Total.hist {I : World σ → Prop} (P : Params) (D : Device σ) : ∀ (cs : List Call),
    (∀ c ∈ cs, Total I (run P D c)) → ∀ w, I w →
    I (finalWorld P D cs w) ∧ ∀ o ∈ runCalls P D cs w, (∃ v, o.res = .ok v) ∧ I o.world
  | [], _, _, hw => ⟨hw, fun _ ho => nomatch ho⟩
  | c :: cs, h, w, hw => by
    obtain ⟨v, w', hrun, hinv⟩ := h c List.mem_cons_self w hw
    have ih := Total.hist P D cs (fun c' hc' => h c' (List.mem_cons_of_mem _ hc')) w' hinv
    have hw' : (run P D c w).2 = w' := by rw [hrun]
    refine ⟨?_, fun o ho => ?_⟩
    · show I (finalWorld P D cs (run P D c w).2)
      rw [hw']; exact ih.1
    · rcases List.mem_cons.mp ho with rfl | ho
      · exact ⟨⟨v, congrArg Prod.fst hrun⟩, by rw [show (runCall P D c w).world = w' from hw']; exact hinv⟩
      · rw [show (runCall P D c w).world = w' from hw'] at ho
        exact ih.2 o ho

end Ebb3
end Plotink
