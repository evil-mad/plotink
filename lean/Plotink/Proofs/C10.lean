import Plotink.Model.C10
import Plotink.Proofs.C09Loop
import Mathlib.Tactic.FieldSimp

/-! Lemmas for C10: blossom calculus for splitting a restriction; the runs of the index-based loop are the relation
`Refined` (`subdivide_refined`, `Refined.subdivide`); flatness, split trees and their dyadic tilings by induction on
`Refined`. -/
namespace Plotink
namespace C10
open C09 (Pt)

theorem restrict_zero_one (c : Cubic) : restrict c 0 1 = c := by
  obtain ⟨⟨a, b⟩, ⟨c1, d⟩, ⟨e, f⟩, ⟨g, h⟩⟩ := c
  simp [restrict, blossom, lerp]

theorem blossom_diag (c : Cubic) (t : Rat) : blossom c t t t = bez c t := by
  simp only [bez, blossom, lerp]; ext <;> (simp only []; ring)

theorem restrict_p0 (c : Cubic) (a b : Rat) : (restrict c a b).p0 = bez c a := blossom_diag c a
theorem restrict_p3 (c : Cubic) (a b : Rat) : (restrict c a b).p3 = bez c b := blossom_diag c b

/-! The blossom is symmetric and affine in each argument; de Casteljau's step `tpoint · · t` moves one argument. -/

theorem blossom_swap₁₂ (c : Cubic) (u v w : Rat) : blossom c u v w = blossom c v u w := by
  simp only [blossom, lerp]; ext <;> (simp only []; ring)

theorem blossom_swap₂₃ (c : Cubic) (u v w : Rat) : blossom c u v w = blossom c u w v := by
  simp only [blossom, lerp]; ext <;> (simp only []; ring)

theorem tpoint_lerp (p q : Pt) (w w' t : Rat) :
    tpoint (lerp p q w) (lerp p q w') t = lerp p q (w + t * (w' - w)) := by
  simp only [tpoint, lerp]; ext <;> (simp only []; ring)

theorem blossom_affine₃ (c : Cubic) (u v w w' t : Rat) :
    tpoint (blossom c u v w) (blossom c u v w') t = blossom c u v (w + t * (w' - w)) :=
  tpoint_lerp _ _ w w' t

theorem blossom_affine₂ (c : Cubic) (u v v' w t : Rat) :
    tpoint (blossom c u v w) (blossom c u v' w) t = blossom c u (v + t * (v' - v)) w := by
  rw [blossom_swap₂₃ c u v, blossom_swap₂₃ c u v', blossom_affine₃, blossom_swap₂₃]

theorem blossom_affine₁ (c : Cubic) (u u' v w t : Rat) :
    tpoint (blossom c u v w) (blossom c u' v w) t = blossom c (u + t * (u' - u)) v w := by
  rw [blossom_swap₁₂ c u, blossom_swap₁₂ c u', blossom_affine₂, blossom_swap₁₂]

/-- Splitting the restriction to `[a, b]` at `t` gives the restrictions to `[a, m]` and `[m, b]`, `m = a + t (b - a)`:
each `tpoint` of the de Casteljau scheme replaces one blossom argument `a` by `m` (left) or one `b` by `m` (right). -/
theorem splitAt_restrict (c : Cubic) (a b t : Rat) :
    splitAt (restrict c a b) t = (restrict c a (a + t * (b - a)), restrict c (a + t * (b - a)) b) := by
  have e4 : blossom c a a (a + t * (b - a)) = blossom c a (a + t * (b - a)) a := blossom_swap₂₃ ..
  have e5 : blossom c (a + t * (b - a)) b b = blossom c b (a + t * (b - a)) b := blossom_swap₁₂ ..
  have e6 : blossom c (a + t * (b - a)) (a + t * (b - a)) b
      = blossom c b (a + t * (b - a)) (a + t * (b - a)) := by rw [blossom_swap₂₃, blossom_swap₁₂]
  simp only [splitAt, restrict, blossom_affine₃, blossom_affine₂, blossom_affine₁]
  rw [e4, blossom_affine₃, e5, blossom_affine₁, e6, blossom_affine₁]

theorem bez_eq_splitAt (c : Cubic) (t : Rat) : bez c t = (splitAt c t).1.p3 := by
  simp only [bez, splitAt, tpoint]; ext <;> (simp only []; ring)

theorem bez_zero (c : Cubic) : bez c 0 = c.p0 := by
  simp only [bez]; ext <;> (simp only []; ring)
theorem bez_one (c : Cubic) : bez c 1 = c.p3 := by
  simp only [bez]; ext <;> (simp only []; ring)

theorem bez_restrict (c : Cubic) (a b s : Rat) : bez (restrict c a b) s = bez c (a + s * (b - a)) := by
  rw [bez_eq_splitAt, splitAt_restrict, restrict_p3]

theorem splitAt_half_restrict (c : Cubic) (a b : Rat) :
    splitAt (restrict c a b) half = (restrict c a ((a + b) / 2), restrict c ((a + b) / 2) b) := by
  rw [splitAt_restrict, show a + half * (b - a) = (a + b) / 2 by rw [half]; ring]

theorem splitAt_restriction (c : Cubic) (t s : Rat) :
    bez (splitAt c t).1 s = bez c (t * s) ∧ bez (splitAt c t).2 s = bez c (t + (1 - t) * s) := by
  have h := splitAt_restrict c 0 1 t
  rw [restrict_zero_one] at h
  rw [h, bez_restrict, bez_restrict]
  constructor <;> (congr 1; ring)

theorem isFlat_eq (c : Cubic) (flat : Rat) :
    isFlat c flat = some ([c.p1, c.p2].all (C09.ptOk c.p0 c.p3 (flat * flat))) :=
  C09.pointsInTol_shape c.p0 c.p3 [c.p1, c.p2] (by simp) flat

theorem isFlat_iff (c : Cubic) (flat : Rat) : isFlat c flat = some true ↔ FlatPiece c flat := by
  rw [isFlat_eq, Option.some.injEq, C09.all_ptOk_iff]
  simp [FlatPiece]

theorem isFlat_ne_none (c : Cubic) (flat : Rat) : isFlat c flat ≠ none := by
  rw [isFlat_eq]; nofun

theorem pieces_cons_cons (a b : Node) (t : List Node) : pieces (a :: b :: t) = pieceOf a b :: pieces (b :: t) := rfl

theorem pieces_head_congr (b b' : Node) (t : List Node) (hp : b'.p = b.p) (hh : b'.hout = b.hout) :
    pieces (b' :: t) = pieces (b :: t) := by
  cases t with
  | nil => rfl
  | cons x t => simp [pieces, pieceOf, hp, hh]

/-- the three nodes that replace `a`, `b` when the piece between them is split: `a` with its new outgoing handle,
the inserted node, `b` with its new incoming handle -/
def splitL (a b : Node) : Node := { a with hout := (splitAt (pieceOf a b) half).1.p1 }
def splitM (a b : Node) : Node :=
  ⟨(splitAt (pieceOf a b) half).1.p2, (splitAt (pieceOf a b) half).1.p3, (splitAt (pieceOf a b) half).2.p1⟩
def splitR (a b : Node) : Node := { b with hin := (splitAt (pieceOf a b) half).2.p2 }

theorem pieceOf_splitL (a b : Node) : pieceOf (splitL a b) (splitM a b) = (splitAt (pieceOf a b) half).1 := rfl
theorem pieceOf_splitR (a b : Node) : pieceOf (splitM a b) (splitR a b) = (splitAt (pieceOf a b) half).2 := rfl

/-- the node list after one split at piece `i` (the model's step) -/
def splitStep (sp : List Node) (i : Nat) (a b : Node) : List Node :=
  let sp2 := (sp.set (i - 1) (splitL a b)).set i (splitR a b)
  sp2.take i ++ splitM a b :: sp2.drop i

theorem subdivide_succ (flat : Rat) (n : Nat) (sp : List Node) (i : Nat) :
    subdivide flat (n + 1) sp i =
      if i ≥ sp.length then some sp else
      match sp[i - 1]?, sp[i]? with
      | some a, some b =>
        match isFlat (pieceOf a b) flat with
        | none => none
        | some true => subdivide flat n sp (i + 1)
        | some false => subdivide flat n (splitStep sp i a b) i
      | _, _ => none := rfl

theorem splitStep_append (pre : List Node) (a b : Node) (rest : List Node) :
    splitStep (pre ++ a :: b :: rest) (pre.length + 1) a b
      = pre ++ splitL a b :: splitM a b :: splitR a b :: rest := by
  have hset : ((pre ++ a :: b :: rest).set (pre.length + 1 - 1) (splitL a b)).set (pre.length + 1) (splitR a b)
      = (pre ++ [splitL a b]) ++ (splitR a b :: rest) := by simp
  rw [splitStep, hset, List.take_left' (by simp), List.drop_left' (by simp)]
  simp

theorem subdivide_at (flat : Rat) (n : Nat) (pre : List Node) (a b : Node) (rest : List Node) :
    subdivide flat (n + 1) (pre ++ a :: b :: rest) (pre.length + 1) =
      match isFlat (pieceOf a b) flat with
      | none => none
      | some true => subdivide flat n (pre ++ a :: b :: rest) (pre.length + 1 + 1)
      | some false => subdivide flat n (pre ++ splitL a b :: splitM a b :: splitR a b :: rest) (pre.length + 1) := by
  have ha : (pre ++ a :: b :: rest)[pre.length + 1 - 1]? = some a := by simp
  have hb : (pre ++ a :: b :: rest)[pre.length + 1]? = some b := by
    rw [List.getElem?_append_right (by omega)]; simp
  rw [subdivide_succ, if_neg (by simp), ha, hb]
  simp only [splitStep_append]

/-- the runs of the loop from the node `a` on, without index and fuel: `r` replaces `a :: rest` -/
inductive Refined (flat : Rat) : Node → List Node → List Node → Prop
  | last (a : Node) : Refined flat a [] [a]
  | keep {a b : Node} {rest r : List Node} : isFlat (pieceOf a b) flat = some true →
      Refined flat b rest r → Refined flat a (b :: rest) (a :: r)
  | split {a b : Node} {rest r : List Node} : isFlat (pieceOf a b) flat = some false →
      Refined flat (splitL a b) (splitM a b :: splitR a b :: rest) r → Refined flat a (b :: rest) r

theorem subdivide_refined (flat : Rat) : ∀ (fuel : Nat) (pre : List Node) (a : Node) (rest out : List Node),
    subdivide flat fuel (pre ++ a :: rest) (pre.length + 1) = some out →
    ∃ r, out = pre ++ r ∧ Refined flat a rest r := by
  intro fuel
  induction fuel with
  | zero => intro pre a rest out h; cases h
  | succ n ih =>
    intro pre a rest out h
    cases rest with
    | nil =>
      rw [subdivide, if_pos (by simp)] at h
      cases h; exact ⟨[a], rfl, .last a⟩
    | cons b rest =>
      rw [subdivide_at] at h
      split at h
      · cases h
      · rename_i hf
        obtain ⟨r, rfl, hr⟩ := ih (pre ++ [a]) b rest out (by simpa using h)
        exact ⟨a :: r, by simp, .keep hf hr⟩
      · rename_i hf
        obtain ⟨r, rfl, hr⟩ := ih _ _ _ _ h
        exact ⟨r, rfl, .split hf hr⟩

theorem subdivideCubicPath_refined {fuel : Nat} {sp r : List Node} {flat : Rat}
    (h : subdivideCubicPath fuel sp flat = some r) :
    match sp with
    | [] => r = []
    | a :: rest => Refined flat a rest r := by
  cases sp with
  | nil =>
    cases fuel with
    | zero => cases h
    | succ n => rw [subdivideCubicPath, subdivide, if_pos (by simp)] at h; cases h; rfl
  | cons a rest =>
    obtain ⟨r', rfl, hr⟩ := subdivide_refined flat fuel [] a rest r h
    exact hr

namespace Refined
variable {flat : Rat} {a : Node} {rest r : List Node}

theorem subdivide (h : Refined flat a rest r) :
    ∃ fuel, ∀ pre : List Node, C10.subdivide flat fuel (pre ++ a :: rest) (pre.length + 1) = some (pre ++ r) := by
  induction h with
  | last a => exact ⟨1, fun pre => by rw [C10.subdivide, if_pos (by simp)]⟩
  | @keep a _ _ _ hf _ ih =>
    obtain ⟨n, hn⟩ := ih
    exact ⟨n + 1, fun pre => by rw [subdivide_at, hf]; simpa using hn (pre ++ [a])⟩
  | split hf _ ih =>
    obtain ⟨n, hn⟩ := ih
    exact ⟨n + 1, fun pre => by rw [subdivide_at, hf]; exact hn pre⟩

/-- with `subdivide_refined`: two runs that end, on whatever fuel, return the same list -/
theorem unique {r' : List Node} (h : Refined flat a rest r) (h' : Refined flat a rest r') : r = r' := by
  induction h generalizing r' with
  | last a => cases h'; rfl
  | keep hf _ ih =>
    cases h' with
    | keep _ h2 => rw [ih h2]
    | split hf' _ => rw [hf] at hf'; cases hf'
  | split hf _ ih =>
    cases h' with
    | keep hf' _ => rw [hf] at hf'; cases hf'
    | split _ h2 => exact ih h2

theorem head (h : Refined flat a rest r) : ∃ h t, r = { a with hout := h } :: t := by
  induction h with
  | last a => exact ⟨a.hout, [], rfl⟩
  | @keep a _ _ r _ _ _ => exact ⟨a.hout, r, rfl⟩
  | split _ _ ih => obtain ⟨h, t, rfl⟩ := ih; exact ⟨h, t, rfl⟩

theorem flat_pieces (h : Refined flat a rest r) : ∀ c ∈ pieces r, FlatPiece c flat := by
  induction h with
  | last a => intro c hc; cases hc
  | keep hf hr ih =>
    obtain ⟨hh, t, rfl⟩ := hr.head
    intro c hc
    rcases List.mem_cons.mp hc with rfl | hc
    · exact (isFlat_iff _ _).mp hf
    · exact ih c hc
  | split _ _ ih => exact ih

end Refined

/-- leaves of a binary tree of splits at one half -/
inductive Leaves : Cubic → List Cubic → Prop
  | leaf (c : Cubic) : Leaves c [c]
  | node (c : Cubic) (l r : List Cubic) :
      Leaves (splitAt c half).1 l → Leaves (splitAt c half).2 r → Leaves c (l ++ r)

inductive RefinesTree : List Cubic → List Cubic → Prop
  | nil : RefinesTree [] []
  | cons {c : Cubic} {l : List Cubic} {cs ls : List Cubic} :
      Leaves c l → RefinesTree cs ls → RefinesTree (c :: cs) (l ++ ls)

theorem RefinesTree.cons_inv {c : Cubic} {cs out : List Cubic} (h : RefinesTree (c :: cs) out) :
    ∃ l ls, out = l ++ ls ∧ Leaves c l ∧ RefinesTree cs ls := by
  generalize hx : c :: cs = x at h
  cases h with
  | nil => exact absurd hx (by simp)
  | cons hl ht =>
    simp only [List.cons.injEq] at hx
    obtain ⟨rfl, rfl⟩ := hx
    exact ⟨_, _, rfl, hl, ht⟩

/-- what a refinement preserves about the ends: the last node keeps its point and outgoing handle -/
def lastOuter (l : List Node) : Option (Pt × Pt) := l.getLast?.map (fun n => (n.p, n.hout))

theorem lastOuter_cons_cons (x y : Node) (t : List Node) : lastOuter (x :: y :: t) = lastOuter (y :: t) := by
  rw [lastOuter, List.getLast?_cons_cons, lastOuter]

theorem lastOuter_head_congr (b b' : Node) (t : List Node) (hp : b'.p = b.p) (hh : b'.hout = b.hout) :
    lastOuter (b' :: t) = lastOuter (b :: t) := by
  cases t with
  | nil => simp [lastOuter, hp, hh]
  | cons x t => rw [lastOuter_cons_cons, lastOuter_cons_cons]

theorem Refined.tree {flat : Rat} {a : Node} {rest r : List Node} (h : Refined flat a rest r) :
    RefinesTree (pieces (a :: rest)) (pieces r) ∧ lastOuter r = lastOuter (a :: rest) := by
  induction h with
  | last a => exact ⟨RefinesTree.nil, rfl⟩
  | @keep a b rest r _ hr ih =>
    obtain ⟨hh, t, rfl⟩ := hr.head
    exact ⟨RefinesTree.cons (Leaves.leaf (pieceOf a b)) ih.1, by
      rw [lastOuter_cons_cons, ← lastOuter_cons_cons a]; exact ih.2⟩
  | @split a b rest r _ _ ih =>
    obtain ⟨ih1, ih2⟩ := ih
    constructor
    · rw [pieces_cons_cons, pieces_cons_cons, pieceOf_splitL, pieceOf_splitR,
        pieces_head_congr b (splitR a b) rest rfl rfl] at ih1
      obtain ⟨l1, ls1, hout, hl1, htail⟩ := ih1.cons_inv
      obtain ⟨l2, ls2, rfl, hl2, htail2⟩ := htail.cons_inv
      rw [pieces_cons_cons, hout, ← List.append_assoc]
      exact RefinesTree.cons (Leaves.node _ _ _ hl1 hl2) htail2
    · rw [ih2, lastOuter_cons_cons, lastOuter_cons_cons, lastOuter_cons_cons]
      exact lastOuter_head_congr _ _ _ rfl rfl

theorem Tiles.append : ∀ (l1 l2 : List (Rat × Rat)) (a m b : Rat),
    Tiles l1 a m → Tiles l2 m b → Tiles (l1 ++ l2) a b := by
  intro l1
  induction l1 with
  | nil => intro l2 a m b h; exact absurd h (by simp [Tiles])
  | cons iv t ih =>
    intro l2 a m b h1 h2
    cases t with
    | nil =>
      obtain ⟨ha, hm⟩ := h1
      cases l2 with
      | nil => exact absurd h2 (by simp [Tiles])
      | cons iv2 t2 =>
        show Tiles (iv :: iv2 :: t2) a b
        exact ⟨ha, by rw [hm]; exact h2⟩
    | cons iv' t' =>
      obtain ⟨ha, ht⟩ := h1
      show Tiles (iv :: ((iv' :: t') ++ l2)) a b
      have := ih l2 iv.2 m b ht h2
      exact ⟨ha, this⟩

theorem Tiles.ends : ∀ (l : List (Rat × Rat)) (a b : Rat), Tiles l a b →
    l.head?.map Prod.fst = some a ∧ l.getLast?.map Prod.snd = some b := by
  intro l
  induction l with
  | nil => intro a b h; exact absurd h (by simp [Tiles])
  | cons iv t ih =>
    intro a b h
    cases t with
    | nil => obtain ⟨h1, h2⟩ := h; simp [h1, h2]
    | cons iv' t' =>
      obtain ⟨h1, h2⟩ := h
      obtain ⟨_, h4⟩ := ih iv.2 b h2
      exact ⟨by simp [h1], by rw [List.getLast?_cons_cons]; exact h4⟩

/-- the dyadic interval number `j` of level `k` is the union of numbers `2j`, `2j+1` of level `k+1`; its
midpoint is given twice, as the right end of the first and as the left end of the second -/
theorem dyadic_mid (k j : Nat) :
    ((j : Rat) / 2 ^ k = ((2 * j : Nat) : Rat) / 2 ^ (k + 1)) ∧
    (((j : Rat) + 1) / 2 ^ k = (((2 * j + 1 : Nat) : Rat) + 1) / 2 ^ (k + 1)) ∧
    (((j : Rat) / 2 ^ k + ((j : Rat) + 1) / 2 ^ k) / 2 = (((2 * j : Nat) : Rat) + 1) / 2 ^ (k + 1)) ∧
    (((j : Rat) / 2 ^ k + ((j : Rat) + 1) / 2 ^ k) / 2 = ((2 * j + 1 : Nat) : Rat) / 2 ^ (k + 1)) := by
  have h2 : (2 : Rat) ^ k ≠ 0 := pow_ne_zero _ (by norm_num)
  refine ⟨?_, ?_, ?_, ?_⟩ <;> (push_cast; rw [pow_succ]; field_simp; try ring)

theorem Leaves.dyadic (c0 : Cubic) : ∀ (c : Cubic) (l : List Cubic), Leaves c l →
    ∀ k j : Nat, j < 2 ^ k → c = restrict c0 ((j : Rat) / 2 ^ k) (((j : Rat) + 1) / 2 ^ k) →
      ∃ ivs : List (Rat × Rat), (∀ iv ∈ ivs, DyadicIv iv) ∧
        Tiles ivs ((j : Rat) / 2 ^ k) (((j : Rat) + 1) / 2 ^ k) ∧
        l = ivs.map (fun iv => restrict c0 iv.1 iv.2) := by
  intro c l h
  induction h with
  | leaf c =>
    intro k j hj hc
    refine ⟨[((j : Rat) / 2 ^ k, ((j : Rat) + 1) / 2 ^ k)], ?_, ⟨rfl, rfl⟩, by simp [hc]⟩
    intro iv hiv
    simp only [List.mem_singleton] at hiv
    subst hiv
    exact ⟨k, j, hj, rfl, rfl⟩
  | node c l r hl hr ihl ihr =>
    intro k j hj hc
    obtain ⟨ha, hb, hm, hm'⟩ := dyadic_mid k j
    have hsplit := splitAt_half_restrict c0 ((j : Rat) / 2 ^ k) (((j : Rat) + 1) / 2 ^ k)
    rw [← hc] at hsplit
    have hj1 : 2 * j < 2 ^ (k + 1) := by rw [pow_succ]; omega
    have hj2 : 2 * j + 1 < 2 ^ (k + 1) := by rw [pow_succ]; omega
    obtain ⟨iv1, hd1, ht1, rfl⟩ := ihl (k + 1) (2 * j) hj1 (by rw [hsplit]; simp only; rw [hm, ← ha])
    obtain ⟨iv2, hd2, ht2, rfl⟩ := ihr (k + 1) (2 * j + 1) hj2 (by rw [hsplit]; simp only; rw [hm', ← hb])
    refine ⟨iv1 ++ iv2, ?_, ?_, by simp⟩
    · intro iv hiv
      rcases List.mem_append.mp hiv with h | h
      · exact hd1 iv h
      · exact hd2 iv h
    · rw [ha, hb]
      refine Tiles.append iv1 iv2 _ _ _ ht1 ?_
      rw [← hm, hm']; exact ht2

theorem Leaves.refinement {c : Cubic} {l : List Cubic} (h : Leaves c l) : DyadicRefinement c l := by
  obtain ⟨ivs, h1, h2, h3⟩ := Leaves.dyadic c c l h 0 0 (by simp) (by simp [restrict_zero_one])
  refine ⟨ivs, h1, ?_, h3⟩
  simpa using h2

theorem RefinesTree.path {cs out : List Cubic} (h : RefinesTree cs out) : RefinesPath cs out := by
  induction h with
  | nil => exact RefinesPath.nil
  | cons hl _ ih => exact RefinesPath.cons hl.refinement ih

end C10
end Plotink
