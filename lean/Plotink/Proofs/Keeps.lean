import Plotink.PyObj
import Plotink.Proofs.RuleSets

/-! # Relations between the world before and the world after that regenerated code keeps

`L : WRel ω` is a reflexive, transitive relation between two worlds; `T` says what running out of fuel counts as.
`KeepsE` / `KeepsS` / `KeepsM L T`: whatever this expression / statement / method does, the world it leaves is related to
the one it started in, and it runs out of fuel only if `T`.  The property is closed under every combinator of `PyObj`;
which leaves have it (the port methods, attribute assignment) depends on `L`, and a `while` has it only if `T` holds.
Instances: the frame property (`Ebb3GenFrame`: scripts only consumed, `T = True`) and "no I/O, and no running out of
fuel" (`C06GenPure`: the same world, `T = False`). -/

namespace Plotink
namespace PyObj

structure WRel (ω : Type) where
  R : World ω → World ω → Prop
  refl : ∀ w, R w w
  trans : ∀ {a b c}, R a b → R b c → R a c

/-- the relation does not look at the attributes of the object -/
def WRel.ObjFree {ω : Type} (L : WRel ω) : Prop := ∀ a b (o : ω), L.R a b → L.R a { b with obj := o }

section
variable {ω σ : Type} (L : WRel ω) (T : Prop)

def KeepsE (e : Eff ω) : Prop := ∀ w, L.R w (e w).2 ∧ ((e w).1 = .fuelOut → T)

def KeepsF (w : World ω) : Flow ω σ → Prop
  | .norm _ w' => L.R w w'
  | .ret _ w' => L.R w w'
  | .exc _ _ w' => L.R w w'
  | .brk _ w' => L.R w w'
  | .cont _ w' => L.R w w'
  | .fuelOut => T

def KeepsS (s : Stmt ω σ) : Prop := ∀ fuel env w, KeepsF L T w (s fuel env w)

def KeepsO (w : World ω) : Out ω → Prop
  | .val _ w' => L.R w w'
  | .exc _ w' => L.R w w'
  | .fuelOut => T

/-- a generated method (after its arguments) -/
def KeepsM (f : World ω → Out ω) : Prop := ∀ w, KeepsO L T w (f w)

variable {L T}

theorem KeepsF.mono {a b : World ω} (h : L.R a b) {fl : Flow ω σ} (hf : KeepsF L T b fl) : KeepsF L T a fl := by
  cases fl <;> first | exact L.trans h hf | exact hf

theorem KeepsE.of_eq {e : Eff ω} (h : ∀ w, (e w).2 = w ∧ (e w).1 ≠ .fuelOut) : KeepsE L T e :=
  fun w => ⟨by rw [(h w).1]; exact L.refl w, fun hf => absurd hf (h w).2⟩

theorem KeepsE.ok (v : Val) : KeepsE L T (ok v : Eff ω) := .of_eq fun _ => ⟨rfl, nofun⟩
theorem KeepsE.raise (c : PyIO.ExcClass) : KeepsE L T (raise c : Eff ω) := .of_eq fun _ => ⟨rfl, nofun⟩
theorem KeepsE.ofP (p : P) : KeepsE L T (ofP p : Eff ω) := by cases p <;> exact .of_eq fun _ => ⟨rfl, nofun⟩

theorem KeepsE.bind {m : Eff ω} {f : Val → Eff ω} (hm : KeepsE L T m) (hf : ∀ v, KeepsE L T (f v)) :
    KeepsE L T (PyObj.bind m f) := by
  intro w
  have h1 := hm w
  unfold PyObj.bind
  rcases hr : m w with ⟨r, w1⟩
  rw [hr] at h1
  cases r with
  | ok v => exact ⟨L.trans h1.1 (hf v w1).1, (hf v w1).2⟩
  | exc c => exact ⟨h1.1, nofun⟩
  | fuelOut => exact h1

theorem KeepsE.app1 (f : Val → P) {a : Eff ω} (ha : KeepsE L T a) : KeepsE L T (app1 f a) :=
  .bind ha fun _ => .ofP _
theorem KeepsE.app2 (f : Val → Val → P) {a b : Eff ω} (ha : KeepsE L T a) (hb : KeepsE L T b) :
    KeepsE L T (app2 f a b) :=
  .bind ha fun _ => .bind hb fun _ => .ofP _
theorem KeepsE.app3 (f : Val → Val → Val → P) {a b c : Eff ω} (ha : KeepsE L T a) (hb : KeepsE L T b)
    (hc : KeepsE L T c) : KeepsE L T (app3 f a b c) :=
  .bind ha fun _ => .bind hb fun _ => .bind hc fun _ => .ofP _
theorem KeepsE.eff1 {f : Val → Eff ω} {a : Eff ω} (hf : ∀ v, KeepsE L T (f v)) (ha : KeepsE L T a) :
    KeepsE L T (eff1 f a) :=
  .bind ha hf
theorem KeepsE.eff2 {f : Val → Val → Eff ω} {a b : Eff ω} (hf : ∀ v u, KeepsE L T (f v u)) (ha : KeepsE L T a)
    (hb : KeepsE L T b) : KeepsE L T (eff2 f a b) :=
  .bind ha fun v => .bind hb fun u => hf v u
theorem KeepsE.load (v : Val) : KeepsE L T (load v : Eff ω) := by
  cases v <;> first | exact .raise _ | exact .ok _
theorem KeepsE.getattr (get : ω → Val) : KeepsE L T (getattr get) :=
  .of_eq fun w => by unfold PyObj.getattr; split <;> exact ⟨rfl, nofun⟩
theorem KeepsE.and_ {a b : Eff ω} (ha : KeepsE L T a) (hb : KeepsE L T b) : KeepsE L T (and_ a b) :=
  .bind ha fun x => by split <;> first | exact hb | exact .ok _
theorem KeepsE.or_ {a b : Eff ω} (ha : KeepsE L T a) (hb : KeepsE L T b) : KeepsE L T (or_ a b) :=
  .bind ha fun x => by split <;> first | exact hb | exact .ok _
theorem KeepsE.not_ {a : Eff ω} (ha : KeepsE L T a) : KeepsE L T (not_ a) := .bind ha fun _ => .ok _

variable (L T) in
/-- every member of a list of operands has the property: a conjunction along the list, not `∀ e ∈ l`, so that the walk
takes a literal list apart by `KeepsEs.cons` / `KeepsEs.nil` (likewise `KeepsSs`, `KeepsHs`) -/
def KeepsEs : List (Eff ω) → Prop
  | [] => True
  | a :: r => KeepsE L T a ∧ KeepsEs r

theorem KeepsE.evalList : ∀ (l : List (Eff ω)) (k : List Val → Eff ω), KeepsEs L T l → (∀ xs, KeepsE L T (k xs)) →
    KeepsE L T (evalList l k)
  | [], _, _, hk => hk []
  | _ :: r, _, hl, hk => .bind hl.1 fun _ => KeepsE.evalList r _ hl.2 fun _ => hk _

theorem KeepsE.mkList {l : List (Eff ω)} (h : KeepsEs L T l) : KeepsE L T (mkList l) := .evalList l _ h fun _ => .ok _
theorem KeepsE.mkTuple {l : List (Eff ω)} (h : KeepsEs L T l) : KeepsE L T (mkTuple l) := .evalList l _ h fun _ => .ok _
theorem KeepsE.mkDict (keys : List Val) {l : List (Eff ω)} (h : KeepsEs L T l) : KeepsE L T (mkDict keys l) :=
  .evalList l _ h fun _ => .ok _
theorem KeepsE.fstr {l : List (Eff ω)} (h : KeepsEs L T l) : KeepsE L T (fstr l) := .evalList l _ h fun _ => .ok _
theorem KeepsE.dropCall {l : List (Eff ω)} (h : KeepsEs L T l) : KeepsE L T (dropCall l) :=
  .evalList l _ h fun _ => .ok _
theorem KeepsE.format_ (tpl : List FmtPart) {l : List (Eff ω)} (h : KeepsEs L T l) : KeepsE L T (format_ tpl l) :=
  .evalList l _ h fun _ => by split <;> first | exact .ok _ | exact .raise _

theorem KeepsE.meth_close (v : Val) : KeepsE L T (meth_close v : Eff ω) := by
  cases v <;> first | exact .ok _ | exact .raise _
theorem KeepsE.meth_reset_input_buffer (v : Val) : KeepsE L T (meth_reset_input_buffer v : Eff ω) := by
  cases v <;> first | exact .ok _ | exact .raise _
theorem KeepsE.ext_comports : KeepsE L T (ext_comports : Eff ω) :=
  .of_eq fun w => by unfold PyObj.ext_comports; split <;> exact ⟨rfl, nofun⟩
theorem KeepsE.ext_find_named (v : Val) : KeepsE L T (ext_find_named v : Eff ω) := .of_eq fun _ => ⟨rfl, nofun⟩
theorem KeepsE.ext_serial_open (v : Val) : KeepsE L T (ext_serial_open v : Eff ω) :=
  .of_eq fun w => by unfold PyObj.ext_serial_open; split <;> exact ⟨rfl, nofun⟩

theorem KeepsE.ofOut {f : World ω → Out ω} (hf : KeepsM L T f) : KeepsE L T (fun w => ofOut (f w) (.fuelOut, w)) := by
  intro w
  have h := hf w
  show L.R w (PyObj.ofOut (f w) (.fuelOut, w)).2 ∧ ((PyObj.ofOut (f w) (.fuelOut, w)).1 = .fuelOut → T)
  cases hr : f w with
  | val v w' => rw [hr] at h; exact ⟨h, nofun⟩
  | exc c w' => rw [hr] at h; exact ⟨h, nofun⟩
  | fuelOut => rw [hr] at h; exact ⟨L.refl w, fun _ => h⟩

theorem KeepsE.mcall0 {f : World ω → Out ω} (hf : KeepsM L T f) : KeepsE L T (mcall0 f) := .ofOut hf
theorem KeepsE.mcall1 {f : Val → World ω → Out ω} {a : Eff ω} (hf : ∀ x, KeepsM L T (f x)) (ha : KeepsE L T a) :
    KeepsE L T (mcall1 f a) :=
  .bind ha fun x => .ofOut (hf x)
theorem KeepsE.mcall2 {f : Val → Val → World ω → Out ω} {a b : Eff ω} (hf : ∀ x y, KeepsM L T (f x y))
    (ha : KeepsE L T a) (hb : KeepsE L T b) : KeepsE L T (mcall2 f a b) :=
  .bind ha fun x => .bind hb fun y => .ofOut (hf x y)
theorem KeepsE.mcall3 {f : Val → Val → Val → World ω → Out ω} {a b c : Eff ω} (hf : ∀ x y z, KeepsM L T (f x y z))
    (ha : KeepsE L T a) (hb : KeepsE L T b) (hc : KeepsE L T c) : KeepsE L T (mcall3 f a b c) :=
  .bind ha fun x => .bind hb fun y => .bind hc fun z => .ofOut (hf x y z)

theorem KeepsS.pass : KeepsS L T (pass : Stmt ω σ) := fun _ _ w => L.refl w
theorem KeepsS.break_ : KeepsS L T (break_ : Stmt ω σ) := fun _ _ w => L.refl w
theorem KeepsS.continue_ : KeepsS L T (continue_ : Stmt ω σ) := fun _ _ w => L.refl w

/-- `a` then `b`, when only `b` is known to keep the relation for every start; `w0` is any world the outcome of `a` is
related to, not only the one it started in -/
theorem KeepsF.seq {a b : Stmt ω σ} {fuel : Nat} {env : σ} {w0 w : World ω} (ha : KeepsF L T w0 (a fuel env w))
    (hb : KeepsS L T b) : KeepsF L T w0 (seq a b fuel env w) := by
  unfold PyObj.seq
  cases hr : a fuel env w <;> rw [hr] at ha <;> try exact ha
  exact KeepsF.mono ha (hb fuel _ _)

theorem KeepsS.seq {a b : Stmt ω σ} (ha : KeepsS L T a) (hb : KeepsS L T b) : KeepsS L T (seq a b) :=
  fun fuel env w => KeepsF.seq (ha fuel env w) hb

variable (L T) in
def KeepsSs : List (Stmt ω σ) → Prop
  | [] => True
  | a :: r => KeepsS L T a ∧ KeepsSs r

theorem KeepsS.block : ∀ (l : List (Stmt ω σ)), KeepsSs L T l → KeepsS L T (block l)
  | [], _ => .pass
  | [_], h => h.1
  | _ :: b :: r, h => .seq h.1 (KeepsS.block (b :: r) h.2)

/-- a statement that evaluates an expression and goes on with `k` -/
theorem KeepsF.ofRes {w : World ω} {x : Res × World ω} (h : L.R w x.2 ∧ (x.1 = .fuelOut → T)) {env : σ}
    {k : Val → World ω → Flow ω σ} (hk : ∀ v, KeepsF L T x.2 (k v x.2)) :
    KeepsF L T w (match x with
      | (.ok v, w') => k v w'
      | (.exc c, w') => .exc c env w'
      | (.fuelOut, _) => .fuelOut) := by
  obtain ⟨r, w1⟩ := x
  cases r
  · exact KeepsF.mono h.1 (hk _)
  · exact h.1
  · exact h.2 rfl

theorem KeepsS.assign (set : σ → Val → σ) {e : Expr ω σ} (he : ∀ fuel env, KeepsE L T (e fuel env)) :
    KeepsS L T (assign set e) :=
  fun fuel env w => KeepsF.ofRes (he fuel env w) fun _ => L.refl _

theorem KeepsS.setattr (hobj : L.ObjFree) (set : ω → Val → ω) {e : Expr ω σ}
    (he : ∀ fuel env, KeepsE L T (e fuel env)) : KeepsS L T (setattr set e) :=
  fun fuel env w => KeepsF.ofRes (he fuel env w) fun _ => hobj _ _ _ (L.refl _)

theorem KeepsS.expr {e : Expr ω σ} (he : ∀ fuel env, KeepsE L T (e fuel env)) : KeepsS L T (expr e) :=
  fun fuel env w => KeepsF.ofRes (he fuel env w) fun _ => L.refl _

theorem KeepsS.return_ {e : Expr ω σ} (he : ∀ fuel env, KeepsE L T (e fuel env)) : KeepsS L T (return_ e) :=
  fun fuel env w => KeepsF.ofRes (he fuel env w) fun _ => L.refl _

theorem KeepsS.ifte {c : Expr ω σ} {a b : Stmt ω σ} (hc : ∀ fuel env, KeepsE L T (c fuel env)) (ha : KeepsS L T a)
    (hb : KeepsS L T b) : KeepsS L T (ifte c a b) :=
  fun fuel env w => KeepsF.ofRes (hc fuel env w) fun v => by
    show KeepsF L T _ (if truthy v = true then _ else _)
    split
    · exact ha fuel env _
    · exact hb fuel env _

/-- one pass of a loop: the body, then the remaining passes unless the body left the loop -/
theorem KeepsF.loopStep {w : World ω} {fl : Flow ω σ} (h : KeepsF L T w fl) {loop : σ → World ω → Flow ω σ}
    (hl : ∀ env' w', KeepsF L T w' (loop env' w')) :
    KeepsF L T w (match fl with
      | .norm env' w' => loop env' w'
      | .cont env' w' => loop env' w'
      | .brk env' w' => .norm env' w'
      | r => r) := by
  cases fl
  · exact KeepsF.mono h (hl _ _)
  · exact h
  · exact h
  · exact h
  · exact KeepsF.mono h (hl _ _)
  · exact h

theorem KeepsS.whileLoop (hT : T) {c : Expr ω σ} {body : Stmt ω σ} (hc : ∀ fuel env, KeepsE L T (c fuel env))
    (hb : KeepsS L T body) (fuel : Nat) : ∀ n env w, KeepsF L T w (whileLoop c body fuel n env w)
  | 0, _, _ => hT
  | n + 1, env, w => by
    have h := hc fuel env w
    unfold PyObj.whileLoop
    rcases hr : c fuel env w with ⟨r, w1⟩
    rw [hr] at h
    cases r with
    | exc c => exact h.1
    | fuelOut => exact h.2 rfl
    | ok v =>
      show KeepsF L T w (if truthy v = true then _ else _)
      split
      · exact KeepsF.mono h.1 (KeepsF.loopStep (hb fuel env w1) fun env' w' => KeepsS.whileLoop hT hc hb fuel n env' w')
      · exact h.1

/-- a `while` can run out of fuel: `T` must allow it -/
theorem KeepsS.while_ (hT : T) {c : Expr ω σ} {body : Stmt ω σ} (hc : ∀ fuel env, KeepsE L T (c fuel env))
    (hb : KeepsS L T body) : KeepsS L T (while_ c body) := fun fuel env w => KeepsS.whileLoop hT hc hb fuel fuel env w

theorem KeepsS.forLoop (set : σ → Val → σ) {body : Stmt ω σ} (hb : KeepsS L T body) (fuel : Nat) :
    ∀ xs env w, KeepsF L T w (forLoop set body fuel xs env w)
  | [], _, w => L.refl w
  | x :: xs, env, w => KeepsF.loopStep (hb fuel (set env x) w) fun env' w' => KeepsS.forLoop set hb fuel xs env' w'

theorem KeepsS.forIn (set : σ → Val → σ) {e : Expr ω σ} {body : Stmt ω σ} (he : ∀ fuel env, KeepsE L T (e fuel env))
    (hb : KeepsS L T body) : KeepsS L T (forIn set e body) := by
  intro fuel env w
  have h := he fuel env w
  unfold PyObj.forIn
  rcases hr : e fuel env w with ⟨r, w1⟩
  rw [hr] at h
  cases r with
  | exc c => exact h.1
  | fuelOut => exact h.2 rfl
  | ok v =>
    simp only
    split
    · exact KeepsF.mono h.1 (KeepsS.forLoop set hb fuel _ _ _)
    · exact h.1

theorem KeepsS.runHandler {h : Handler ω σ} (hb : KeepsS L T h.body) (e : PyIO.ExcClass) : KeepsS L T (runHandler h e) := by
  intro fuel env w
  unfold PyObj.runHandler
  split
  · exact hb fuel env w
  · next set hs =>
    have h2 := hb fuel (set env (.exc e)) w
    cases hb2 : h.body fuel (set env (.exc e)) w <;> rw [hb2] at h2 <;> exact h2

variable (L T) in
def KeepsHs : List (Handler ω σ) → Prop
  | [] => True
  | h :: r => KeepsS L T h.body ∧ KeepsHs r

theorem KeepsS.dispatch : ∀ (hs : List (Handler ω σ)), KeepsHs L T hs → ∀ e, KeepsS L T (dispatch hs e)
  | [], _, e => fun _ _ w => L.refl w
  | h :: r, hh, e => by
    intro fuel env w
    unfold PyObj.dispatch
    split
    · exact KeepsS.runHandler hh.1 e fuel env w
    · exact KeepsS.dispatch r hh.2 e fuel env w

/-- `try: body except …`, when only the handlers are known to keep the relation for every start (`w0` as in `KeepsF.seq`) -/
theorem KeepsF.tryExcept {body : Stmt ω σ} {hs : List (Handler ω σ)} {fuel : Nat} {env : σ} {w0 w : World ω}
    (hb : KeepsF L T w0 (body fuel env w)) (hh : KeepsHs L T hs) : KeepsF L T w0 (tryExcept body hs fuel env w) := by
  unfold PyObj.tryExcept
  cases hr : body fuel env w <;> rw [hr] at hb <;> try exact hb
  exact KeepsF.mono hb (KeepsS.dispatch hs hh _ fuel _ _)

theorem KeepsS.tryExcept {body : Stmt ω σ} {hs : List (Handler ω σ)} (hb : KeepsS L T body) (hh : KeepsHs L T hs) :
    KeepsS L T (tryExcept body hs) :=
  fun fuel env w => KeepsF.tryExcept (hb fuel env w) hh

theorem KeepsM.run {body : Stmt ω σ} (hb : KeepsS L T body) (fuel : Nat) (env : σ) : KeepsM L T (run body fuel env) := by
  intro w
  have h := hb fuel env w
  unfold PyObj.run
  cases hr : body fuel env w <;> rw [hr] at h <;> exact h

theorem KeepsEs.nil : KeepsEs L T ([] : List (Eff ω)) := True.intro
theorem KeepsEs.cons {a : Eff ω} {r : List (Eff ω)} (ha : KeepsE L T a) (hr : KeepsEs L T r) : KeepsEs L T (a :: r) :=
  ⟨ha, hr⟩
theorem KeepsSs.nil : KeepsSs L T ([] : List (Stmt ω σ)) := True.intro
theorem KeepsSs.cons {a : Stmt ω σ} {r : List (Stmt ω σ)} (ha : KeepsS L T a) (hr : KeepsSs L T r) :
    KeepsSs L T (a :: r) := ⟨ha, hr⟩
theorem KeepsHs.nil : KeepsHs L T ([] : List (Handler ω σ)) := True.intro
theorem KeepsHs.cons {c : Option (List PyIO.ExcClass)} {bd : Option (σ → Val → σ)} {b : Stmt ω σ}
    {r : List (Handler ω σ)} (hb : KeepsS L T b) (hr : KeepsHs L T r) :
    KeepsHs L T ({ classes := c, bind := bd, body := b } :: r) := ⟨hb, hr⟩

end

attribute [fr ↓] KeepsE.ok KeepsE.raise KeepsE.load KeepsE.getattr KeepsE.meth_close
  KeepsE.meth_reset_input_buffer KeepsE.ext_comports KeepsE.ext_find_named KeepsE.ext_serial_open KeepsE.app1 KeepsE.app2
  KeepsE.app3 KeepsE.eff1 KeepsE.eff2 KeepsE.and_ KeepsE.or_ KeepsE.not_ KeepsEs.nil KeepsEs.cons KeepsE.mkList
  KeepsE.mkTuple KeepsE.mkDict KeepsE.fstr KeepsE.dropCall KeepsE.format_ KeepsE.mcall0 KeepsE.mcall1 KeepsE.mcall2
  KeepsE.mcall3 KeepsS.pass KeepsS.break_ KeepsS.continue_ KeepsSs.nil KeepsSs.cons KeepsS.seq KeepsS.block
  KeepsS.assign KeepsS.setattr KeepsS.expr KeepsS.return_ KeepsS.ifte KeepsS.while_ KeepsS.forIn KeepsHs.nil
  KeepsHs.cons KeepsS.tryExcept KeepsM.run
attribute [fr] implies_true

/-- Walk a generated term (after unfolding the generated definitions): each rule of `fr` rewrites the goal to `True`
once its premises are discharged by the same set, so the discharge nests as deep as the term does (a block of `n`
statements alone adds `n` levels); the deepest regenerated methods need 25 levels. -/
macro "fr_walk" : tactic => `(tactic| simp (maxDischargeDepth := 32) only [fr])

end PyObj
end Plotink
