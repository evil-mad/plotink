import Plotink.Proofs.Ebb3GenCommand
import Plotink.Gen.EBBMotionWrap_dispatch

/-! # Bridges of the methods that only send commands: the shape *guard → text → `self.command(text)`* (instances of
`cmdMethod_sim`), `dio_b_config` (two commands), `var_write` (a command and the error tail), `timed_pause` (a loop of
commands, against `pauseChunks` / `runCmds`) -/

namespace Plotink
namespace Ebb3Gen
open PyObj Gen

theorem xy_move_bridge (fuel : Nat) (hf : 26 ≤ fuel) (dx dy dur : Int) (w : World EBB3_Obj) (hg : Good w) :
    Sim (EBBMotionWrap_xy_move fuel (.int dx) (.int dy) (.int dur) w)
      (Ebb3.run Ebb3.srcParams Ebb3.scriptDev (.xy_move dx dy dur) (absWorld w)) := by
  refine cmdMethod_sim hf (isAscii_lit_comma _ _ (by decide)) hg
    (seq_norm (assign_of (v := .str ("SM,".toList ++ Ebb3.commaInts [dur, dy, dx])) (w' := w) ?_)) rfl
  fstr_eval

theorem abs_move_bridge (fuel : Nat) (hf : 26 ≤ fuel) (rate : Int) (p1 p2 : Option Int) (w : World EBB3_Obj) (hg : Good w) :
    Sim (EBBMotionWrap_abs_move fuel (.int rate) (encOptInt p1) (encOptInt p2) w)
      (Ebb3.run Ebb3.srcParams Ebb3.scriptDev (.abs_move rate p1 p2) (absWorld w)) := by
  have hasc : PyIO.isAscii (Ebb3.absMoveText rate p1 p2) = true := by
    cases p1 <;> cases p2 <;>
      first | exact isAscii_lit_comma _ _ (by decide) | exact isAscii_lit_int _ _ (by decide)
  refine cmdMethod_sim hf hasc hg
    (seq_norm (env' := ⟨.int rate, encOptInt p1, encOptInt p2, .str (Ebb3.absMoveText rate p1 p2)⟩) (w' := w) ?_) rfl
  unfold EBBMotionWrap_abs_move_if2 Ebb3.absMoveText
  cases p1 <;> cases p2 <;>
    simp only [encOptInt, ifte, assign, and_ok, app1_ok, op_is_not_none, isNone, ofP_ok, ok_apply, truthy_bool, Bool.not_true,
      Bool.not_false, Bool.false_eq_true, ↓reduceIte] <;> fstr_eval

theorem motors_disable_bridge (fuel : Nat) (hf : 26 ≤ fuel) (w : World EBB3_Obj) (hg : Good w) :
    Sim (EBBMotionWrap_motors_disable fuel w)
      (Ebb3.run Ebb3.srcParams Ebb3.scriptDev .motors_disable (absWorld w)) := by
  show Sim _ ((Ebb3.cmdP Ebb3.srcParams Ebb3.scriptDev "EM,0,0".toList).run (absWorld w))
  rw [lit_EM00]
  exact cmdMethod_sim hf (by decide) hg rfl rfl

theorem clear_steps_bridge (fuel : Nat) (hf : 26 ≤ fuel) (w : World EBB3_Obj) (hg : Good w) :
    Sim (EBBMotionWrap_clear_steps fuel w)
      (Ebb3.run Ebb3.srcParams Ebb3.scriptDev .clear_steps (absWorld w)) := by
  show Sim _ ((Ebb3.cmdP Ebb3.srcParams Ebb3.scriptDev "CS".toList).run (absWorld w))
  rw [lit_CS]
  exact cmdMethod_sim hf (by decide) hg rfl rfl

theorem clear_accumulators_bridge (fuel : Nat) (hf : 26 ≤ fuel) (w : World EBB3_Obj) (hg : Good w) :
    Sim (EBBMotionWrap_clear_accumulators fuel w)
      (Ebb3.run Ebb3.srcParams Ebb3.scriptDev .clear_accumulators (absWorld w)) := by
  show Sim _ ((Ebb3.cmdP Ebb3.srcParams Ebb3.scriptDev "T3,1,0,0,0,0,0,0,3".toList).run (absWorld w))
  rw [lit_T3]
  exact cmdMethod_sim hf (by decide) hg rfl rfl

theorem penText_ascii (u d : Int) (p : Option Int) : PyIO.isAscii (Ebb3.penText u d p) = true := by
  cases p <;> exact isAscii_lit_comma _ _ (by decide)

theorem pen_lower_bridge (fuel : Nat) (hf : 26 ≤ fuel) (d : Int) (pin : Option Int) (w : World EBB3_Obj) (hg : Good w) :
    Sim (EBBMotionWrap_pen_lower fuel (.int d) (encOptInt pin) w)
      (Ebb3.run Ebb3.srcParams Ebb3.scriptDev (.pen_lower d pin) (absWorld w)) := by
  refine cmdMethod_sim hf (penText_ascii 0 d pin) hg
    (seq_norm (env' := ⟨.int d, encOptInt pin, .str (Ebb3.penText 0 d pin)⟩) (w' := w) ?_) rfl
  unfold EBBMotionWrap_pen_lower_if2 Ebb3.penText
  cases pin <;>
    simp only [encOptInt, ifte, assign, app1_ok, op_is_not_none, isNone, ofP_ok, ok_apply, truthy_bool, Bool.not_true,
      Bool.not_false, Bool.false_eq_true, ↓reduceIte] <;> fstr_eval

theorem pen_raise_bridge (fuel : Nat) (hf : 26 ≤ fuel) (d : Int) (pin : Option Int) (w : World EBB3_Obj) (hg : Good w) :
    Sim (EBBMotionWrap_pen_raise fuel (.int d) (encOptInt pin) w)
      (Ebb3.run Ebb3.srcParams Ebb3.scriptDev (.pen_raise d pin) (absWorld w)) := by
  refine cmdMethod_sim hf (penText_ascii 1 d pin) hg
    (seq_norm (env' := ⟨.int d, encOptInt pin, .str (Ebb3.penText 1 d pin)⟩) (w' := w) ?_) rfl
  unfold EBBMotionWrap_pen_raise_if2 Ebb3.penText
  cases pin <;>
    simp only [encOptInt, ifte, assign, app1_ok, op_is_not_none, isNone, ofP_ok, ok_apply, truthy_bool, Bool.not_true,
      Bool.not_false, Bool.false_eq_true, ↓reduceIte] <;> fstr_eval

theorem dio_b_set_bridge (fuel : Nat) (hf : 26 ≤ fuel) (pin state : Int) (w : World EBB3_Obj) (hg : Good w) :
    Sim (EBBMotionWrap_dio_b_set fuel (.int pin) (.int state) w)
      (Ebb3.run Ebb3.srcParams Ebb3.scriptDev (.dio_b_set pin state) (absWorld w)) :=
  cmdMethod_sim hf (isAscii_lit_comma _ _ (by decide)) hg rfl
    (show _ = ok (.str ("PO,B,".toList ++ Ebb3.commaInts [pin, state])) by fstr_eval)

theorem pen_pos_down_bridge (fuel : Nat) (hf : 26 ≤ fuel) (v : Int) (w : World EBB3_Obj) (hg : Good w) :
    Sim (EBBMotionWrap_pen_pos_down fuel (.int v) w)
      (Ebb3.run Ebb3.srcParams Ebb3.scriptDev (.pen_pos_down v) (absWorld w)) :=
  cmdMethod_sim hf (isAscii_lit_int _ _ (by decide)) hg rfl
    (show _ = ok (.str ("SC,5,".toList ++ Ebb3.showInt v)) by fstr_eval)

theorem pen_pos_up_bridge (fuel : Nat) (hf : 26 ≤ fuel) (v : Int) (w : World EBB3_Obj) (hg : Good w) :
    Sim (EBBMotionWrap_pen_pos_up fuel (.int v) w)
      (Ebb3.run Ebb3.srcParams Ebb3.scriptDev (.pen_pos_up v) (absWorld w)) :=
  cmdMethod_sim hf (isAscii_lit_int _ _ (by decide)) hg rfl
    (show _ = ok (.str ("SC,4,".toList ++ Ebb3.showInt v)) by fstr_eval)

theorem pen_rate_down_bridge (fuel : Nat) (hf : 26 ≤ fuel) (v : Int) (w : World EBB3_Obj) (hg : Good w) :
    Sim (EBBMotionWrap_pen_rate_down fuel (.int v) w)
      (Ebb3.run Ebb3.srcParams Ebb3.scriptDev (.pen_rate_down v) (absWorld w)) :=
  cmdMethod_sim hf (isAscii_lit_int _ _ (by decide)) hg rfl
    (show _ = ok (.str ("SC,12,".toList ++ Ebb3.showInt v)) by fstr_eval)

theorem pen_rate_up_bridge (fuel : Nat) (hf : 26 ≤ fuel) (v : Int) (w : World EBB3_Obj) (hg : Good w) :
    Sim (EBBMotionWrap_pen_rate_up fuel (.int v) w)
      (Ebb3.run Ebb3.srcParams Ebb3.scriptDev (.pen_rate_up v) (absWorld w)) :=
  cmdMethod_sim hf (isAscii_lit_int _ _ (by decide)) hg rfl
    (show _ = ok (.str ("SC,11,".toList ++ Ebb3.showInt v)) by fstr_eval)

theorem servo_timeout_bridge (fuel : Nat) (hf : 26 ≤ fuel) (ms : Int) (state : Option Int) (w : World EBB3_Obj) (hg : Good w) :
    Sim (EBBMotionWrap_servo_timeout fuel (.int ms) (encOptInt state) w)
      (Ebb3.run Ebb3.srcParams Ebb3.scriptDev (.servo_timeout ms state) (absWorld w)) := by
  have hasc : PyIO.isAscii (Ebb3.servoText ms state) = true := by
    cases state <;>
      first | exact isAscii_lit_comma _ _ (by decide) | exact isAscii_lit_int _ _ (by decide)
  refine cmdMethod_sim hf hasc hg
    (seq_norm (env' := ⟨.int ms, encOptInt state, .str (Ebb3.servoText ms state)⟩) (w' := w) ?_) rfl
  unfold EBBMotionWrap_servo_timeout_if2 Ebb3.servoText
  cases state <;>
    simp only [encOptInt, ifte, assign, app1_ok, op_is_none, isNone, ofP_ok, ok_apply, truthy_bool,
      Bool.false_eq_true, ↓reduceIte] <;> fstr_eval

theorem dio_b_config_bridge (fuel : Nat) (hf : 26 ≤ fuel) (pin state dir : Int) (w : World EBB3_Obj) (hg : Good w) :
    Sim (EBBMotionWrap_dio_b_config fuel (.int pin) (.int state) (.int dir) w)
      (Ebb3.run Ebb3.srcParams Ebb3.scriptDev (.dio_b_config pin state dir) (absWorld w)) := by
  refine SimK.guarded .none hg fun _ => SimK.block ?_
  rw [expr_onRes]
  refine SimK.cmd hf hg ?_ (isAscii_lit_comma _ _ (by decide)) fun _ w1 hg1 => SimK.next ?_
  · fstr_eval
  rw [block_one, expr_onRes]
  refine SimK.cmd hf hg1 ?_ (isAscii_lit_comma _ _ (by decide)) fun _ w2 hg2 => SimK.fellOff hg2
  fstr_eval

theorem var_write_bridge (fuel : Nat) (hf : 26 ≤ fuel) (v i : Int) (w : World EBB3_Obj) (hg : Good w) :
    Sim (EBB3_var_write fuel (.int v) (.int i) w)
      (Ebb3.run Ebb3.srcParams Ebb3.scriptDev (.var_write v i) (absWorld w)) := by
  unfold EBB3_var_write EBB3_var_write_main EBB3_var_write_if1 EBB3_var_write_if2
  rw [block_cons2]
  refine SimK.guarded (.bool false) hg fun _ => SimK.block ?_
  rw [expr_onRes]
  refine SimK.command hf hg ?_ ?_ fun _ w1 hg1 _ => SimK.next (SimK.errTail hg1)
  · fstr_eval
  · simp only [isAscii_append, isAscii_showInt, Bool.and_true]; decide

theorem srcPauseCmp : Ebb3.srcParams.pauseCmp = 750 := rfl
theorem srcPauseChunk : Ebb3.srcParams.pauseChunk = 750 := rfl

/-- the chunk the loop body computes -/
def chunkOf (t : Int) : Int := if t > 750 then 750 else max t 1

theorem pauseChunks_succ (k : Nat) (t : Int) :
    Ebb3.pauseChunks Ebb3.srcParams (k + 1) t
      = if t > 0 then chunkOf t :: Ebb3.pauseChunks Ebb3.srcParams k (t - chunkOf t) else [] := by
  by_cases h : t > 0 <;> simp [Ebb3.pauseChunks, srcPauseCmp, srcPauseChunk, chunkOf, h]

theorem chunkOf_pos (t : Int) (h : t > 0) : 1 ≤ chunkOf t ∧ chunkOf t ≤ t := by
  unfold chunkOf
  split
  · omega
  · have : max t 1 = t := by omega
    omega

theorem pauseText_ascii (d : Int) : PyIO.isAscii (Ebb3.pauseText d) = true := by
  unfold Ebb3.pauseText
  simp only [isAscii_append, isAscii_showInt, Bool.and_true]
  decide

/-- `if pause_time > 750: time_delay = 750` / `else: time_delay = max(pause_time, 1)` -/
theorem pause_if2 (fuel : Nat) (t : Int) (td : Val) (w : World EBB3_Obj) :
    EBBMotionWrap_timed_pause_if2 fuel ⟨.int t, td⟩ w = .norm ⟨.int t, .int (chunkOf t)⟩ w := by
  unfold EBBMotionWrap_timed_pause_if2 chunkOf
  have hgt : op_gt (.int t) (.int 750) = .ok (.bool (decide (t > 750))) := rfl
  simp only [ifte, load_int, app2_ok, hgt, ofP_ok, ok_apply, truthy_bool]
  by_cases h : t > 750
  · simp only [h, decide_true, ↓reduceIte, assign, ok_apply]
  · simp only [h, decide_false, Bool.false_eq_true, ↓reduceIte, assign, load_int, app2_ok, b_max2, ltVal, intOf, ofP_ok, ok_apply]
    by_cases h1 : t < 1
    · have : max t 1 = 1 := by omega
      simp [h1, this]
    · have : max t 1 = t := by omega
      simp [h1, this]

/-- the chunk loop, to the end of the method -/
theorem pause_loop (fuel : Nat) (hf : 26 ≤ fuel) (k n : Nat) (hn : k + 1 ≤ n) (t : Int) (td : Val)
    (w : World EBB3_Obj) (hg : Good w) (ht : t.toNat ≤ k) :
    SimK Sim fuel [] (whileLoop EBBMotionWrap_timed_pause_test1 EBBMotionWrap_timed_pause_body1 fuel n ⟨.int t, td⟩ w)
      ((Ebb3.runCmds Ebb3.srcParams Ebb3.scriptDev ((Ebb3.pauseChunks Ebb3.srcParams (k + 1) t).map Ebb3.pauseText)
        >>= fun _ => pure Ebb3.Val.none) (absWorld w)) := by
  induction k generalizing n t td w with
    (obtain ⟨n, rfl⟩ : ∃ n', n = n' + 1 := ⟨n - 1, by omega⟩
     rw [pauseChunks_succ]
     refine SimK.while_ (p := decide (t > 0)) (by unfold EBBMotionWrap_timed_pause_test1; rfl) (fun h0 => ?_) fun h0 => by
       rw [if_neg (of_decide_eq_false h0)]; exact SimK.fellOff hg
     have h0 : t > 0 := of_decide_eq_true h0)
  | zero => omega
  | succ k ih =>
    have hc := chunkOf_pos t h0
    unfold EBBMotionWrap_timed_pause_body1
    rw [if_pos h0, block_cons2, seq_norm (pause_if2 fuel t td w)]
    refine SimK.block ?_
    rw [expr_onRes, List.map_cons, Ebb3.runCmds, M_bind_assoc]
    refine SimK.cmd hf hg ?_ (pauseText_ascii _) fun _ w1 hg1 => SimK.next ?_
    · unfold Ebb3.pauseText
      simp only [load_int, fstr, evalList_cons_ok, evalList_nil, flatten_cons_str, flatten_cons_int, flatten_nil,
        lit_SMc, lit_c0c0, List.cons_append, List.nil_append]
    · rw [block_one, assign_of (v := .int (t - chunkOf t)) (w' := w1) rfl]
      exact SimK.again (ih n (by omega) _ _ w1 hg1 (by omega))

theorem timed_pause_bridge (fuel : Nat) (hf : 26 ≤ fuel) (t : Int) (hft : t.toNat + 1 ≤ fuel) (w : World EBB3_Obj) (hg : Good w) :
    Sim (EBBMotionWrap_timed_pause fuel (.int t) w)
      (Ebb3.run Ebb3.srcParams Ebb3.scriptDev (.timed_pause t) (absWorld w)) := by
  unfold EBBMotionWrap_timed_pause EBBMotionWrap_timed_pause_main EBBMotionWrap_timed_pause_if1
  rw [block_cons2, block_one]
  exact SimK.guarded .none hg fun _ => pause_loop fuel hf t.toNat fuel hft t .unbound w hg (Nat.le_refl _)
end Ebb3Gen
end Plotink
