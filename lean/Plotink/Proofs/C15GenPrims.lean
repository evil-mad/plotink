import Plotink.Proofs.LegacyGen
import Plotink.Proofs.C15Legacy
/-! # C15 (regenerated code) — agreement of the runtime's string / version primitives (`Model/Ebb3.lean`) with those of
`Model/C15.lean`: `splitOn`, `in`, `isspace`, `parse` (on texts without a leading `v`; every text the runtime parses is
one) -/
namespace Plotink.C15Gen
open PyObj

theorem splitOn_agree (sep : Char) (s : List Char) : Ebb3.splitOn sep s = C15.splitOn sep s := by
  induction s with
  | nil => rfl
  | cons c t ih =>
    simp only [Ebb3.splitOn, C15.splitOn, ih]
    split
    · rfl
    · cases C15.splitOn sep t <;> rfl

theorem isSpaceStr_agree (s : List Char) : Ebb3.isSpaceStr s = C15.isSpace s := rfl

/-- the digit fold of `Ebb3.parseNat?` -/
def digFold (acc : Option Nat) (c : Char) : Option Nat :=
  match acc with
  | some a => if 48 ≤ c.toNat ∧ c.toNat ≤ 57 then some (a * 10 + (c.toNat - 48)) else Option.none
  | Option.none => Option.none

theorem foldl_none (s : List Char) : s.foldl digFold Option.none = Option.none := by
  induction s with
  | nil => rfl
  | cons c t ih => simpa [List.foldl, digFold] using ih

theorem foldl_digits (s : List Char) (a : Nat) :
    s.foldl digFold (some a) = if s.all Char.isDigit then some (Nat.ofDigitChars 10 s a) else Option.none := by
  induction s generalizing a with
  | nil => simp [Nat.ofDigitChars]
  | cons c t ih =>
    simp only [List.foldl, digFold, List.all_cons]
    by_cases hc : c.isDigit = true
    · have := (PyFloat.isDigit_iff c).mp hc
      simp only [this, and_self, ↓reduceIte, ih, hc, Bool.true_and, Nat.ofDigitChars_cons]
      have e : a * 10 + (c.toNat - 48) = 10 * a + (c.toNat - '0'.toNat) := by
        have : '0'.toNat = 48 := rfl
        rw [this]; omega
      rw [e]
    · have h' : ¬ (48 ≤ c.toNat ∧ c.toNat ≤ 57) := fun h => hc ((PyFloat.isDigit_iff c).mpr h)
      simp only [h', ↓reduceIte, foldl_none]
      simp [hc]

theorem parseNat_agree (s : List Char) : Ebb3.parseNat? s = C15.parseNat s := by
  unfold Ebb3.parseNat? C15.parseNat
  cases s with
  | nil => rfl
  | cons c t =>
    have := foldl_digits (c :: t) 0
    unfold digFold at this
    simp only [List.isEmpty_cons, Bool.false_eq_true, ↓reduceIte, Bool.not_false, Bool.true_and]
    exact this

theorem parseRelease_eq (s : List Char) :
    Ebb3.parseRelease s = (Ebb3.splitOn '.' (Ebb3.strip s)).mapM C15.parseNat := by
  unfold Ebb3.parseRelease
  generalize Ebb3.splitOn '.' (Ebb3.strip s) = l
  induction l with
  | nil => rfl
  | cons x r ih =>
    simp only [List.map_cons, List.foldr_cons, ih, List.mapM_cons, parseNat_agree]
    cases C15.parseNat x with
    | none => rfl
    | some a => cases List.mapM C15.parseNat r <;> rfl

/-- the text has no leading `v` after stripping (the runtime's `parse` does not accept one) -/
def NoV (t : List Char) : Prop := C15.dropV (C15.strip t) = C15.strip t

instance (t : List Char) : Decidable (NoV t) := by unfold NoV; infer_instance

theorem noV_render (l : List Nat) : NoV (C15.render l) := by
  unfold NoV
  rw [C15.strip_render, C15.dropV_render]

theorem parseRelease_agree (t : List Char) (h : NoV t) : Ebb3.parseRelease t = C15.parseVersion t := by
  rw [parseRelease_eq]
  unfold C15.parseVersion C15.parseRelease
  rw [h, LegacyGen.strip_agree, splitOn_agree]

theorem parseNat_nil : C15.parseNat [] = Option.none := rfl

theorem parseNat_head_digit {c : Char} {h : List Char} {n : Nat} (hp : C15.parseNat (c :: h) = some n) :
    c.isDigit = true := by
  unfold C15.parseNat at hp
  by_cases hd : c.isDigit = true
  · exact hd
  · simp [hd] at hp

theorem noV_of_parseRelease {t : List Char} {v : List Nat} (h : Ebb3.parseRelease t = some v) : NoV t := by
  rw [parseRelease_eq, LegacyGen.strip_agree, splitOn_agree] at h
  unfold NoV
  cases hs : C15.strip t with
  | nil => rfl
  | cons c r =>
    rw [hs] at h
    by_cases hc : c = '.'
    · subst hc
      simp [C15.splitOn, List.mapM_cons, parseNat_nil] at h
    · have : ∃ hd tl, C15.splitOn '.' (c :: r) = (c :: hd) :: tl := by
        simp only [C15.splitOn, hc, ↓reduceIte]
        cases C15.splitOn '.' r with
        | nil => exact ⟨[], [], rfl⟩
        | cons a b => exact ⟨a, b, rfl⟩
      obtain ⟨hd, tl, he⟩ := this
      rw [he, List.mapM_cons] at h
      cases hp : C15.parseNat (c :: hd) with
      | none => simp [hp] at h
      | some n =>
        have hd' := parseNat_head_digit hp
        simp only [C15.dropV, C15.isDigit_ne_v hd', ↓reduceIte]

theorem parseRelease_some {t : List Char} {v : List Nat} (h : Ebb3.parseRelease t = some v) :
    C15.parseVersion t = some v := by
  rw [← parseRelease_agree t (noV_of_parseRelease h)]; exact h

end Plotink.C15Gen
