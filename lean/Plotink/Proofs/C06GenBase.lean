import Plotink.Proofs.C07Gen
import Plotink.Props.C07
import Plotink.Proofs.LegacyGen
/-! # C06 over the regenerated code: one transmission, and the wire text of a request line

`ebb_serial.command` / `ebb_serial.query` (hand model `Model/C07.lean`) consume a prefix of the scripted reads and writes:
after its one write a call only advances the reads (`C07.query_adv`, `command_adv`).  Hence the domain `Dom p` = "every
scripted fault is a serial I/O exception and every scripted line is ASCII" is preserved by a call, which is what a helper
that transmits several requests needs.

What a call `ebb_serial.command(port, text, verbose)` / `ebb_serial.query(…)` of a regenerated legacy helper does to the
world, through `C07_gen_bridge`; and the characters of `C06.Cmd.wire`, also associated to the right
(`n.toList ++ argsCR l`): the form to which the text a generated `format_` / f-string renders reduces by computation, so
that it is recognised as the wire text of a documented command by `rfl`. -/
namespace Plotink
namespace C06Gen

section
open C07

def Shrinks (p' p : Port) : Prop := p'.reads <:+ p.reads ∧ p'.writes <:+ p.writes

theorem Shrinks.refl (p : Port) : Shrinks p p := ⟨List.suffix_refl _, List.suffix_refl _⟩

theorem adv_write_shrinks (m : Nat) (c : Bytes) (p : Port) : Shrinks (adv m (write c p).2) p := by
  rw [write_eq]
  exact ⟨List.drop_suffix m _, List.tail_suffix _⟩

theorem query_shrinks (P : Params) (c : Str) (p : Port) : Shrinks (query P c p).2 p := by
  cases hc : isAscii c
  · rw [(query_nonascii P c p hc).1]; exact Shrinks.refl p
  · obtain ⟨m, _, e⟩ := query_adv P c p hc
    exact e ▸ adv_write_shrinks m c p

theorem command_shrinks (P : Params) (c : Str) (p : Port) : Shrinks (command P c p).2 p := by
  cases hc : isAscii c
  · rw [(query_nonascii P c p hc).2]; exact Shrinks.refl p
  · obtain ⟨m, _, e⟩ := command_adv P c p hc
    exact e ▸ adv_write_shrinks m c p

def Dom (p : Port) : Prop := C07Gen.IoScript p ∧ allAscii p.reads = true

theorem Dom.shrinks {p' p : Port} (h : Shrinks p' p) (hd : Dom p) : Dom p' := by
  obtain ⟨⟨hr, hw⟩, ha⟩ := hd
  refine ⟨⟨fun c hc => hr c (h.1.subset hc), fun c hc => hw c (h.2.subset hc)⟩, ?_⟩
  unfold allAscii at *
  rw [List.all_eq_true] at *
  exact fun x hx => ha x (h.1.subset hx)

end

open PyObj Gen

abbrev outWorld {ω : Type} := @LegacyGen.outWorld ω

theorem toIO_port : toIO .port = PyIO.Val.port := rfl
theorem toIO_str (s : List Char) : toIO (.str s) = PyIO.Val.str s := rfl

/-- the exception that can escape `ebb_serial.command` here is that of decoding a non-ASCII reply -/
theorem ioCommand_io (fuel : Nat) (hf : 101 ≤ fuel) (t : List Char) (ht : PyIO.isAscii t = true) (vb : Val)
    (w : World NoObj) (hio : C07Gen.IoScript w.port) :
    ∃ p', p'.log = w.port.log ++ [t] ∧
      ((ioCall3 (ebb_serial_command fuel) (ok .port) (ok (.str t)) (ok vb) : Eff NoObj) w = (.ok .none, { w with port := p' }) ∨
       ∃ c, (ioCall3 (ebb_serial_command fuel) (ok .port) (ok (.str t)) (ok vb) : Eff NoObj) w = (.exc c, { w with port := p' })) := by
  have hb := (C07_gen_bridge fuel hf t (toIO vb) w.port hio).2
  have hl := C07.command_log C07.std t w.port ht
  have hv := C07.command_val C07.std t w.port
  simp only [ioCall3, bind_ok, toIO_port, toIO_str, hb]
  rcases hc : C07.command C07.std t w.port with ⟨r, p'⟩
  rw [hc] at hl hv
  refine ⟨p', hl, ?_⟩
  cases r with
  | ok v =>
    left
    have := hv v rfl
    subst this
    rfl
  | error e => right; exact ⟨_, rfl⟩

theorem ioCommand_dom (fuel : Nat) (hf : 101 ≤ fuel) (t : List Char) (ht : PyIO.isAscii t = true) (vb : Val)
    (w : World NoObj) (hd : Dom w.port) :
    ∃ p', p'.log = w.port.log ++ [t] ∧ Dom p' ∧
      (ioCall3 (ebb_serial_command fuel) (ok .port) (ok (.str t)) (ok vb) : Eff NoObj) w = (.ok .none, { w with port := p' }) := by
  have hb := (C07_gen_bridge fuel hf t (toIO vb) w.port hd.1).2
  have hl := C07.command_log C07.std t w.port ht
  have hs := command_shrinks C07.std t w.port
  have hok := (C07.command_ok C07.std t w.port ht hd.2).1
  simp only [ioCall3, bind_ok, toIO_port, toIO_str, hb]
  rcases hc : C07.command C07.std t w.port with ⟨r, p'⟩
  rw [hc] at hl hs hok
  simp only at hok
  subst hok
  exact ⟨p', hl, hd.shrinks hs, rfl⟩

theorem ioQuery_model (fuel : Nat) (hf : 101 ≤ fuel) (t : List Char) (ht : PyIO.isAscii t = true) (vb : Val) (w : World NoObj)
    (hd : Dom w.port) (s : List Char) (hs : (C07.query C07.std t w.port).1 = .ok (.str s)) :
    (ioCall3 (ebb_serial_query fuel) (ok .port) (ok (.str t)) (ok vb) : Eff NoObj) w =
        (.ok (.str s), { w with port := (C07.query C07.std t w.port).2 }) ∧
      (C07.query C07.std t w.port).2.log = w.port.log ++ [t] ∧ Dom (C07.query C07.std t w.port).2 := by
  have hb := (C07_gen_bridge fuel hf t (toIO vb) w.port hd.1).1
  refine ⟨?_, C07.query_log C07.std t w.port ht, hd.shrinks (query_shrinks C07.std t w.port)⟩
  simp only [ioCall3, bind_ok, toIO_port, toIO_str, hb]
  rcases hq : C07.query C07.std t w.port with ⟨r, p'⟩
  rw [hq] at hs
  simp only at hs
  subst hs
  rfl

theorem ioQuery_dom (fuel : Nat) (hf : 101 ≤ fuel) (t : List Char) (ht : PyIO.isAscii t = true) (vb : Val)
    (w : World NoObj) (hd : Dom w.port) :
    ∃ p' s, p'.log = w.port.log ++ [t] ∧ Dom p' ∧
      (ioCall3 (ebb_serial_query fuel) (ok .port) (ok (.str t)) (ok vb) : Eff NoObj) w = (.ok (.str s), { w with port := p' }) :=
  have ⟨h, hl, hd'⟩ := ioQuery_model fuel hf t ht vb w hd _ (C07.query_text C07.std t w.port rfl ht hd.2).1
  ⟨_, _, hl, hd', h⟩

theorem ioCommand_none (fuel : Nat) (t vb : Val) (w : World NoObj) :
    (ioCall3 (ebb_serial_command fuel) (ok .none) (ok t) (ok vb) : Eff NoObj) w = (.ok .none, w) := by
  have h := C07Gen.command_noop fuel .none (toIO t) (toIO vb) w.port (Or.inl rfl)
  simp only [ioCall3, bind_ok]
  show ofIOOut w (ebb_serial_command fuel PyIO.Val.none (toIO t) (toIO vb) w.port) = _
  rw [h]
  rfl

def argChars : List Int → List Char
  | [] => []
  | a :: r => ',' :: (Ebb3.showInt a ++ argChars r)

theorem lit_comma : ",".toList = [','] := by decide
theorem lit_cr : "\r".toList = ['\r'] := by decide
theorem lit_empty : "".toList = [] := by decide

theorem argsText_toList (l : List Int) : (C06.argsText l).toList = argChars l := by
  induction l with
  | nil => simp only [C06.argsText, argChars, lit_empty]
  | cons a r ih =>
    simp only [C06.argsText, argChars, String.toList_append, lit_comma, ih, List.cons_append, List.nil_append]
    rfl

theorem wire_toList (n : String) (l : List Int) :
    (C06.Cmd.wire ⟨n, l⟩).toList = n.toList ++ (argChars l ++ ['\r']) := by
  simp only [C06.Cmd.wire, C06.Cmd.text, String.toList_append, argsText_toList, lit_cr, List.append_assoc]

def argsCR : List Int → List Char
  | [] => ['\r']
  | a :: r => ',' :: (Ebb3.showInt a ++ argsCR r)

theorem argChars_cr (l : List Int) : argChars l ++ ['\r'] = argsCR l := by
  induction l with
  | nil => rfl
  | cons a r ih => simp only [argChars, argsCR, List.cons_append, List.append_assoc, ih]

theorem wire_cr (n : String) (l : List Int) : (C06.Cmd.wire ⟨n, l⟩).toList = n.toList ++ argsCR l := by
  rw [wire_toList, argChars_cr]

theorem isAscii_argChars (l : List Int) : PyIO.isAscii (argChars l) = true := by
  induction l with
  | nil => rfl
  | cons a r ih =>
    show PyIO.isAscii ([','] ++ (Ebb3.showInt a ++ argChars r)) = true
    exact isAscii_append_of (by decide) (isAscii_append_of (isAscii_showInt a) ih)

theorem isAscii_wire (n : String) (l : List Int) (hn : PyIO.isAscii n.toList = true) :
    PyIO.isAscii (C06.Cmd.wire ⟨n, l⟩).toList = true := by
  rw [wire_toList]
  exact isAscii_append_of hn (isAscii_append_of (isAscii_argChars l) (by decide))

def encOpt : Option Int → Val
  | some z => .int z
  | Option.none => .none

/-- the port argument of a legacy helper -/
def encPort (present : Bool) : Val := if present then .port else .none

end C06Gen
end Plotink
