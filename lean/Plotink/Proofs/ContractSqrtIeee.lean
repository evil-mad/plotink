import Plotink.Proofs.ContractIeee
import Mathlib.Tactic.LinearCombination
import Mathlib.Tactic.FieldSimp
import Mathlib.Data.Nat.Sqrt

/-! # `Rounding.ieee.mpSqrt = sqrtBits` meets the square-root contract

`sqrtBits p q` scales `q` by `4^k` (`k ≥ p + 4`, and large enough that the scaled value is at least
`4^(p+4)`), takes the integer square root `t` of the scaled value, and rounds to `p` bits either the exact
root `t / 2^k` (when `t² = q·4^k`) or the *stand-in* `(2t+1) / 2^(k+1)`, the midpoint of the grid cell
`(t/2^k, (t+1)/2^k)` that contains the root.

Two things are used of the stand-in. Its order: it compares with every non-negative `(p+1)`-bit number as the real root
does (`standin_cmp`), and two positive numbers that round differently have a `(p+1)`-bit number weakly between them
(`roundBits_break`); exactness on squares, monotonicity and the brackets ("correct rounding" without a real square
root) follow by order reasoning. Its distance: it is within relative `2^-p/32` of the root, whence the error bound
`sqrt_sq` of `Contract.lean`. -/

namespace Plotink

/-- the scaling exponent chosen by `sqrtBits` -/
def sqrtK (p : Nat) (q : Rat) : Nat :=
  p + 4 + Nat.log2 q.den + (if q < 1 then Nat.log2 q.den - Nat.log2 q.num.natAbs + 2 else 0)

def sqrtT (k : Nat) (q : Rat) : Nat := Nat.sqrt (q * (4 : Rat) ^ k).floor.toNat

def standin (k : Nat) (q : Rat) : Rat :=
  if ((sqrtT k q : Rat) * (sqrtT k q : Rat) = q * (4 : Rat) ^ k) then (sqrtT k q : Rat) / (2 : Rat) ^ k
  else (2 * (sqrtT k q : Rat) + 1) / (2 : Rat) ^ (k + 1)

theorem sqrtBits_nonpos (p : Nat) (q : Rat) (hq : q ≤ 0) : sqrtBits p q = 0 := by
  unfold sqrtBits; simp [hq]

theorem sqrtBits_pos (p : Nat) (q : Rat) (hq : 0 < q) :
    sqrtBits p q = roundBits p (standin (sqrtK p q) q) := by
  unfold sqrtBits
  simp only [not_le.mpr hq, if_false]
  rfl

theorem sqrtT_spec (k : Nat) (q : Rat) (hq : 0 < q) :
    (sqrtT k q : Rat) * (sqrtT k q : Rat) ≤ q * (4 : Rat) ^ k ∧
    q * (4 : Rat) ^ k < ((sqrtT k q : Rat) + 1) * ((sqrtT k q : Rat) + 1) := by
  unfold sqrtT
  set x := q * (4 : Rat) ^ k
  have hf0 : 0 ≤ x.floor := Rat.le_floor_iff.mpr (by exact_mod_cast (show (0 : Rat) ≤ x by positivity))
  have hnq : ((x.floor.toNat : Nat) : Rat) = ((x.floor : Int) : Rat) := by
    rw [← Int.cast_natCast, Int.toNat_of_nonneg hf0]
  set n := x.floor.toNat
  have s1 : ((Nat.sqrt n * Nat.sqrt n : Nat) : Rat) ≤ (n : Rat) := by exact_mod_cast Nat.sqrt_le n
  have s2 : ((n + 1 : Nat) : Rat) ≤ (((Nat.sqrt n + 1) * (Nat.sqrt n + 1) : Nat) : Rat) := by
    exact_mod_cast Nat.lt_succ_sqrt n
  push_cast at s1 s2
  rw [hnq] at s1 s2
  exact ⟨le_trans s1 (Rat.floor_le x), lt_of_lt_of_le (by exact_mod_cast Rat.lt_floor_add_one x) s2⟩

/-- `4^j` lifts `q` to at least 1 as soon as `2j` covers the bit-length deficit of the numerator -/
private theorem one_le_mul_four_pow (q : Rat) (hq : 0 < q) (j : Nat)
    (hj : q < 1 → Nat.log2 q.den + 1 ≤ Nat.log2 q.num.natAbs + 2 * j) : 1 ≤ q * (4 : Rat) ^ j := by
  rcases lt_or_ge q 1 with h | h
  · have hnum : 0 < q.num := Rat.num_pos.mpr hq
    have h4 : q.den ≤ q.num.natAbs * 4 ^ j :=
      calc q.den ≤ 2 ^ (Nat.log2 q.den + 1) := Nat.lt_log2_self.le
        _ ≤ 2 ^ (Nat.log2 q.num.natAbs + 2 * j) := Nat.pow_le_pow_right (by norm_num) (hj h)
        _ = 2 ^ Nat.log2 q.num.natAbs * 4 ^ j := by rw [pow_add, pow_mul]; norm_num
        _ ≤ q.num.natAbs * 4 ^ j := Nat.mul_le_mul_right _ (Nat.log2_self_le (by omega))
    have hdpos : (0 : Rat) < q.den := by exact_mod_cast q.den_pos
    conv_rhs => rw [← natAbs_num_div_den q hq]
    rw [div_mul_eq_mul_div, le_div_iff₀ hdpos, one_mul]
    exact_mod_cast h4
  · exact one_le_mul_of_one_le_of_one_le h (one_le_pow₀ (by norm_num))

theorem sqrtK_scaled_ge (p : Nat) (q : Rat) (hq : 0 < q) :
    (4 : Rat) ^ (p + 4) ≤ q * (4 : Rat) ^ (sqrtK p q) := by
  have key := one_le_mul_four_pow q hq
    (Nat.log2 q.den + (if q < 1 then Nat.log2 q.den - Nat.log2 q.num.natAbs + 2 else 0))
    (fun h => by rw [if_pos h]; omega)
  unfold sqrtK
  rw [add_assoc (p + 4), pow_add (4 : Rat) (p + 4), mul_left_comm]
  exact le_mul_of_one_le_right (by positivity) key

theorem sqrtK_ge (p : Nat) (q : Rat) : p + 4 ≤ sqrtK p q := by unfold sqrtK; omega

theorem sqrtT_ge (p : Nat) (q : Rat) (hq : 0 < q) : 2 ^ (p + 4) ≤ sqrtT (sqrtK p q) q := by
  obtain ⟨_, h2⟩ := sqrtT_spec (sqrtK p q) q hq
  have h1 := sqrtK_scaled_ge p q hq
  rw [show (4 : Rat) ^ (p + 4) = (2 : Rat) ^ (p + 4) * (2 : Rat) ^ (p + 4) by rw [← mul_pow]; norm_num] at h1
  have := lt_of_mul_self_lt_mul_self₀ (by positivity) (lt_of_le_of_lt h1 h2)
  have hn : 2 ^ (p + 4) < sqrtT (sqrtK p q) q + 1 := by exact_mod_cast this
  omega

theorem standin_bracket (p : Nat) (q : Rat) (hq : 0 < q) :
    0 < standin (sqrtK p q) q ∧
    (standin (sqrtK p q) q * standin (sqrtK p q) q = q ∨
      ∃ (t k : Nat), 2 ^ (p + 4) ≤ t ∧
        ((t : Rat) / 2 ^ k) * ((t : Rat) / 2 ^ k) < q ∧ q < (((t : Rat) + 1) / 2 ^ k) * (((t : Rat) + 1) / 2 ^ k) ∧
        standin (sqrtK p q) q = ((t : Rat) + 1 / 2) / 2 ^ k) := by
  obtain ⟨h1, h2⟩ := sqrtT_spec (sqrtK p q) q hq
  have ht := sqrtT_ge p q hq
  unfold standin
  set k := sqrtK p q
  set t := sqrtT k q
  have ht0 : (0 : Rat) < t := by exact_mod_cast lt_of_lt_of_le (by positivity) ht
  have sq : ∀ a : Rat, (a / 2 ^ k) * (a / 2 ^ k) = a * a / 4 ^ k := fun a => by
    rw [div_mul_div_comm, ← mul_pow, show (2 : Rat) * 2 = 4 by norm_num]
  have p4 : (0 : Rat) < 4 ^ k := by positivity
  split_ifs with heq
  · exact ⟨by positivity, Or.inl (by rw [sq, heq, mul_div_cancel_right₀ _ p4.ne'])⟩
  · refine ⟨by positivity, Or.inr ⟨t, k, ht, ?_, ?_, ?_⟩⟩
    · rw [sq, div_lt_iff₀ p4]; exact lt_of_le_of_ne h1 heq
    · rw [sq, lt_div_iff₀ p4]; exact h2
    · rw [pow_succ]; field_simp

/-- On the grid the stand-in is the root; else no `(p+1)`-bit number lies in the cell that holds both
(`rep_not_in_cell`). -/
theorem standin_cmp (p : Nat) (q : Rat) (hq : 0 < q) (g : Rat) (hg : 0 ≤ g) (hr : Rep (p + 1) g) :
    (g ≤ standin (sqrtK p q) q ↔ g * g ≤ q) ∧ (standin (sqrtK p q) q ≤ g ↔ q ≤ g * g) := by
  obtain ⟨hσ, hex | ⟨t, k, ht, hl, hu, hst⟩⟩ := standin_bracket p q hq
  · exact ⟨(mul_self_le_mul_self_iff hg hσ.le).trans (by rw [hex]), (mul_self_le_mul_self_iff hσ.le hg).trans (by rw [hex])⟩
  · have hk : (0 : Rat) < 2 ^ k := by positivity
    have lo0 : (0 : Rat) ≤ (t : Rat) / 2 ^ k := by positivity
    have m1 : (t : Rat) / 2 ^ k < ((t : Rat) + 1 / 2) / 2 ^ k := div_lt_div_of_pos_right (by linarith) hk
    have m2 : ((t : Rat) + 1 / 2) / 2 ^ k < ((t : Rat) + 1) / 2 ^ k := div_lt_div_of_pos_right (by linarith) hk
    have hcell : g ≤ (t : Rat) / 2 ^ k ∨ ((t : Rat) + 1) / 2 ^ k ≤ g := by
      by_contra hc
      rw [not_or, not_le, not_le] at hc
      exact rep_not_in_cell p t k (le_trans (Nat.pow_le_pow_right (by norm_num) (by omega)) ht) g hr hc.1 hc.2
    rw [hst]
    rcases hcell with h | h
    · have hsq := (mul_self_le_mul_self hg h).trans_lt hl
      exact ⟨iff_of_true (h.trans m1.le) hsq.le, iff_of_false (not_le.mpr (h.trans_lt m1)) (not_le.mpr hsq)⟩
    · have hsq := hu.trans_le (mul_self_le_mul_self (lo0.trans (m1.trans m2).le) h)
      exact ⟨iff_of_false (not_le.mpr (m2.trans_le h)) (not_le.mpr hsq), iff_of_true (m2.le.trans h) hsq.le⟩

theorem sqrtBits_nonneg (p : Nat) (x : Rat) : 0 ≤ sqrtBits p x := by
  rcases le_or_gt x 0 with h | h
  · rw [sqrtBits_nonpos p x h]
  · obtain ⟨hs, _⟩ := standin_bracket p x h
    rw [sqrtBits_pos p x h, roundBits_pos p _ hs]
    exact rmag_nonneg p _ hs

/-- were the roundings of the stand-in `σ` and of `y` different, a `(p+1)`-bit `h` would lie weakly between the two, and
`σ`, `y` are on the same side of every such `h` -/
theorem sqrtBits_sq (p : Nat) (y : Rat) (hy : 0 < y) : sqrtBits p (y * y) = roundBits p y := by
  have hq : 0 < y * y := mul_pos hy hy
  have hσ := (standin_bracket p _ hq).1
  rw [sqrtBits_pos p _ hq]
  by_contra hne
  have cmp : ∀ h, 0 ≤ h → Rep (p + 1) h →
      (h ≤ standin (sqrtK p (y * y)) (y * y) ↔ h ≤ y) ∧ (standin (sqrtK p (y * y)) (y * y) ≤ h ↔ y ≤ h) :=
    fun h h0 hr => ⟨((standin_cmp p _ hq h h0 hr).1).trans (mul_self_le_mul_self_iff h0 hy.le).symm,
      ((standin_cmp p _ hq h h0 hr).2).trans (mul_self_le_mul_self_iff hy.le h0).symm⟩
  rcases le_total (standin (sqrtK p (y * y)) (y * y)) y with hle | hle
  · obtain ⟨h, hr, h1, h2⟩ := roundBits_break p _ _ hσ hle hne
    obtain ⟨c1, c2⟩ := cmp h (hσ.le.trans h1) hr
    exact hne (by rw [le_antisymm h1 (c1.mpr h2), le_antisymm h2 (c2.mp h1)])
  · obtain ⟨h, hr, h1, h2⟩ := roundBits_break p _ _ hy hle (Ne.symm hne)
    obtain ⟨c1, c2⟩ := cmp h (hy.le.trans h1) hr
    exact hne (by rw [le_antisymm (c2.mpr h1) h2, le_antisymm (c1.mp h2) h1])

theorem sqrtBits_exact (p : Nat) (y : Rat) (hy : 0 ≤ y) (hr : Rep p y) : sqrtBits p (y * y) = y := by
  rcases hy.lt_or_eq with hpos | rfl
  · rw [sqrtBits_sq p y hpos, roundBits_exact p y hr]
  · simp [sqrtBits]

/-- were the roundings in the wrong order, so were the stand-ins (`roundBits_mono`), with a `(p+1)`-bit `h` weakly
between them; then `y ≤ h² ≤ x` -/
theorem sqrtBits_mono (p : Nat) (hp : 1 ≤ p) (x y : Rat) (hxy : x ≤ y) : sqrtBits p x ≤ sqrtBits p y := by
  rcases le_or_gt x 0 with hx | hx
  · rw [sqrtBits_nonpos p x hx]; exact sqrtBits_nonneg p y
  have hy : 0 < y := lt_of_lt_of_le hx hxy
  have hσy := (standin_bracket p y hy).1
  rw [sqrtBits_pos p x hx, sqrtBits_pos p y hy]
  by_contra hlt
  obtain ⟨h, hr, h1, h2⟩ := roundBits_break p _ _ hσy
    (le_of_lt (lt_of_not_ge fun h => hlt (roundBits_mono p hp _ _ h))) fun e => hlt e.ge
  have h0 := hσy.le.trans h1
  obtain rfl : x = y := le_antisymm hxy
    (((standin_cmp p y hy h h0 hr).2.mp h1).trans ((standin_cmp p x hx h h0 hr).1.mp h2))
  exact hlt le_rfl

/-- with `sqrtBits_le_of_le_sq`: the computed root lies between the two neighbouring representables whose squares
bracket `x`, so it is the `p`-bit rounding of the true root, said without a real square root -/
theorem sqrtBits_ge_of_sq_le (p : Nat) (hp : 1 ≤ p) (g x : Rat) (hg : 0 ≤ g) (hr : Rep p g) (h : g * g ≤ x) :
    g ≤ sqrtBits p x := by
  rw [← sqrtBits_exact p g hg hr]; exact sqrtBits_mono p hp _ _ h

theorem sqrtBits_le_of_le_sq (p : Nat) (hp : 1 ≤ p) (g x : Rat) (hg : 0 ≤ g) (hr : Rep p g) (h : x ≤ g * g) :
    sqrtBits p x ≤ g := by
  rw [← sqrtBits_exact p g hg hr]; exact sqrtBits_mono p hp _ _ h

/-- the error analysis of the final rounding, free of the grid: `s` is within relative `ε` of `σ`, and `σ` is
within relative `ε/32` of the root of `q`, which `L` and `U` bracket (`L = U = σ` when the root is exact) -/
private theorem sq_bracket (ε σ s q L U : Rat) (he0 : 0 ≤ ε) (he1 : ε ≤ 1 / 2) (hL : 0 ≤ L) (hU : 0 ≤ U)
    (hs0 : 0 ≤ s) (herr : |s - σ| ≤ σ * ε) (hl : L * L ≤ q) (hu : q ≤ U * U)
    (hσl : U * (1 - ε / 32) ≤ σ) (hσu : σ ≤ L * (1 + ε / 32)) :
    q * (1 - 33 / 32 * ε) ^ 2 ≤ s ^ 2 ∧ s ^ 2 ≤ q * (1 + 67 / 64 * ε) ^ 2 := by
  obtain ⟨l, u⟩ := abs_le.mp herr
  constructor
  · -- `U·(1 - 33/32·ε) ≤ U·(1 - ε/32)·(1 - ε) ≤ σ·(1 - ε) ≤ s`
    have h1 : U * (1 - 33 / 32 * ε) ≤ s := by
      have a := mul_le_mul_of_nonneg_right hσl (sub_nonneg.mpr (he1.trans (by norm_num : (1 : Rat) / 2 ≤ 1)))
      have b := mul_nonneg hU (mul_nonneg he0 he0)
      linear_combination a + (1 / 32) * b + l
    calc q * (1 - 33 / 32 * ε) ^ 2 ≤ U * U * (1 - 33 / 32 * ε) ^ 2 :=
          mul_le_mul_of_nonneg_right hu (sq_nonneg _)
      _ = (U * (1 - 33 / 32 * ε)) * (U * (1 - 33 / 32 * ε)) := by ring
      _ ≤ s * s := mul_self_le_mul_self (mul_nonneg hU (by linarith only [he1])) h1
      _ = s ^ 2 := (sq s).symm
  · -- `s ≤ σ·(1 + ε) ≤ L·(1 + ε/32)·(1 + ε) ≤ L·(1 + 67/64·ε)`, the last step by `ε ≤ 1/2`
    have h1 : s ≤ L * (1 + 67 / 64 * ε) := by
      have a := mul_le_mul_of_nonneg_right hσu (add_nonneg zero_le_one he0)
      have b := mul_nonneg hL (mul_nonneg he0 (sub_nonneg.mpr he1))
      linear_combination u + a + (1 / 32) * b
    calc s ^ 2 = s * s := sq s
      _ ≤ (L * (1 + 67 / 64 * ε)) * (L * (1 + 67 / 64 * ε)) := mul_self_le_mul_self hs0 h1
      _ = L * L * (1 + 67 / 64 * ε) ^ 2 := by ring
      _ ≤ q * (1 + 67 / 64 * ε) ^ 2 := mul_le_mul_of_nonneg_right hl (sq_nonneg _)

/-- the midpoint of a cell whose lower end is at least `16/ε` grid units is within relative `ε/32` of both ends -/
private theorem mid_near (t K ε : Rat) (hK : 0 < K) (he0 : 0 ≤ ε) (hfine : 16 ≤ t * ε) :
    (t + 1) / K * (1 - ε / 32) ≤ (t + 1 / 2) / K ∧ (t + 1 / 2) / K ≤ t / K * (1 + ε / 32) := by
  rw [div_mul_eq_mul_div, div_mul_eq_mul_div, div_le_div_iff_of_pos_right hK, div_le_div_iff_of_pos_right hK]
  exact ⟨by linear_combination (1 / 32) * hfine + (1 / 32) * he0, by linear_combination (1 / 32) * hfine⟩

/-- `√x·(1 - 33/32·ε) ≤ s ≤ √x·(1 + 67/64·ε)` for the computed root `s` and `ε = 2^-p`, stated on squares (both
factors are non-negative) -/
theorem sqrtBits_rel_bracket (p : Nat) (hp : 1 ≤ p) (x : Rat) (hx : 0 ≤ x) :
    x * (1 - 33 / 32 * (1 / 2 ^ p)) ^ 2 ≤ (sqrtBits p x) ^ 2 ∧
    (sqrtBits p x) ^ 2 ≤ x * (1 + 67 / 64 * (1 / 2 ^ p)) ^ 2 := by
  rcases lt_or_eq_of_le hx with hpos | rfl
  · have hs0 := sqrtBits_nonneg p x
    obtain ⟨hσ, hcase⟩ := standin_bracket p x hpos
    rw [sqrtBits_pos p x hpos] at hs0 ⊢
    set σ := standin (sqrtK p x) x
    have hP : (0 : Rat) < (2 : Rat) ^ p := by positivity
    have hε0 : (0 : Rat) ≤ 1 / 2 ^ p := by positivity
    have hε2 : (1 : Rat) / 2 ^ p ≤ 1 / 2 :=
      one_div_le_one_div_of_le (by norm_num) (le_self_pow₀ (by norm_num) (by omega))
    have herr : |roundBits p σ - σ| ≤ σ * (1 / 2 ^ p) := by
      have := roundBits_err p σ
      rwa [abs_of_pos hσ, ← mul_one_div] at this
    rcases hcase with hex | ⟨t, k, ht, hl, hu, hst⟩
    · exact sq_bracket _ σ _ x σ σ hε0 hε2 hσ.le hσ.le hs0 herr hex.le hex.ge
        (mul_le_of_le_one_right hσ.le (sub_le_self 1 (div_nonneg hε0 (by norm_num))))
        (le_mul_of_one_le_right hσ.le (le_add_of_nonneg_right (div_nonneg hε0 (by norm_num))))
    · have hk : (0 : Rat) < (2 : Rat) ^ k := by positivity
      have hfine : (16 : Rat) ≤ (t : Rat) * (1 / 2 ^ p) := by
        have : ((2 : Rat) ^ (p + 4)) ≤ (t : Rat) := by exact_mod_cast ht
        rw [mul_one_div, le_div_iff₀ hP]; rw [pow_add] at this; linarith only [this]
      have ht0 : (0 : Rat) ≤ t := Nat.cast_nonneg t
      obtain ⟨m1, m2⟩ := mid_near t (2 ^ k) _ hk hε0 hfine
      rw [hst] at herr hs0 ⊢
      exact sq_bracket _ _ _ x _ _ hε0 hε2 (div_nonneg ht0 hk.le) (div_nonneg (add_nonneg ht0 zero_le_one) hk.le) hs0 herr
        hl.le hu.le m1 m2
  · simp [sqrtBits]

/-- a relative bracket of the square with these constants is within `3·ε`: the slack is `3 − 2·33/32 = 15/16` below and
`3 − 2·67/64 = 29/32` above, against the `ε²` terms -/
private theorem sq_err_of_bracket (ε s q : Rat) (he0 : 0 ≤ ε) (he1 : ε ≤ 1 / 2) (hq : 0 ≤ q)
    (h : q * (1 - 33 / 32 * ε) ^ 2 ≤ s ^ 2 ∧ s ^ 2 ≤ q * (1 + 67 / 64 * ε) ^ 2) : |s ^ 2 - q| ≤ 3 * q * ε := by
  have h1 : 0 ≤ q * (ε * (15 / 16 + (33 / 32) ^ 2 * ε)) :=
    mul_nonneg hq (mul_nonneg he0 (add_nonneg (by norm_num) (mul_nonneg (by norm_num) he0)))
  have h2 : 0 ≤ q * (ε * (29 / 32 - (67 / 64) ^ 2 * ε)) :=
    mul_nonneg hq (mul_nonneg he0 (by linarith only [he1]))
  rw [abs_le]
  exact ⟨by linear_combination h.1 + h1, by linear_combination h.2 + h2⟩

/-- at `p = 0` the relative error of `roundBits` is up to 1, so all that is used is `s ≤ 2·r` for some `r ≤ √q` -/
private theorem sq_err_zero (s r q : Rat) (hs : 0 ≤ s) (hr : s ≤ 2 * r) (hq : r * r ≤ q) : |s ^ 2 - q| ≤ 3 * q := by
  have h1 : s * s ≤ (2 * r) * (2 * r) := mul_self_le_mul_self hs hr
  have h0 : 0 ≤ s * s := mul_nonneg hs hs
  rw [abs_le, sq]
  exact ⟨by linear_combination h0 + 2 * hq + 2 * mul_self_nonneg r, by linear_combination h1 + 4 * hq⟩

theorem sqrtBits_sq_err (p : Nat) (x : Rat) (hx : 0 ≤ x) :
    0 ≤ sqrtBits p x ∧ |(sqrtBits p x) ^ 2 - x| ≤ 3 * x / 2 ^ p := by
  refine ⟨sqrtBits_nonneg p x, ?_⟩
  rcases Nat.eq_zero_or_pos p with rfl | hp1
  · rw [pow_zero, div_one]
    rcases lt_or_eq_of_le hx with hpos | rfl
    · -- the `0`-bit rounding of the stand-in `σ` is at most `2·2^L`, `L = ilog2 σ`; the power of two `2^L ≤ σ` is a
      -- 1-bit number, hence below the root
      have hs0 := sqrtBits_nonneg 0 x
      have hσ := (standin_bracket 0 x hpos).1
      have hle := rmag_le_pow 0 _ hσ
      rw [sqrtBits_pos 0 x hpos, roundBits_pos 0 _ hσ] at hs0 ⊢
      rw [zpow_add_one₀ two_ne_zero, mul_comm] at hle
      exact sq_err_zero _ _ x hs0 hle ((standin_cmp 0 x hpos _ (by positivity)
        ⟨1, _, by rw [Int.cast_one, one_mul], by norm_num⟩).1.mp (pow_ilog2_le _ hσ))
    · simp [sqrtBits]
  · rw [← mul_one_div (3 * x)]
    exact sq_err_of_bracket _ _ x (by positivity)
      (one_div_le_one_div_of_le (by norm_num) (le_self_pow₀ (by norm_num) (by omega))) hx
      (sqrtBits_rel_bracket p hp1 x hx)

theorem contractSqrt_ieee : ContractSqrt Rounding.ieee where
  sqrt_sq := fun p x hx => sqrtBits_sq_err p x hx
  sqrt_exact := fun p y hy hr => sqrtBits_exact p y hy hr

/-- **the full contract of DESIGN §5b holds for the arithmetic the driver executes** -/
theorem contract_ieee : Contract Rounding.ieee where
  toContractBasic := contractBasic_ieee
  toContractSqrt := contractSqrt_ieee

end Plotink
