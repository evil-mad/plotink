import Plotink.Proofs.Ebb3GenConnect
import Plotink.Proofs.Ebb3GenMethods
import Plotink.Proofs.Ebb3GenInt32
import Plotink.Proofs.Ebb3GenMotors

/-! # The regenerated methods as one `genRun`, the set `S` of bridged methods, the master bridge, histories

`genRun fuel c w` calls the regenerated method of the call `c` with its arguments encoded as Python values.
`inS` is the set **S** of bridged methods (all 38 public methods of `EBB3` / `EBBMotionWrap`); `gen_bridge` puts the
per-method bridges together and is then carried along histories of calls. -/

namespace Plotink
namespace Ebb3Gen
open PyObj Gen

/-- the regenerated method of a call (`connect` / `find_first` take their environment from `w.ext`) -/
def genRun (fuel : Nat) : Ebb3.Call → World EBB3_Obj → Out EBB3_Obj
  | .command req => EBB3_command fuel (encReq req)
  | .query req => EBB3_query fuel (encReq req)
  | .query_statusbyte => EBB3_query_statusbyte fuel
  | .record_error m => EBB3_record_error fuel (.str m)
  | .disconnect => EBB3_disconnect fuel
  | .reboot => EBB3_reboot fuel
  | .bootload => EBB3_bootload fuel
  | .var_write v i => EBB3_var_write fuel (.int v) (.int i)
  | .var_read i => EBB3_var_read fuel (.int i)
  | .timed_pause t => EBBMotionWrap_timed_pause fuel (.int t)
  | .xy_move dx dy dur => EBBMotionWrap_xy_move fuel (.int dx) (.int dy) (.int dur)
  | .abs_move r a b => EBBMotionWrap_abs_move fuel (.int r) (encOptInt a) (encOptInt b)
  | .motors_disable => EBBMotionWrap_motors_disable fuel
  | .clear_steps => EBBMotionWrap_clear_steps fuel
  | .clear_accumulators => EBBMotionWrap_clear_accumulators fuel
  | .pen_lower d p => EBBMotionWrap_pen_lower fuel (.int d) (encOptInt p)
  | .pen_raise d p => EBBMotionWrap_pen_raise fuel (.int d) (encOptInt p)
  | .dio_b_set p s => EBBMotionWrap_dio_b_set fuel (.int p) (.int s)
  | .pen_pos_down v => EBBMotionWrap_pen_pos_down fuel (.int v)
  | .pen_pos_up v => EBBMotionWrap_pen_pos_up fuel (.int v)
  | .pen_rate_down v => EBBMotionWrap_pen_rate_down fuel (.int v)
  | .pen_rate_up v => EBBMotionWrap_pen_rate_up fuel (.int v)
  | .servo_timeout m s => EBBMotionWrap_servo_timeout fuel (.int m) (encOptInt s)
  | .find_first _ => EBB3_find_first fuel
  | .parse_version s => EBB3_parse_version fuel (.str s)
  | .query_nickname => EBB3_query_nickname fuel
  | .write_nickname n => EBB3_write_nickname fuel (encReq n)
  | .connect g c _ _ => EBB3_connect fuel (encReq g) (encReq c)
  | .min_version v => EBB3_min_version fuel (.str v)
  | .var_write_int32 v i => EBB3_var_write_int32 fuel (.int v) (.int i)
  | .var_read_int32 i => EBB3_var_read_int32 fuel (.int i)
  | .motors_enable a b => EBBMotionWrap_motors_enable fuel (.int a) (.int b)
  | .motors_query_enabled => EBBMotionWrap_motors_query_enabled fuel
  | .query_steps => EBBMotionWrap_query_steps fuel
  | .dio_b_config p s d => EBBMotionWrap_dio_b_config fuel (.int p) (.int s) (.int d)
  | .dio_b_read p => EBBMotionWrap_dio_b_read fuel (.int p)
  | .query_voltage t => EBBMotionWrap_query_voltage fuel (encOptInt t)
  | .query_current => EBBMotionWrap_query_current fuel

/-- **the set S** of methods whose regenerated code is bridged to the model -/
def inS : Ebb3.Method → Bool
  | _ => true

/-- request texts are ASCII (the regenerated `encode('ascii')` raises `UnicodeEncodeError` otherwise; outside the
alphabet of the properties) -/
def ArgsAscii : Ebb3.Call → Prop
  | .command (some s) => PyIO.isAscii s = true
  | .query (some s) => PyIO.isAscii s = true
  | .write_nickname (some s) => PyIO.isAscii s = true
  | _ => True

/-- fuel that covers the loops of a call: 26 for the retry loops; `timed_pause t` makes at most `t + 1` passes -/
def fuelNeed : Ebb3.Call → Nat
  | .timed_pause t => max 26 (t.toNat + 1)
  | _ => 26

/-- per-call side condition of the bridge, on the world the call starts in: `RebootOk` for `reboot` / `bootload` on an
unblocked object; `find_first` / `connect` take the model's environment arguments from `w.ext` (`PortIn`,
`ext.openOk`), and `connect` needs `SerialOnly` -/
def Pre (c : Ebb3.Call) (w : World EBB3_Obj) : Prop :=
  match c with
  | .reboot => (absSt w.obj).blocked = false → RebootOk w
  | .bootload => (absSt w.obj).blocked = false → RebootOk w
  | .find_first f => PortIn Option.none f w.ext
  | .connect g _ f o => PortIn g f w.ext ∧ o = w.ext.openOk ∧ SerialOnly w
  | _ => True

theorem pre_of_blocked {c : Ebb3.Call} (hr : c.method.isRequest = true) {w : World EBB3_Obj}
    (hb : (absSt w.obj).blocked = true) : Pre c w := by
  cases c <;> first | trivial | exact fun h => absurd (hb.symm.trans h) (by decide) | cases hr

def RebootW (w : World EBB3_Obj) : Prop :=
  ∀ c, PyIO.Wr.raise c ∈ w.port.writes → PyIO.catches rebootClasses c = true

/-- the *static* form of `Pre`: a condition on the inputs (scripts, `ext`) that no regenerated method can break
(`Env.fr`), so it is imposed once, on the world a history starts in -/
def Env (c : Ebb3.Call) (w : World EBB3_Obj) : Prop :=
  match c with
  | .reboot => RebootW w
  | .bootload => RebootW w
  | .find_first f => PortIn Option.none f w.ext
  | .connect g _ f o => PortIn g f w.ext ∧ o = w.ext.openOk ∧ SerialOnly w
  | _ => True

theorem RebootW.ok {w : World EBB3_Obj} (h : RebootW w) : RebootOk w :=
  fun c ws hw => h c (by rw [hw]; exact List.mem_cons_self)

theorem Env.pre {c : Ebb3.Call} {w : World EBB3_Obj} (h : Env c w) : Pre c w := by
  cases c <;> first | exact h | exact fun _ => RebootW.ok h

theorem Env.fr {c : Ebb3.Call} {w w' : World EBB3_Obj} (h : Env c w) (hf : Fr w w') : Env c w' := by
  cases c <;> try exact h
  case reboot => exact fun c hc => h c (hf.writes hc)
  case bootload => exact fun c hc => h c (hf.writes hc)
  case find_first f =>
    show PortIn Option.none f w'.ext
    rw [hf.ext]; exact h
  case connect g cl f o =>
    obtain ⟨h1, h2, h3⟩ := h
    show PortIn g f w'.ext ∧ o = w'.ext.openOk ∧ SerialOnly w'
    rw [hf.ext]
    exact ⟨h1, h2, h3.fr hf⟩

structure Covered (fuel : Nat) (c : Ebb3.Call) : Prop where
  inS : inS c.method = true
  ascii : ArgsAscii c
  fuel : fuelNeed c ≤ fuel

/-- **master bridge**: for every call of every public method -/
theorem gen_bridge (fuel : Nat) (c : Ebb3.Call) (hc : Covered fuel c) (w : World EBB3_Obj) (hg : Good w) (hp : Pre c w) :
    Sim (genRun fuel c w) (Ebb3.run Ebb3.srcParams Ebb3.scriptDev c (absWorld w)) := by
  obtain ⟨hs, ha, hf⟩ := hc
  cases c
  case find_first f => exact find_first_bridge' fuel f w hg hp
  case connect g cl f o =>
    obtain ⟨hin, ho, hso⟩ := hp
    subst ho
    exact connect_bridge fuel hf g cl f w hg hin hso
  case reboot => exact reboot_bridge fuel w hg hp
  case bootload => exact bootload_bridge fuel w hg hp
  case record_error m => exact record_error_bridge fuel m w hg
  case disconnect => exact disconnect_bridge fuel w hg
  case command req =>
    exact command_bridge_ascii fuel hf req (fun s hs => by subst hs; exact ha) w hg
  case query req =>
    exact query_bridge_ascii fuel hf req (fun s hs => by subst hs; exact ha) w hg
  case query_statusbyte => exact query_statusbyte_bridge fuel w hg
  case var_write v i => exact var_write_bridge fuel hf v i w hg
  case var_read i => exact var_read_bridge fuel hf i w hg
  case timed_pause t =>
    simp only [fuelNeed] at hf
    exact timed_pause_bridge fuel (by omega) t (by omega) w hg
  case xy_move dx dy dur => exact xy_move_bridge fuel hf dx dy dur w hg
  case abs_move r a b => exact abs_move_bridge fuel hf r a b w hg
  case motors_disable => exact motors_disable_bridge fuel hf w hg
  case clear_steps => exact clear_steps_bridge fuel hf w hg
  case clear_accumulators => exact clear_accumulators_bridge fuel hf w hg
  case pen_lower d p => exact pen_lower_bridge fuel hf d p w hg
  case pen_raise d p => exact pen_raise_bridge fuel hf d p w hg
  case dio_b_set p s => exact dio_b_set_bridge fuel hf p s w hg
  case pen_pos_down v => exact pen_pos_down_bridge fuel hf v w hg
  case pen_pos_up v => exact pen_pos_up_bridge fuel hf v w hg
  case pen_rate_down v => exact pen_rate_down_bridge fuel hf v w hg
  case pen_rate_up v => exact pen_rate_up_bridge fuel hf v w hg
  case servo_timeout m s => exact servo_timeout_bridge fuel hf m s w hg
  case dio_b_config p s d => exact dio_b_config_bridge fuel hf p s d w hg
  case dio_b_read p => exact dio_b_read_bridge fuel hf p w hg
  case query_nickname => exact query_nickname_bridge fuel hf w hg
  case write_nickname n => exact write_nickname_bridge fuel hf n (fun s hs => by subst hs; exact ha) w hg
  case query_current => exact query_current_bridge fuel hf w hg
  case query_voltage t => exact query_voltage_bridge fuel hf t w hg
  case query_steps => exact query_steps_bridge fuel hf w hg
  case motors_query_enabled => exact motors_query_enabled_bridge fuel hf w hg
  case var_write_int32 v i => exact var_write_int32_bridge fuel hf v i w hg
  case var_read_int32 i => exact var_read_int32_bridge fuel hf i w hg
  case motors_enable a b => exact motors_enable_bridge fuel hf a b w hg
  case parse_version s => exact parse_version_bridge fuel s w hg
  case min_version v => exact min_version_bridge fuel v w hg

def outWorld : Out EBB3_Obj → Option (World EBB3_Obj)
  | .val _ w => some w
  | .exc _ w => some w
  | .fuelOut => Option.none

theorem sim_world {out : Out EBB3_Obj} {r : Except Ebb3.PyExc Ebb3.Val × Ebb3.World Ebb3.Script} (h : Sim out r) :
    ∃ w', outWorld out = some w' ∧ absWorld w' = r.2 ∧ Good w' := by
  rcases sim_cases h with ⟨v, w', rfl, rfl, hg⟩ | ⟨ex, w', rfl, rfl, hg⟩ <;> exact ⟨w', rfl, rfl, hg⟩

theorem sim_val {out : Out EBB3_Obj} {v' : Ebb3.Val} {aw : Ebb3.World Ebb3.Script} (h : Sim out (.ok v', aw)) :
    ∃ w', out = .val (encVal v') w' ∧ absWorld w' = aw ∧ Good w' := by
  cases out with
  | fuelOut => exact h.elim
  | exc c w' => exact h.elim
  | val v w' => exact ⟨w', by rw [h.1], h.2.1, h.2.2⟩

/-- the world after a history on the regenerated methods (`none`: out of fuel) -/
def genFinal (fuel : Nat) : List Ebb3.Call → World EBB3_Obj → Option (World EBB3_Obj)
  | [], w => some w
  | c :: cs, w => match outWorld (genRun fuel c w) with
    | some w' => genFinal fuel cs w'
    | Option.none => Option.none

/-- the outcomes of the calls of a history, in order (stops if a call runs out of fuel) -/
def genCalls (fuel : Nat) : List Ebb3.Call → World EBB3_Obj → List (Out EBB3_Obj)
  | [], _ => []
  | c :: cs, w => genRun fuel c w :: (match outWorld (genRun fuel c w) with
    | some w' => genCalls fuel cs w'
    | Option.none => [])

def HistPre (fuel : Nat) : List Ebb3.Call → World EBB3_Obj → Prop
  | [], _ => True
  | c :: cs, w => Pre c w ∧ ∀ w', outWorld (genRun fuel c w) = some w' → HistPre fuel cs w'

theorem genRun_fr (fuel : Nat) (c : Ebb3.Call) (w : World EBB3_Obj) : FrO w (genRun fuel c w) := by
  cases c <;> simp only [genRun] <;> exact (by fr_walk : FrM _) w

theorem fr_of_outWorld {w w' : World EBB3_Obj} {out : Out EBB3_Obj} (h : FrO w out) (hw : outWorld out = some w') :
    Fr w w' := by
  cases out with
  | fuelOut => cases hw
  | val v w1 => injection hw with hw; rw [← hw]; exact h
  | exc c w1 => injection hw with hw; rw [← hw]; exact h

/-- **the side conditions along a history follow from the static ones on its first world**: the regenerated methods
leave `ext` alone and only consume the scripts (`genRun_fr`) -/
theorem histPre_of_env (fuel : Nat) : ∀ (cs : List Ebb3.Call) (w : World EBB3_Obj),
    (∀ c ∈ cs, Env c w) → HistPre fuel cs w
  | [], _, _ => trivial
  | c :: cs, w, h => by
    refine ⟨(h c List.mem_cons_self).pre, fun w' hw' => histPre_of_env fuel cs w' (fun c' hc' => ?_)⟩
    exact (h c' (List.mem_cons_of_mem _ hc')).fr (fr_of_outWorld (genRun_fr fuel c w) hw')

theorem env_of_plain {c : Ebb3.Call} (w : World EBB3_Obj)
    (h : c.method ≠ .reboot ∧ c.method ≠ .bootload ∧ c.method ≠ .find_first ∧ c.method ≠ .connect) : Env c w := by
  obtain ⟨h1, h2, h3, h4⟩ := h
  cases c <;> trivial

/-- a history over S ends in a world that the model's final world abstracts -/
theorem gen_final_sim (fuel : Nat) : ∀ (cs : List Ebb3.Call) (w : World EBB3_Obj),
    (∀ c ∈ cs, Covered fuel c) → Good w → HistPre fuel cs w →
    ∃ w', genFinal fuel cs w = some w' ∧
      absWorld w' = Ebb3.finalWorld Ebb3.srcParams Ebb3.scriptDev cs (absWorld w) ∧ Good w'
  | [], w, _, hg, _ => ⟨w, rfl, rfl, hg⟩
  | c :: cs, w, hc, hg, hp => by
    obtain ⟨wa, ha1, ha2, hga⟩ := sim_world (gen_bridge fuel c (hc c List.mem_cons_self) w hg hp.1)
    obtain ⟨wb, hb1, hb2, hgb⟩ := gen_final_sim fuel cs wa
      (fun c' hc' => hc c' (List.mem_cons_of_mem _ hc')) hga (hp.2 wa ha1)
    refine ⟨wb, by simp only [genFinal, ha1, hb1], ?_, hgb⟩
    rw [hb2, ha2]
    rfl

inductive CallsSim : List (Out EBB3_Obj) → List (Ebb3.Outcome Ebb3.Script) → Prop
  | nil : CallsSim [] []
  | cons {o : Out EBB3_Obj} {m : Ebb3.Outcome Ebb3.Script} {os : List (Out EBB3_Obj)}
      {ms : List (Ebb3.Outcome Ebb3.Script)} : Sim o (m.res, m.world) → CallsSim os ms → CallsSim (o :: os) (m :: ms)

theorem gen_calls_sim (fuel : Nat) : ∀ (cs : List Ebb3.Call) (w : World EBB3_Obj),
    (∀ c ∈ cs, Covered fuel c) → Good w → HistPre fuel cs w →
    CallsSim (genCalls fuel cs w) (Ebb3.runCalls Ebb3.srcParams Ebb3.scriptDev cs (absWorld w))
  | [], _, _, _, _ => CallsSim.nil
  | c :: cs, w, hc, hg, hp => by
    have hb := gen_bridge fuel c (hc c List.mem_cons_self) w hg hp.1
    obtain ⟨w1, h1, h2, hg1⟩ := sim_world hb
    have ih := gen_calls_sim fuel cs w1 (fun c' hc' => hc c' (List.mem_cons_of_mem _ hc')) hg1 (hp.2 w1 h1)
    simp only [genCalls, h1, Ebb3.runCalls]
    refine CallsSim.cons hb ?_
    rw [show (Ebb3.runCall Ebb3.srcParams Ebb3.scriptDev c (absWorld w)).world = absWorld w1 from h2.symm ▸ rfl]
    exact ih

end Ebb3Gen
end Plotink
