import Plotink.Model.C12
import Plotink.Proofs.PyFloatLast
/-! The suffix cascade of `parseLengthWithUnits` (`splitUnit`) on `numeral ++ unit` (`splitUnit_spec`), and the texts the
parser rejects: by their last character, which ends neither a numeral nor a unit (`parseLength_reject_suffix`, on
`parseFloat_reject`), or because nothing stands before the unit (`parseLength_reject_nonum`). -/
namespace Plotink
namespace C12
open PyFloat

theorem lastN_append_len (b u : List Char) : lastN u.length (b ++ u) = u := by
  simp [lastN]

theorem dropLastN_append_len (b u : List Char) : dropLastN u.length (b ++ u) = b := by
  simp [dropLastN]

theorem lastN2_two (b : List Char) (x y : Char) : lastN 2 (b ++ [x, y]) = [x, y] :=
  lastN_append_len b [x, y]
theorem dropLastN2_two (b : List Char) (x y : Char) : dropLastN 2 (b ++ [x, y]) = b :=
  dropLastN_append_len b [x, y]
theorem lastN1_one (b : List Char) (x : Char) : lastN 1 (b ++ [x]) = [x] :=
  lastN_append_len b [x]
theorem dropLastN1_one (b : List Char) (x : Char) : dropLastN 1 (b ++ [x]) = b :=
  dropLastN_append_len b [x]

/-- the last character of `s[-2:]` is the last character of `s` -/
theorem lastN2_snoc_ne (b : List Char) (d p q : Char) (h : q ≠ d) : lastN 2 (b ++ [d]) ≠ [p, q] := by
  intro e
  have h1 : (lastN 2 (b ++ [d])).getLast? = some d := by
    unfold lastN
    rw [List.getLast?_drop]
    simp
    omega
  rw [e] at h1
  simp at h1
  exact h h1

def canonUnit (u : List Char) : List Char :=
  if u = [] then ['p', 'x'] else if u = ['q'] then ['Q'] else u

theorem digit_toNat (d : Char) (h : isDigit d = true) : 48 ≤ d.toNat ∧ d.toNat ≤ 57 := by
  simpa [isDigit] using h

theorem splitUnit_none (b : List Char) (d : Char) (hd : isDigit d = true ∨ d = '.') :
    splitUnit (b ++ [d]) = (b ++ [d], ['p', 'x']) := by
  have ne : ∀ c : Char, (isDigit c = false ∧ c ≠ '.') → c ≠ d := by
    intro c hc e
    subst e
    rcases hd with h | h
    · rw [h] at hc; exact absurd hc.1 (by simp)
    · exact hc.2 h
  have hx := lastN2_snoc_ne b d 'p' 'x' (ne 'x' (by decide))
  have hn := lastN2_snoc_ne b d 'i' 'n' (ne 'n' (by decide))
  have hm := lastN2_snoc_ne b d 'm' 'm' (ne 'm' (by decide))
  have hcm := lastN2_snoc_ne b d 'c' 'm' (ne 'm' (by decide))
  have ht := lastN2_snoc_ne b d 'p' 't' (ne 't' (by decide))
  have hc := lastN2_snoc_ne b d 'p' 'c' (ne 'c' (by decide))
  have hQ : lastN 1 (b ++ [d]) ≠ ['Q'] := by
    rw [lastN1_one]; intro e; injection e with e _; exact ne 'Q' (by decide) e.symm
  have hq : lastN 1 (b ++ [d]) ≠ ['q'] := by
    rw [lastN1_one]; intro e; injection e with e _; exact ne 'q' (by decide) e.symm
  have hp : lastN 1 (b ++ [d]) ≠ ['%'] := by
    rw [lastN1_one]; intro e; injection e with e _; exact ne '%' (by decide) e.symm
  unfold splitUnit
  simp only [hx, hn, hm, hcm, ht, hc, hQ, hq, hp, if_false, or_self]

theorem splitUnit_spec (b : List Char) (d : Char) (hd : isDigit d = true ∨ d = '.') (u : List Char)
    (hu : u ∈ [[], ['p','x'], ['i','n'], ['m','m'], ['c','m'], ['p','t'], ['p','c'], ['Q'], ['q'], ['%']]) :
    splitUnit ((b ++ [d]) ++ u) = (b ++ [d], canonUnit u) := by
  simp only [List.mem_cons, List.not_mem_nil, or_false] at hu
  rcases hu with rfl | rfl | rfl | rfl | rfl | rfl | rfl | rfl | rfl | rfl
  · rw [List.append_nil, splitUnit_none b d hd]; rfl
  -- the six two-character units, then `Q`, `q`, `%`
  iterate 6 (unfold splitUnit; rw [lastN2_two, dropLastN2_two]; simp [canonUnit])
  all_goals
    have e2 : ∀ x : Char, lastN 2 ((b ++ [d]) ++ [x]) = [d, x] := by
      intro x; rw [List.append_assoc]; exact lastN2_two b d x
    unfold splitUnit
    rw [e2, lastN1_one, dropLastN1_one]
    simp [canonUnit]

theorem unit_last_nonspace (u : List Char)
    (hu : u ∈ [[], ['p','x'], ['i','n'], ['m','m'], ['c','m'], ['p','t'], ['p','c'], ['Q'], ['q'], ['%']]) :
    ∀ c, u.getLast? = some c → isPySpace c = false := by
  simp only [List.mem_cons, List.not_mem_nil, or_false] at hu
  rcases hu with rfl | rfl | rfl | rfl | rfl | rfl | rfl | rfl | rfl | rfl <;> intro c hc <;>
    simp at hc <;> subst hc <;> decide

theorem digit_or_dot_nonspace (d : Char) (hd : isDigit d = true ∨ d = '.') : isPySpace d = false := by
  rcases hd with h | rfl
  · exact not_space_of_isDigit ((isDigit_iff d).mpr (digit_toNat d h))
  · decide

theorem pyStrip_last_nonspace (s : List Char) (c : Char) (h : (pyStrip s).getLast? = some c) :
    isPySpace c = false := (trimmed_stripBy isPySpace s).2 c h

theorem isCSpace_of_not_pySpace (c : Char) (h : isPySpace c = false) : isCSpace c = false := by
  unfold isPySpace at h
  simp only [Bool.or_eq_false_iff] at h
  exact h.1

theorem splitUnit_unrecognized (t : List Char)
    (h2 : lastN 2 t ∉ [['p','x'], ['i','n'], ['m','m'], ['c','m'], ['p','t'], ['p','c']])
    (h1 : lastN 1 t ∉ [['Q'], ['q'], ['%']]) : splitUnit t = (t, ['p', 'x']) := by
  simp only [List.mem_cons, List.not_mem_nil, or_false, not_or] at h2 h1
  unfold splitUnit
  simp only [h2, h1, if_false, or_self]

theorem none_of_parse_none (s : List Char) (h : parseLength (some s) = none) :
    (∀ ref, unitsToUserUnits (some s) ref = .none) ∧ (s ≠ [] → ∀ d, getLength (some s) d = .none) ∧
    getLengthInches (some s) = .none := by
  refine ⟨fun ref => by unfold unitsToUserUnits; rw [h], fun hs d => ?_, ?_⟩
  · unfold getLength; simp only [hs, if_false]; rw [h]
  · unfold getLengthInches
    by_cases hs : s = []
    · simp [hs]
    · simp only [hs, if_false]; rw [h]

theorem parseLength_reject_suffix (s : List Char) (c : Char) (hc : (pyStrip s).getLast? = some c)
    (hd : isDigit c = false) (hdot : c ≠ '.') (hfyn : lowerAscii c ∉ ['f', 'y', 'n'])
    (h2 : lastN 2 (pyStrip s) ∉ [['p','x'], ['i','n'], ['m','m'], ['c','m'], ['p','t'], ['p','c']])
    (h1 : c ∉ ['Q', 'q', '%']) : parseLength (some s) = none := by
  have hsp := isCSpace_of_not_pySpace c (pyStrip_last_nonspace s c hc)
  simp only [List.mem_cons, List.not_mem_nil, or_false, not_or] at hfyn h1
  have hl1 : lastN 1 (pyStrip s) = [c] := by
    obtain ⟨b, hb⟩ := List.getLast?_eq_some_iff.mp hc
    rw [hb]; exact lastN1_one b c
  have hsu := splitUnit_unrecognized (pyStrip s) h2 (by
    rw [hl1]
    simp only [List.mem_cons, List.not_mem_nil, or_false, not_or, List.cons.injEq, and_true]
    exact ⟨h1.1, h1.2.1, h1.2.2⟩)
  unfold parseLength
  simp only [hsu, parseFloat_reject (pyStrip s) c hc hsp hd hdot hfyn.1 hfyn.2.1 hfyn.2.2]

theorem parseLength_reject_nonum (ws ws' u : List Char)
    (hws : ∀ c ∈ ws, isPySpace c = true) (hws' : ∀ c ∈ ws', isPySpace c = true)
    (hu : u ∈ [[], ['p','x'], ['i','n'], ['m','m'], ['c','m'], ['p','t'], ['p','c'], ['Q'], ['q'], ['%']]) :
    parseLength (some (ws ++ (u ++ ws'))) = none := by
  have hstrip : pyStrip (ws ++ (u ++ ws')) = u := by
    refine stripBy_core isPySpace ws u ws' hws hws' ⟨?_, unit_last_nonspace u hu⟩
    simp only [List.mem_cons, List.not_mem_nil, or_false] at hu
    rcases hu with rfl | rfl | rfl | rfl | rfl | rfl | rfl | rfl | rfl | rfl <;> intro c hc <;>
      simp at hc <;> subst hc <;> decide
  unfold parseLength
  simp only [hstrip]
  simp only [List.mem_cons, List.not_mem_nil, or_false] at hu
  rcases hu with rfl | rfl | rfl | rfl | rfl | rfl | rfl | rfl | rfl | rfl <;> decide

end C12
end Plotink
