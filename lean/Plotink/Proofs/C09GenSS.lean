import Plotink.Gen.supersample
import Plotink.Proofs.C09Gen

/-! # C09 — bridge: the source-regenerated `supersample` = the hand model `C09.supersample`

`Gen.supersample` is regenerated from `plotink/plot_utils.py` on every run: loop 2 is the inner
`while points_in_tolerance(...) and end_index < len(vertices)`, loop 1 the outer `while start_index < len(vertices) - 2`
with the slice deletion.  Under `Rounding.exact` one pass of each generated loop is matched against one step of
`C09.extend` / `C09.outer`, by induction on the fuel.

Fuel: the generated outer loop consumes one unit per pass and hands the *remaining* fuel to the inner loop, whereas
the hand model gives the inner loop `len` at every pass; by `extend_suff` the result of the inner loop does not depend
on the (sufficient) fuel. -/

namespace Plotink
namespace C09
open Py Py.Val

theorem add_two (p : Nat) (a : Nat) : Py.add Rounding.exact p (.int (a : Int)) (.int 2) = .int ((a + 2 : Nat) : Int) :=
  Py.add_nat _ p a 2

theorem truthy_encOptBool (o : Option Bool) : Py.truthy (encOptBool o) = (o == some true) := by
  rcases o with _ | b
  · rfl
  · cases b <;> rfl

section
variable {α : Type} (xy : α → Pt) (enc : α → Val) {K : Val → Rat → Prop} (hK : Enc K)
  (henc : ∀ a, EncPt K (enc a) (xy a)) (amb : Nat) (tol : Rat) (vt : Val) (ht : K vt tol)
include hK henc ht

/-- the generated inner loop = `C09.extend` with the same fuel (`AssertionError` cannot occur: the slice has at
least three vertices) -/
theorem loop2_eq (v : List α) (s : Nat) (hs : s + 2 < v.length) :
    ∀ (fuel e : Nat), s + 2 ≤ e → e ≤ v.length →
      Gen.supersample_loop2 Rounding.exact amb (.tup (v.map enc)) vt (.int (s : Int)) fuel (.int (e : Int)) =
        match extend xy v tol s fuel e with
        | some e' => .done (.int (e' : Int))
        | none => .fuelOut := by
  intro fuel
  induction fuel with
  | zero => intro e _ _; rfl
  | succ n ih =>
    intro e h1 h2
    rw [Gen.supersample_loop2, Gen.supersample_body2, extend, Py.add_nat_one, Py.slice_map,
      points_in_tolerance_map xy enc hK henc amb _ tol vt ht, truthy_encOptBool]
    have hlen : ¬ ((slice v s (e + 1)).map xy).length < 3 := by
      rw [List.length_map, slice_length]; omega
    have hslice : slice v s (e + 1) = (v.take (e + 1)).drop s := rfl
    rw [hslice] at hlen
    cases hp : pointsInTol (((v.take (e + 1)).drop s).map xy) tol with
    | none => exact absurd ((pointsInTol_none_iff _ _).mp hp) hlen
    | some ok =>
      rw [hslice, hp]
      simp only [Py.len_map, Py.lt_int_int, Nat.cast_lt]
      cases ok with
      | false => simp
      | true =>
        by_cases hlt : e < v.length
        · simp only [hlt, decide_true, Bool.and_true, beq_self_eq_true, if_true]
          exact ih (e + 1) (by omega) (by omega)
        · simp [hlt]

/-- the generated outer loop with fuel `fuel` = `C09.outer` with any sufficient fuel `m ≤ fuel` -/
theorem loop1_eq :
    ∀ (m fuel : Nat) (v : List α) (s : Nat) (ei : Val), m ≤ fuel → s < v.length → v.length ≤ m + s →
      ∃ r ei' s', outer xy tol m v s = some r ∧
        Gen.supersample_loop1 Rounding.exact amb vt fuel ei (.tup (v.map enc)) (.int (s : Int)) =
          .done (ei', .tup (r.map enc), s') := by
  intro m
  induction m with
  | zero => intro fuel v s ei _ h1 h2; omega
  | succ m ih =>
    intro fuel v s ei hm h1 h2
    obtain ⟨n, rfl⟩ : ∃ n, fuel = n + 1 := ⟨fuel - 1, by omega⟩
    rw [Gen.supersample_loop1, Gen.supersample_body1, outer, Py.len_map, Py.sub_int_int, Py.lt_int_int,
      show decide ((s : Int) < (v.length : Int) - 2) = decide (s + 2 < v.length) from decide_eq_decide.2 (by omega)]
    by_cases hlt : s + 2 < v.length
    · simp only [hlt, decide_true, if_true]
      rw [add_two, loop2_eq xy enc hK henc amb tol vt ht v s hlt n (s + 2) (le_refl _) (by omega)]
      -- the model's `len` and the generated loop's remaining `n` both suffice for the inner loop
      obtain ⟨e', h3, h4, _, he⟩ := extend_suff xy v tol s hlt v.length (s + 2) (le_refl _) (by omega) (by omega)
      rw [he v.length (by omega), he n (by omega)]
      simp only
      rw [Py.add_nat_one, Py.sub_nat_one _ amb e' (by omega),
        Py.setSlice_tup (v.map enc) [] (i := s + 1) (j := e' - 1) (by omega) (by simp; omega), List.append_nil,
        ← List.map_take, ← List.map_drop, ← List.map_append]
      exact ih n (v.take (s + 1) ++ v.drop (e' - 1)) (s + 1) _ (by omega) (by simp; omega) (by simp; omega)
    · simp only [hlt, decide_false, if_false, Bool.false_eq_true]
      exact ⟨v, ei, _, rfl, rfl⟩

/-- result of the generated function: `(None, vertices)` — the in-place mutation made visible — or out of fuel -/
def encOut (o : Option (List α)) : Py.Out :=
  match o with
  | some r => .val (.tup [.none_, .tup (r.map enc)])
  | none => .fuelOut

theorem supersample_bridge (v : List α) (fuel : Nat) (hf : v.length ≤ fuel) :
    Gen.supersample Rounding.exact amb fuel (.tup (v.map enc)) vt = encOut enc (supersample xy v tol) := by
  unfold Gen.supersample supersample
  simp only [Py.len_map, Py.le_int_int, Nat.cast_le_ofNat, hK.le_int ht 0, Int.cast_zero]
  by_cases h2 : v.length ≤ 2
  · simp [h2, encOut]
  · by_cases h0 : tol ≤ 0
    · simp [h2, h0, encOut]
    · simp only [h2, h0, decide_false, if_false, Bool.false_eq_true]
      obtain ⟨r, ei', s', hr, hg⟩ := loop1_eq xy enc hK henc amb tol vt ht v.length fuel v 0 .err hf (by omega) (by omega)
      have hg' : Gen.supersample_loop1 Rounding.exact amb vt fuel .err (.tup (v.map enc)) (.int 0) =
          .done (ei', .tup (r.map enc), s') := hg
      rw [hg', hr]
      rfl

end

/-- a vertex `(x, y)` as the Python list `[x, y]` of two `float`s holding exactly those rationals -/
def encPt (p : Pt) : Val := .tup [.flt p.1, .flt p.2]

theorem encPt_isFlt (p : Pt) : EncPt IsFlt (encPt p) p := ⟨_, _, rfl, rfl, rfl⟩

theorem encPts_eq_map (pts : List Pt) : encPts pts = .tup (pts.map encPt) := rfl

end C09
end Plotink
