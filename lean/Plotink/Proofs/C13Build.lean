import Plotink.Proofs.C13Inv
import Plotink.Proofs.C13Near
import Mathlib.Tactic.Linarith
import Mathlib.Algebra.Order.Ring.Rat
import Mathlib.Algebra.Order.Field.Basic

/-! C13: `__init__` establishes the invariant. -/
namespace Plotink
namespace C13

/-- a running `min`/`max` (`op`) is related by `≤`/`≥` (`R`) to its start value and to every item -/
theorem foldl_bound {R : Rat → Rat → Prop} {op : Rat → Rat → Rat} (hrefl : ∀ a, R a a)
    (htrans : ∀ {a b c}, R a b → R b c → R a c) (hl : ∀ a b, R (op a b) a) (hr : ∀ a b, R (op a b) b)
    (f : Pt → Rat) (ps : List Pt) : ∀ a : Rat,
    R (ps.foldl (fun a q => op a (f q)) a) a ∧ ∀ q ∈ ps, R (ps.foldl (fun a q => op a (f q)) a) (f q) := by
  induction ps with
  | nil => intro a; exact ⟨hrefl a, nofun⟩
  | cons p ps ih =>
    intro a
    obtain ⟨h1, h2⟩ := ih (op a (f p))
    refine ⟨htrans h1 (hl _ _), fun q hq => ?_⟩
    rcases List.mem_cons.mp hq with rfl | hq
    · exact htrans h1 (hr _ _)
    · exact h2 q hq

theorem foldl_min_le (f : Pt → Rat) (ps : List Pt) (a : Rat) :
    ps.foldl (fun a q => min a (f q)) a ≤ a ∧ ∀ q ∈ ps, ps.foldl (fun a q => min a (f q)) a ≤ f q :=
  foldl_bound le_refl le_trans min_le_left min_le_right f ps a

theorem le_foldl_max (f : Pt → Rat) (ps : List Pt) (a : Rat) :
    a ≤ ps.foldl (fun a q => max a (f q)) a ∧ ∀ q ∈ ps, f q ≤ ps.foldl (fun a q => max a (f q)) a :=
  foldl_bound (R := (· ≥ ·)) le_refl (fun h1 h2 => le_trans h2 h1) le_max_left le_max_right f ps a

theorem extent_bounds {pts : List Pt} {x0 x1 y0 y1 : Rat} (h : extent pts = some (x0, x1, y0, y1)) :
    ∀ c ∈ pts, x0 ≤ c.1 ∧ c.1 ≤ x1 ∧ y0 ≤ c.2 ∧ c.2 ≤ y1 := by
  cases pts with
  | nil => cases h
  | cons p ps =>
    simp only [extent, Option.some.injEq, Prod.mk.injEq] at h
    obtain ⟨rfl, rfl, rfl, rfl⟩ := h
    intro c hc
    rcases List.mem_cons.mp hc with rfl | hc
    · exact ⟨(foldl_min_le _ ps _).1, (le_foldl_max _ ps _).1, (foldl_min_le _ ps _).1, (le_foldl_max _ ps _).1⟩
    · exact ⟨(foldl_min_le (·.1) ps _).2 c hc, (le_foldl_max (·.1) ps _).2 c hc, (foldl_min_le (·.2) ps _).2 c hc,
        (le_foldl_max (·.2) ps _).2 c hc⟩

theorem fst_mem_points {verts : List Path} {rev : Bool} {p : Path} (hp : p ∈ verts) : p.1 ∈ points verts rev :=
  List.mem_flatMap.mpr ⟨p, hp, by cases rev <;> simp⟩

theorem snd_mem_points {verts : List Path} {rev : Bool} {p : Path} (hp : p ∈ verts) (hr : rev = true) :
    p.2 ∈ points verts rev :=
  List.mem_flatMap.mpr ⟨p, hp, by simp [hr]⟩

theorem geometry_eq {verts : List Path} {bins : Nat} {rev : Bool} {G : Geo} (h : geometry verts bins rev = some G) :
    ∃ x0 x1 y0 y1, extent (points verts rev) = some (x0, x1, y0, y1) ∧
      G = ⟨bins, x0 - (x1 - x0 + y1 - y0) / 200, y0 - (x1 - x0 + y1 - y0) / 200,
        ((x1 + (x1 - x0 + y1 - y0) / 200) - (x0 - (x1 - x0 + y1 - y0) / 200)) / bins,
        ((y1 + (x1 - x0 + y1 - y0) / 200) - (y0 - (x1 - x0 + y1 - y0) / 200)) / bins⟩ ∧
      bins ≠ 0 ∧ G.bx ≠ 0 ∧ G.by_ ≠ 0 := by
  unfold geometry at h
  split at h
  · cases h
  rename_i hb
  split at h
  · cases h
  rename_i x0 x1 y0 y1 he
  simp only at h
  split at h
  · cases h
  rename_i hne
  cases h
  exact ⟨x0, x1, y0, y1, he, rfl, hb, fun e => hne (Or.inl e), fun e => hne (Or.inr e)⟩

theorem geometry_spec {verts : List Path} {bins : Nat} {rev : Bool} {G : Geo}
    (h : geometry verts bins rev = some G) :
    G.bins = bins ∧ 0 < bins ∧ 0 < G.bx ∧ 0 < G.by_ ∧
      ∀ pt ∈ points verts rev, G.xmin ≤ pt.1 ∧ G.ymin ≤ pt.2 := by
  obtain ⟨x0, x1, y0, y1, he, rfl, hb, hbx, hby⟩ := geometry_eq h
  have hB := extent_bounds he
  obtain ⟨p, hp⟩ : ∃ p, p ∈ points verts rev := by
    cases hpts : points verts rev with
    | nil => rw [hpts] at he; cases he
    | cons p ps => exact ⟨p, List.mem_cons_self⟩
  obtain ⟨a1, a2, a3, a4⟩ := hB p hp
  have hbpos : (0 : Rat) ≤ (bins : Rat) := Nat.cast_nonneg bins
  have hs : 0 ≤ (x1 - x0 + y1 - y0) / 200 := div_nonneg (by linarith) (by norm_num)
  generalize (x1 - x0 + y1 - y0) / 200 = s at *
  exact ⟨rfl, Nat.pos_of_ne_zero hb, lt_of_le_of_ne (div_nonneg (by linarith) hbpos) (Ne.symm hbx),
    lt_of_le_of_ne (div_nonneg (by linarith) hbpos) (Ne.symm hby),
    fun pt hpt => ⟨(sub_le_self _ hs).trans (hB pt hpt).1, (sub_le_self _ hs).trans (hB pt hpt).2.2.1⟩⟩

/-! `__init__` bins without the lower clamp (`binHi`), `nearest` with it (`binClamp`); on indexed vertices the two agree,
because these lie at or after `xmin`, `ymin`. -/

theorem binHi_eq_clamp {bins : Nat} {lo size x : Rat} (hb : 0 < bins) (hs : 0 < size) (hx : lo ≤ x) :
    binHi bins lo size x = binClamp bins lo size x := by
  have h0 : (0 : Int) ≤ ((x - lo) / size).floor := by
    apply Rat.le_floor_iff.mpr
    push_cast
    apply div_nonneg <;> linarith
  unfold binClamp binHi
  omega

theorem cellIdxHi_eq {G : Geo} (hb : 0 < G.bins) (hbx : 0 < G.bx) (hby : 0 < G.by_) {pt : Pt}
    (hx : G.xmin ≤ pt.1) (hy : G.ymin ≤ pt.2) : cellIdxHi G pt = cellIdx G pt := by
  unfold cellIdxHi cellIdx
  rw [binHi_eq_clamp hb hbx hx, binHi_eq_clamp hb hby hy]

/-- identifiers placed after `k` paths have been processed -/
def Done (rev : Bool) (n k id : Nat) : Prop := id < k ∨ (rev = true ∧ n ≤ id ∧ id < n + k)

structure LoopInv (G : Geo) (rev : Bool) (n : Nat) (verts : List Path) (k : Nat)
    (st : List (List Nat) × List Nat) : Prop where
  ncells : st.1.length = G.bins * G.bins
  nlookup : st.2.length = if rev then 2 * n else n
  ok : CellsOK st.1 st.2 (Done rev n k)
  look : ∀ id, Done rev n k id → st.2[id]? = some (cellIdxHi G (endPtV verts n id))

theorem add_step {G : Geo} {verts : List Path} {n : Nat} {cells : List (List Nat)} {lookup : List Nat}
    {S : Nat → Prop} (hok : CellsOK cells lookup S)
    (hlook : ∀ id, S id → lookup[id]? = some (cellIdxHi G (endPtV verts n id)))
    {x : Nat} {pt : Pt} (hpt : endPtV verts n x = pt) (hx : ¬ S x) (hxl : x < lookup.length)
    (hc : cellIdxHi G pt < cells.length) :
    CellsOK (cells.modify (cellIdxHi G pt) (· ++ [x])) (lookup.set x (cellIdxHi G pt)) (fun id => S id ∨ id = x) ∧
    ∀ id, (S id ∨ id = x) → (lookup.set x (cellIdxHi G pt))[id]? = some (cellIdxHi G (endPtV verts n id)) := by
  refine ⟨cellsOK_add hok hx hxl hc, ?_⟩
  intro id hid
  rw [List.getElem?_set]
  by_cases he : x = id
  · subst he
    simp [hxl, hpt]
  · simp only [he, if_false]
    rcases hid with hid | rfl
    · exact hlook id hid
    · exact absurd rfl he

theorem endPtV_start {verts pre ps : List Path} {p : Path} {n : Nat} (hv : verts = pre ++ p :: ps)
    (hn : n = verts.length) : endPtV verts n pre.length = p.1 := by
  have hk : ¬ pre.length ≥ n := by rw [hn, hv]; simp
  simp [endPtV, hk, hv, List.getD_eq_getElem?_getD]

theorem endPtV_end {verts pre ps : List Path} {p : Path} {n : Nat} (hv : verts = pre ++ p :: ps) :
    endPtV verts n (n + pre.length) = p.2 := by
  have hk : n + pre.length ≥ n := by omega
  simp [endPtV, hv, List.getD_eq_getElem?_getD]

def buildStep (G : Geo) (rev : Bool) (n : Nat) (p : Path) (i : Nat) (st : List (List Nat) × List Nat) : List (List Nat) × List Nat :=
  let c1 := st.1.modify (cellIdxHi G p.1) (· ++ [i])
  let l1 := st.2.set i (cellIdxHi G p.1)
  if rev then (c1.modify (cellIdxHi G p.2) (· ++ [n + i]), l1.set (n + i) (cellIdxHi G p.2)) else (c1, l1)

theorem buildLoop_cons (G : Geo) (rev : Bool) (n : Nat) (p : Path) (ps : List Path) (i : Nat) (st : List (List Nat) × List Nat) :
    buildLoop G rev n (p :: ps) i st = buildLoop G rev n ps (i + 1) (buildStep G rev n p i st) := by
  obtain ⟨cells, lookup⟩ := st
  unfold buildStep
  rw [buildLoop]
  cases rev <;> rfl

theorem buildStep_len (G : Geo) (rev : Bool) (n : Nat) (p : Path) (i : Nat) (st : List (List Nat) × List Nat) :
    (buildStep G rev n p i st).1.length = st.1.length ∧ (buildStep G rev n p i st).2.length = st.2.length := by
  unfold buildStep
  cases rev <;> simp

theorem buildStep_inv {G : Geo} {rev : Bool} {n : Nat} {verts pre ps : List Path} {p : Path} (hn : n = verts.length)
    (hcell : ∀ pt ∈ points verts rev, cellIdxHi G pt < G.bins * G.bins) (hv : verts = pre ++ p :: ps)
    {st : List (List Nat) × List Nat} (h : LoopInv G rev n verts pre.length st) :
    LoopInv G rev n verts (pre.length + 1) (buildStep G rev n p pre.length st) := by
  obtain ⟨cells, lookup⟩ := st
  have hkn : pre.length < n := by rw [hn, hv]; simp
  have hpmem : p ∈ verts := by rw [hv]; simp
  have hnl : lookup.length = if rev then 2 * n else n := h.nlookup
  have hnc : cells.length = G.bins * G.bins := h.ncells
  obtain ⟨l1, l2⟩ := buildStep_len G rev n p pre.length (cells, lookup)
  have hx1 : ¬ Done rev n pre.length pre.length := by unfold Done; omega
  have hxl1 : pre.length < lookup.length := by rw [hnl]; split <;> omega
  obtain ⟨ok1, look1⟩ := add_step h.ok h.look (endPtV_start hv hn) hx1 hxl1 (by rw [hnc]; exact hcell _ (fst_mem_points hpmem))
  have hS : ∀ id, Done rev n (pre.length + 1) id ↔
      if rev then (Done rev n pre.length id ∨ id = pre.length) ∨ id = n + pre.length
      else Done rev n pre.length id ∨ id = pre.length := by
    intro id; unfold Done; cases rev <;> simp <;> omega
  cases rev with
  | false => exact ⟨l1.trans hnc, l2.trans hnl, ok1.congr fun id => (hS id).symm, fun id hid => look1 id ((hS id).mp hid)⟩
  | true =>
    obtain ⟨ok2, look2⟩ := add_step ok1 look1 (endPtV_end (n := n) hv) (x := n + pre.length)
      (by unfold Done; omega) (by rw [List.length_set, hnl]; simp; omega)
      (by rw [List.length_modify, hnc]; exact hcell _ (snd_mem_points hpmem rfl))
    exact ⟨l1.trans hnc, l2.trans hnl, ok2.congr fun id => (hS id).symm, fun id hid => look2 id ((hS id).mp hid)⟩

theorem buildLoop_inv {G : Geo} {rev : Bool} {n : Nat} {verts : List Path} (hn : n = verts.length)
    (hcell : ∀ pt ∈ points verts rev, cellIdxHi G pt < G.bins * G.bins) :
    ∀ (rest pre : List Path) (st : List (List Nat) × List Nat), verts = pre ++ rest →
      LoopInv G rev n verts pre.length st →
      LoopInv G rev n verts verts.length (buildLoop G rev n rest pre.length st) := by
  intro rest
  induction rest with
  | nil =>
    intro pre st hv h
    have : verts.length = pre.length := by rw [hv]; simp
    rw [this]
    simpa [buildLoop] using h
  | cons p ps ih =>
    intro pre st hv h
    have e : (pre ++ [p]).length = pre.length + 1 := by simp
    rw [buildLoop_cons, ← e]
    exact ih (pre ++ [p]) _ (by rw [hv]; simp) (e ▸ buildStep_inv hn hcell hv h)

theorem getC_replicate (B c : Nat) : getC (List.replicate B []) c = [] := by
  unfold getC
  rw [List.getD_eq_getElem?_getD, List.getElem?_replicate]
  split <;> simp

theorem endPtV_mem_points {verts : List Path} {rev : Bool} {id : Nat}
    (hv : Done rev verts.length verts.length id) :
    endPtV verts verts.length id ∈ points verts rev := by
  unfold points endPtV
  rcases hv with hv | ⟨hrev, h1, h2⟩
  · have h' : ¬ id ≥ verts.length := by omega
    simp only [h', if_false, List.getD_eq_getElem?_getD, List.getElem?_eq_getElem hv, Option.getD_some]
    exact fst_mem_points (List.getElem_mem hv)
  · have hlt : id - verts.length < verts.length := by omega
    have h' : id ≥ verts.length := h1
    simp only [h', if_true, List.getD_eq_getElem?_getD, List.getElem?_eq_getElem hlt, Option.getD_some]
    exact snd_mem_points (List.getElem_mem hlt) hrev

theorem inv_build {verts : List Path} {bins : Nat} {rev : Bool} {g : Grid}
    (h : build verts bins rev = some g) :
    Inv g (List.range verts.length) ∧ g.verts = verts ∧ g.rev = rev ∧ g.n = verts.length ∧ g.bins = bins := by
  unfold build at h
  cases hG : geometry verts bins rev with
  | none => simp [hG] at h
  | some G =>
    simp only [hG] at h
    obtain ⟨hbins, hbpos, hbx, hby, hpts⟩ := geometry_spec hG
    have hb : 0 < G.bins := by rw [hbins]; exact hbpos
    have hhi : ∀ pt ∈ points verts rev, cellIdxHi G pt = cellIdx G pt :=
      fun pt hpt => cellIdxHi_eq hb hbx hby (hpts pt hpt).1 (hpts pt hpt).2
    have hcell : ∀ pt ∈ points verts rev, cellIdxHi G pt < G.bins * G.bins :=
      fun pt hpt => by rw [hhi pt hpt]; exact cellIdx_lt hb pt
    have h0 : LoopInv G rev verts.length verts ([] : List Path).length
        (List.replicate (bins * bins) [], List.replicate (if rev then 2 * verts.length else verts.length) 0) := {
      ncells := by simp [hbins]
      nlookup := by simp
      ok := ⟨fun c id => by rw [getC_replicate]; simp [Done], fun c => by rw [getC_replicate]; simp⟩
      look := fun id hid => by
        unfold Done at hid
        simp only [List.length_nil] at hid
        omega }
    have hfin := buildLoop_inv rfl hcell verts [] _ (by simp) h0
    simp only [List.length_nil] at hfin
    generalize buildLoop G rev verts.length verts 0 (List.replicate (bins * bins) [],
      List.replicate (if rev = true then 2 * verts.length else verts.length) 0) = st at h hfin
    cases h
    refine ⟨?_, rfl, rfl, rfl, hbins⟩
    have hvalid : ∀ id, ValidId
        { toGeo := G, rev := rev, n := verts.length, verts := verts, cells := st.1, lookup := st.2 } id ↔
        Done rev verts.length verts.length id := by
      intro id; unfold ValidId Done; simp only [Nat.two_mul]
    exact {
      bins_pos := hb
      bx_pos := hbx
      by_pos := hby
      nverts := rfl
      ncells := hfin.ncells
      live_lt := fun k hk => List.mem_range.mp hk
      mem_iff := fun c id => by
        show id ∈ getC st.1 c ↔ _
        rw [hfin.ok.mem_iff, hvalid]
        constructor
        · rintro ⟨hd, hl⟩
          refine ⟨hd, ?_, hl⟩
          rw [List.mem_range]
          show pathOf verts.length id < verts.length
          unfold pathOf; unfold Done at hd
          split <;> omega
        · rintro ⟨hd, _, hl⟩; exact ⟨hd, hl⟩
      nodup := fun c => hfin.ok.nodup c
      lookup_eq := fun id hv => by
        have hd := (hvalid id).mp hv
        show _ = some (cellIdx G (endPtV verts verts.length id))
        rw [← hhi _ (endPtV_mem_points hd)]
        exact hfin.look id hd }

theorem build_total {verts : List Path} {bins : Nat} {rev : Bool} (hb : 0 < bins)
    (hext : ∃ a ∈ points verts rev, ∃ b ∈ points verts rev, a ≠ b) :
    ∃ g, build verts bins rev = some g := by
  obtain ⟨a, ha, b, hb', hab⟩ := hext
  have hne : bins ≠ 0 := by omega
  have hbpos : (0 : Rat) < (bins : Rat) := by exact_mod_cast hb
  suffices hgeo : ∃ G, geometry verts bins rev = some G by
    obtain ⟨G, hG⟩ := hgeo
    simp [build, hG]
  obtain ⟨⟨x0, x1, y0, y1⟩, he⟩ : ∃ e, extent (points verts rev) = some e := by
    cases hpts : points verts rev with
    | nil => rw [hpts] at ha; cases ha
    | cons p ps => exact ⟨_, rfl⟩
  obtain ⟨a1, a2, a3, a4⟩ := extent_bounds he a ha
  obtain ⟨b1, b2, b3, b4⟩ := extent_bounds he b hb'
  unfold geometry
  simp only [hne, if_false, he]
  have hpos : 0 < x1 - x0 + y1 - y0 := by
    rcases not_and_or.1 (fun h => hab (Prod.ext_iff.2 h)) with h | h <;>
      rcases lt_or_gt_of_ne h with h | h <;> linarith
  have hs : 0 < (x1 - x0 + y1 - y0) / 200 := div_pos hpos (by norm_num)
  generalize (x1 - x0 + y1 - y0) / 200 = s at hs ⊢
  rw [if_neg]
  · exact ⟨_, rfl⟩
  · rintro (h | h)
    · exact (div_pos (by linarith) hbpos).ne' h
    · exact (div_pos (by linarith) hbpos).ne' h

theorem foldl_idem {op : Rat → Rat → Rat} (hop : ∀ a, op a a = a) (f : Pt → Rat) (ps : List Pt) (a : Rat)
    (h : ∀ q ∈ ps, f q = a) : ps.foldl (fun a q => op a (f q)) a = a := by
  induction ps with
  | nil => rfl
  | cons p ps ih =>
    rw [List.foldl_cons, h p List.mem_cons_self, hop]
    exact ih fun q hq => h q (List.mem_cons_of_mem _ hq)

theorem build_none_of_zero_extent {verts : List Path} {bins : Nat} {rev : Bool}
    (hz : ∀ a ∈ points verts rev, ∀ b ∈ points verts rev, a = b) : build verts bins rev = none := by
  suffices hgeo : geometry verts bins rev = none by simp [build, hgeo]
  unfold geometry
  by_cases hb : bins = 0
  · simp [hb]
  · simp only [hb, if_false]
    cases hpts : points verts rev with
    | nil => simp [extent]
    | cons p ps =>
      rw [hpts] at hz
      have hx : ∀ q ∈ ps, (fun q : Pt => q.1) q = p.1 := fun q hq => by
        rw [hz q (by simp [hq]) p (by simp)]
      have hy : ∀ q ∈ ps, (fun q : Pt => q.2) q = p.2 := fun q hq => by
        rw [hz q (by simp [hq]) p (by simp)]
      simp only [extent]
      rw [foldl_idem min_self (fun q => q.1) ps p.1 hx, foldl_idem max_self (fun q => q.1) ps p.1 hx,
        foldl_idem min_self (fun q => q.2) ps p.2 hy, foldl_idem max_self (fun q => q.2) ps p.2 hy]
      simp

end C13
end Plotink
