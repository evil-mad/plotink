import Plotink.Proofs.C03Basic
import Plotink.Proofs.C03Quad
/-! # C03 — the model returns the first tick (branches with `accel > 0`, and `accel = 0 < rate`) -/
namespace Plotink
namespace C03
open Fw

/-- per-tick rate with an integer index -/
def rz (rate accel k : Int) : Int := rate - tdiv accel 2 + k * accel

theorem ltRate_rz (rate accel : Int) (k : Nat) : ltRate rate accel k = rz rate accel k := ltRate_closed ..

theorem rz_pair (rate accel t : Int) :
    rz rate accel t + rz rate accel (t + 1) = kk rate accel + 2 * accel * t := by
  unfold rz kk; ring

theorem r1_eq (rate accel : Int) : r1 rate accel = rz rate accel 1 := by unfold r1 rz; ring

theorem rz_mono (rate accel : Int) (ha : 0 ≤ accel) {s t : Int} (h : s ≤ t) :
    rz rate accel s ≤ rz rate accel t := by
  unfold rz; linarith [mul_le_mul_of_nonneg_right h ha]

theorem qq_tot (rate accel a0 L : Int) (t : Nat) :
    qq accel (kk rate accel) (a0 - L) t = 2 * (ltTotal rate accel t a0 - L) := by
  have := ltTotal_two rate accel t a0
  unfold qq; linarith

theorem le_pos_iff (rate accel a0 m : Int) (t : Nat) :
    m ≤ ltPos rate accel a0 t ↔ 0 ≤ qq accel (kk rate accel) (a0 - m * two31) t := by
  rw [qq_tot]; unfold ltPos two31; omega

/-- the position has come down to `m` when the total is at or below the last value before `(m + 1)·2^31` -/
theorem pos_le_iff (rate accel a0 m : Int) (t : Nat) :
    ltPos rate accel a0 t ≤ m ↔ qq accel (kk rate accel) (a0 - ((m + 1) * two31 - 1)) t ≤ 0 := by
  rw [qq_tot]; unfold ltPos two31; omega

theorem pos0 (rate accel a0 : Int) (h0 : 0 ≤ a0) (h1 : a0 < two31) : ltPos rate accel a0 0 = 0 := by
  rw [ltPos_zero]; unfold two31 at *; omega

theorem taken_exact (rate accel a0 n : Int) (T : Nat) (hF : IsFirst rate accel a0 n T)
    (hR : ∀ k : Nat, 1 ≤ k → k ≤ T →
      -(two31 - 1) ≤ ltRate rate accel k ∧ ltRate rate accel k ≤ two31 - 1) :
    ltTaken rate accel a0 T = n := by
  obtain ⟨h1, h2, h3⟩ := hF
  obtain ⟨t, rfl⟩ : ∃ t, T = t + 1 := ⟨T - 1, by omega⟩
  have := ltTaken_succ_le_one rate accel a0 t (hR (t + 1) (by omega) (le_refl _))
  have := h3 t (by omega)
  omega

theorem accFinal_eq (rate accel a0 : Int) (T : Nat) :
    accFinal rate accel a0 (ltPos rate accel a0 T) T = ltTotal rate accel T a0 % two31 := by
  have := ltTotal_two rate accel T a0
  unfold accFinal ltPos two31
  omega

/-- hypotheses shared by all branches -/
structure Ctx (rate accel a0 n : Int) (T : Nat) : Prop where
  hn : 1 ≤ n
  h0 : 0 ≤ a0
  h1 : a0 < two31
  hF : IsFirst rate accel a0 n T
  hR : ∀ k : Nat, 1 ≤ k → k ≤ T → -(two31 - 1) ≤ ltRate rate accel k ∧ ltRate rate accel k ≤ two31 - 1

/-- the triple `Fw.lmSpecPos` returns when the first tick is `T` -/
def target (rate accel a0 : Int) (T : Nat) : Int × Int × Int :=
  ((T : Int), ltPos rate accel a0 T - ltPos rate accel a0 0, ltTotal rate accel T a0 % two31)

theorem lmPosA_of (rate accel a0 n : Int) (T : Nat) (C : Ctx rate accel a0 n T)
    (ht : timeFinal n rate accel a0 = T)
    (hp : ltTaken rate accel a0 T = n → posFinal n rate accel a0 = ltPos rate accel a0 T) :
    lmPosA n rate accel a0 = target rate accel a0 T := by
  unfold lmPosA target
  simp only [ht, hp (taken_exact rate accel a0 n T C.hF C.hR), accFinal_eq, pos0 rate accel a0 C.h0 C.h1, sub_zero]

theorem first_le (rate accel a0 n : Int) (T : Nat) (hF : IsFirst rate accel a0 n T) (t : Int)
    (ht : 0 ≤ t) (h : n ≤ ltTaken rate accel a0 t.toNat) : (T : Int) ≤ t := by
  by_contra hc
  have := hF.2.2 t.toNat (by omega)
  omega

theorem noRev_facts {n rate accel a0 : Int} (h : noRev n rate accel a0) :
    tRevEff n rate accel a0 = -1 ∧ posFinal n rate accel a0 = (if isNeg rate accel then -n else n) ∧
      cFactor n rate accel a0 = adjOf rate accel a0 - posFinal n rate accel a0 * two31 := by
  simp [tRevEff, posFinal, cFactor, posAdj, h]

/-- **Rising piece** (acceleration positive): from tick `s` on every rate is non-negative and the steps taken are
the position shifted by the constant `n − pf`; the budget is not yet used up at `s`. Then the model's answer is the
ceiled larger root of the level `pf` (`quadTime_up`), whatever happened before `s`. -/
theorem lmPosA_rising (rate accel a0 n pf : Int) (T s : Nat) (ha : 0 < accel) (C : Ctx rate accel a0 n T)
    (hpf : posFinal n rate accel a0 = pf) (hc : cFactor n rate accel a0 = a0 - pf * two31)
    (hte : tRevEff n rate accel a0 = s ∨ (tRevEff n rate accel a0 ≤ 0 ∧ (s : Int) = 0))
    (hup : ∀ k : Nat, s < k → 0 ≤ ltRate rate accel k)
    (htk : ∀ t : Nat, s ≤ t → ltTaken rate accel a0 t = ltPos rate accel a0 t + (n - pf))
    (hs : ltTaken rate accel a0 s < n) :
    lmPosA n rate accel a0 = target rate accel a0 T := by
  have hF := C.hF
  have hsT : s < T := by
    by_contra hc'
    have := ltTaken_mono rate accel a0 (not_lt.mp hc')
    have := hF.2.1
    omega
  have hreach : ∀ t : Nat, s ≤ t →
      (n ≤ ltTaken rate accel a0 t ↔ 0 ≤ qq accel (kk rate accel) (a0 - pf * two31) t) := fun t ht => by
    rw [htk t ht, ← le_pos_iff]; omega
  refine lmPosA_of _ _ _ _ _ C ?_ fun h => by rw [hpf]; rw [htk T hsT.le] at h; omega
  unfold timeFinal
  rw [if_neg ha.ne', hc]
  apply quadTime_up accel _ _ _ s T ha (by omega) hte
  · exact not_le.mp ((hreach s le_rfl).not.mp (not_le.mpr hs))
  · exact_mod_cast hsT
  · -- `2·accel·T + k` is the sum of the rates at ticks `T` and `T + 1`
    have a := hup T hsT
    have b := hup (T + 1) (by omega)
    rw [ltRate_rz] at a b
    push_cast at b
    linarith [rz_pair rate accel T]
  · exact (hreach T hsT.le).mp hF.2.1
  · intro t ht hq
    have ht' : (s : Int) < t := ht
    apply first_le rate accel a0 n T hF t (by omega)
    rw [hreach _ (by omega), Int.toNat_of_nonneg (by omega)]; exact hq

/-- **Branch: acceleration positive, no reversal at all** (the first rate, hence every rate, is non-negative) -/
theorem lmPosA_up_norev (rate accel a0 n : Int) (T : Nat) (ha : 0 < accel) (C : Ctx rate accel a0 n T)
    (hr1 : 0 ≤ r1 rate accel)
    (hnr : tRev rate accel < 1 ∨ (tRev rate accel = 1 ∧ r1 rate accel = 0)) :
    lmPosA n rate accel a0 = target rate accel a0 T := by
  have hup : ∀ k : Nat, 1 ≤ k → 0 ≤ ltRate rate accel k := fun k hk => by
    rw [ltRate_rz]
    exact (r1_eq rate accel ▸ hr1).trans (rz_mono rate accel ha.le (by exact_mod_cast hk))
  have hneg : ¬ isNeg rate accel := by unfold isNeg; omega
  have hnoRev : noRev n rate accel a0 := hnr.elim Or.inl fun h => Or.inr (Or.inl h)
  obtain ⟨hte, hpf, hc⟩ := noRev_facts hnoRev
  rw [if_neg hneg] at hpf
  rw [hpf, adjOf, if_neg hneg] at hc
  refine lmPosA_rising rate accel a0 n n T 0 ha C hpf hc (Or.inr ⟨by omega, Nat.cast_zero⟩) (fun k hk => hup k hk) ?_ ?_
  · intro t _
    rw [ltTaken_up rate accel a0 0 t (Nat.zero_le _) (fun k hk _ => hup k hk), ltTaken_zero,
      pos0 rate accel a0 C.h0 C.h1]
    ring
  · rw [ltTaken_zero]; exact C.hn

theorem tdiv_pos (accel : Int) (ha : 0 < accel) : 2 * tdiv accel 2 ≤ accel ∧ accel ≤ 2 * tdiv accel 2 + 1 := by
  unfold tdiv; rw [if_pos (le_of_lt ha)]; omega

/-- the reversal tick: last tick whose rate is still non-positive (acceleration positive, rate negative) -/
theorem tRev_facts (rate accel : Int) (ha : 0 < accel) (hr : rate < 0) :
    0 ≤ tRev rate accel ∧ rz rate accel (tRev rate accel) ≤ 0 ∧ 0 < rz rate accel (tRev rate accel + 1) := by
  unfold tRev rz
  rw [if_pos ⟨ha, hr⟩]
  have h2a : (0 : Int) < 2 * accel := by omega
  have e0 : 0 ≤ (accel - 2 * rate) / (2 * accel) := Int.ediv_nonneg (by omega) (by omega)
  have e1 := Int.ediv_mul_le (accel - 2 * rate) h2a.ne'
  have e2 := Int.lt_ediv_add_one_mul_self (accel - 2 * rate) h2a
  have := tdiv_pos accel ha
  generalize (accel - 2 * rate) / (2 * accel) = τ at *
  rw [show τ * (2 * accel) = 2 * (τ * accel) by ring] at e1
  rw [show (τ + 1) * (2 * accel) = 2 * (τ * accel) + 2 * accel by ring] at e2
  rw [add_mul, one_mul]
  omega

/-- facts shared by the two reversal branches with positive acceleration -/
structure RevUp (rate accel a0 : Int) (τn : Nat) : Prop where
  hτ : (τn : Int) = tRev rate accel
  hτ1 : 1 ≤ τn
  hdown : ∀ k : Nat, k ≤ τn → ltRate rate accel k ≤ 0
  hupS : ∀ k : Nat, τn < k → 0 < ltRate rate accel k
  hr1 : r1 rate accel < 0
  hneg : isNeg rate accel
  htk : ∀ t : Nat, t ≤ τn → ltTaken rate accel a0 t = -ltPos rate accel a0 t
  hsrev : sRev rate accel a0 = ltTaken rate accel a0 τn
  htk2 : ∀ t : Nat, τn ≤ t →
    ltTaken rate accel a0 t = ltPos rate accel a0 t + 2 * sRev rate accel a0

theorem revUp_intro (rate accel a0 : Int) (ha : 0 < accel) (hr : rate < 0) (h0 : 0 ≤ a0) (h1 : a0 < two31)
    (hτ1 : 1 ≤ tRev rate accel) (hne : ¬ (tRev rate accel = 1 ∧ r1 rate accel = 0)) :
    ∃ τn : Nat, RevUp rate accel a0 τn := by
  obtain ⟨f0, f1, f2⟩ := tRev_facts rate accel ha hr
  have hr1 : r1 rate accel < 0 := by
    rw [r1_eq] at hne ⊢
    rcases eq_or_lt_of_le hτ1 with h | h
    · rw [← h] at f1; exact lt_of_le_of_ne f1 fun h0 => hne ⟨h.symm, h0⟩
    · have := (rz_mono rate accel ha.le (by omega : (2 : Int) ≤ tRev rate accel)).trans f1
      unfold rz at this ⊢; omega
  obtain ⟨τn, hτn⟩ := Int.eq_ofNat_of_zero_le f0
  rw [hτn] at f1 f2
  have hτ1' : 1 ≤ τn := by omega
  have hdown : ∀ k : Nat, k ≤ τn → ltRate rate accel k ≤ 0 := fun k hk => by
    rw [ltRate_rz]; exact (rz_mono rate accel ha.le (by exact_mod_cast hk)).trans f1
  have hupS : ∀ k : Nat, τn < k → 0 < ltRate rate accel k := fun k hk => by
    rw [ltRate_rz]; exact f2.trans_le (rz_mono rate accel ha.le (by exact_mod_cast hk))
  have hneg : isNeg rate accel := Or.inl hr1
  have htk : ∀ t : Nat, t ≤ τn → ltTaken rate accel a0 t = -ltPos rate accel a0 t := by
    intro t ht
    have := ltTaken_down rate accel a0 0 t (Nat.zero_le _) (fun k _ hk => hdown k (by omega))
    rw [this, ltTaken_zero, pos0 rate accel a0 h0 h1]; ring
  have hsrev : sRev rate accel a0 = ltTaken rate accel a0 τn := by
    have hge := ltTaken_nonneg rate accel a0 τn
    rw [htk τn le_rfl] at hge ⊢
    have h2 := ltTotal_two rate accel τn a0
    simp only [sRev, sRev2, adjOf, hτn, Nat.cast_pos.mpr hτ1', hneg, if_true]
    unfold ltPos two31 at *
    omega
  refine ⟨τn, hτn.symm, hτ1', hdown, hupS, hr1, hneg, htk, hsrev, fun t ht => ?_⟩
  rw [ltTaken_up rate accel a0 τn t ht (fun k hk _ => (hupS k hk).le), hsrev, htk τn le_rfl]; ring

/-- **Branch: acceleration positive, start backward, the budget is used up by the reversal tick** -/
theorem lmPosA_up_before (rate accel a0 n : Int) (T τn : Nat) (ha : 0 < accel) (C : Ctx rate accel a0 n T)
    (V : RevUp rate accel a0 τn) (hb : n ≤ sRev rate accel a0) :
    lmPosA n rate accel a0 = target rate accel a0 T := by
  have hF := C.hF
  obtain ⟨hτ, hτ1, hdown, hupS, hr1, hneg, htk, hsrev, htk2⟩ := V
  have hnoRev : noRev n rate accel a0 := Or.inr (Or.inr hb)
  obtain ⟨hte, hpf, hc⟩ := noRev_facts hnoRev
  rw [if_pos hneg] at hpf
  rw [hpf, adjOf, if_pos hneg] at hc
  have hTτ : T ≤ τn := by
    have := first_le rate accel a0 n T hF τn (by omega) (by rw [Int.toNat_natCast, ← hsrev]; exact hb)
    exact_mod_cast this
  have hreach : ∀ t : Nat, t ≤ τn →
      (n ≤ ltTaken rate accel a0 t ↔ qq accel (kk rate accel) (a0 - ((-n + 1) * two31 - 1)) t ≤ 0) := fun t ht => by
    rw [htk t ht, ← pos_le_iff]; omega
  refine lmPosA_of _ _ _ _ _ C ?_ fun h => by rw [hpf]; rw [htk T hTτ] at h; omega
  unfold timeFinal
  rw [if_neg ha.ne', hc, hte, show a0 - (two31 - 1) - -n * two31 = a0 - ((-n + 1) * two31 - 1) by ring]
  apply quadTime_down accel _ _ (-1) T ha (by omega)
  · have := C.hn; have := C.h0
    unfold qq two31; omega
  · have := rz_pair rate accel 0
    rw [r1_eq] at hr1
    have e : rz rate accel 0 = rz rate accel 1 - accel := by unfold rz; ring
    simp only [zero_add, mul_zero, add_zero] at this
    omega
  · exact_mod_cast hF.1
  · exact (hreach T hTτ).mp hF.2.1
  · rintro t ht1 htT (hq | hv)
    · apply first_le rate accel a0 n T hF t (by omega)
      rw [hreach _ (by omega), Int.toNat_of_nonneg (by omega)]; exact hq
    · -- a tick `t < T ≤ τ` is before the vertex: the rates at `t` and `t + 1` are non-positive and not both zero
      by_contra hc
      have a := hdown t.toNat (by omega)
      have b := hdown (t.toNat + 1) (by omega)
      rw [ltRate_rz] at a b
      push_cast at b
      rw [Int.toNat_of_nonneg (by omega)] at a b
      have := rz_pair rate accel t
      have e : rz rate accel (t + 1) = rz rate accel t + accel := by unfold rz; ring
      omega

/-- **Branches: acceleration positive, start backward, reversal inside the move** (no step or some steps
made before the reversal; the remaining steps are made forward after it) -/
theorem lmPosA_up_after (rate accel a0 n : Int) (T τn : Nat) (ha : 0 < accel) (C : Ctx rate accel a0 n T)
    (V : RevUp rate accel a0 τn) (hne : ¬ (tRev rate accel = 1 ∧ r1 rate accel = 0))
    (hb : sRev rate accel a0 < n) :
    lmPosA n rate accel a0 = target rate accel a0 T := by
  obtain ⟨hτ, hτ1, hdown, hupS, hr1, hneg, htk, hsrev, htk2⟩ := V
  have hnoRev : ¬ noRev n rate accel a0 := by
    unfold noRev; rw [← hτ]
    rintro (h | h | h)
    · omega
    · apply hne; rw [← hτ]; exact h
    · omega
  have hpf : posFinal n rate accel a0 = n - 2 * sRev rate accel a0 := by
    unfold posFinal
    rw [if_neg hnoRev]
    split_ifs with hs
    · rw [hs]; ring
    · ring
  have hte : tRevEff n rate accel a0 = τn := by simp [tRevEff, hnoRev, hτ]
  refine lmPosA_rising rate accel a0 n _ T τn ha C hpf ?_ (Or.inl hte) (fun k hk => (hupS k hk).le)
    (fun t ht => by rw [htk2 t ht]; ring) (by rw [← hsrev]; exact hb)
  unfold cFactor
  rw [hte]
  simp only [posAdj, adjOf, hnoRev, hneg, hpf, ha, if_true, if_false]
  rw [if_pos (by omega)]
  ring

/-- **Branch: constant positive rate** -/
theorem lmPosA_const (rate accel a0 n : Int) (T : Nat) (ha : accel = 0) (hr : 0 < rate)
    (C : Ctx rate accel a0 n T) : lmPosA n rate accel a0 = target rate accel a0 T := by
  subst ha
  have hF := C.hF
  have hneg : ¬ isNeg rate 0 := by simp [isNeg, r1, tdiv]; omega
  have hnoRev : noRev n rate 0 a0 := by unfold noRev tRev; simp
  have hpf := (noRev_facts hnoRev).2.1
  rw [if_neg hneg] at hpf
  have htk : ∀ t : Nat, ltTaken rate 0 a0 t = ltPos rate 0 a0 t := by
    intro t
    have := ltTaken_up rate 0 a0 0 t (Nat.zero_le _) (fun k _ _ => by rw [ltRate_closed]; simp [tdiv]; omega)
    rw [this, ltTaken_zero, pos0 rate 0 a0 C.h0 C.h1]; ring
  have hreach : ∀ t : Nat, n ≤ ltTaken rate 0 a0 t ↔ two31 * n - a0 ≤ rate * t := by
    intro t
    rw [htk, le_pos_iff, show kk rate 0 = 2 * rate by simp [kk, tdiv]]
    unfold qq
    constructor <;> intro h <;> linarith
  refine lmPosA_of _ _ _ _ _ C ?_ fun h => by rw [hpf, ← htk, h]
  unfold timeFinal linTime
  rw [if_pos rfl, if_pos hr, hpf]
  simp only [adjOf, hneg, if_false]
  apply le_antisymm
  · rw [cdiv_le_iff _ _ _ hr]; exact (hreach T).mp hF.2.1
  · have hpos : 0 ≤ cdiv (two31 * n - a0) rate := by
      by_contra hc
      have := (cdiv_le_iff (two31 * n - a0) rate (-1) hr).mp (by omega)
      have := C.hn; have := C.h1
      unfold two31 at *
      omega
    apply first_le rate 0 a0 n T hF _ hpos
    rw [hreach, Int.toNat_of_nonneg hpos]
    exact (cdiv_le_iff _ _ _ hr).mp (le_refl _)

theorem lmPosA_up (rate accel a0 n : Int) (T : Nat) (ha : 0 < accel) (C : Ctx rate accel a0 n T) :
    lmPosA n rate accel a0 = target rate accel a0 T := by
  have hτ : rate < 0 ∨ tRev rate accel = -1 := by
    unfold tRev
    rcases lt_or_ge rate 0 with h | h
    · exact Or.inl h
    · rw [if_neg (by omega), if_neg (by omega)]; exact Or.inr rfl
  by_cases hnr : tRev rate accel < 1 ∨ (tRev rate accel = 1 ∧ r1 rate accel = 0)
  · refine lmPosA_up_norev rate accel a0 n T ha C ?_ hnr
    rcases lt_or_ge rate 0 with hr | hr
    · -- the first rate is the one after tick `tRev = 0`, or zero
      obtain ⟨f0, _, f2⟩ := tRev_facts rate accel ha hr
      rcases hnr with h | h
      · rw [show tRev rate accel = 0 by omega, zero_add, ← r1_eq] at f2; exact f2.le
      · exact h.2.ge
    · have := tdiv_pos accel ha
      unfold r1; omega
  · have hr : rate < 0 := hτ.resolve_right fun h => hnr (Or.inl (by omega))
    obtain ⟨τn, V⟩ := revUp_intro rate accel a0 ha hr C.h0 C.h1 (by omega) fun h => hnr (Or.inr h)
    by_cases hb : n ≤ sRev rate accel a0
    · exact lmPosA_up_before rate accel a0 n T τn ha C V hb
    · exact lmPosA_up_after rate accel a0 n T τn ha C V (fun h => hnr (Or.inr h)) (by omega)

end C03
end Plotink
