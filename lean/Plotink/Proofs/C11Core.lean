import Plotink.Model.C11
import Mathlib.Tactic.Linarith
import Mathlib.Tactic.Ring
import Mathlib.Tactic.FieldSimp
import Mathlib.Algebra.Order.Field.Basic
/-! Lemmas about the model `C11.vbScale`: the verdict of `parseVB` on the token list, and the numeric branches `vbCore`. -/
namespace Plotink
namespace C11
open PyFloat

theorem four_or_short {α} (l : List α) :
    l.length < 4 ∨ ∃ t0 t1 t2 t3 rest, l = t0 :: t1 :: t2 :: t3 :: rest := by
  match l with
  | t0 :: t1 :: t2 :: t3 :: rest => exact .inr ⟨_, _, _, _, _, rfl⟩
  | [] | [_] | [_, _] | [_, _, _] => exact .inl (by simp)

theorem not_short {α} (a b c d : α) (r : List α) : ¬ (a :: b :: c :: d :: r).length < 4 := by simp

theorem parseVB_short (v : List Char) (h : (pySplit (commaToBlank (pyStrip v))).length < 4) :
    parseVB (some v) = .short := by
  unfold parseVB
  simp only
  generalize pySplit (commaToBlank (pyStrip v)) = l at h
  match l, h with
  | [], _ | [_], _ | [_, _], _ | [_, _, _], _ => rfl
  | _ :: _ :: _ :: _ :: _, h => exact absurd h (not_short _ _ _ _ _)

/-- the verdict of `parseVB` as a function of the four `float()` results -/
def classify (p0 p1 p2 p3 : Option Num) : VB :=
  match p0, p1, p2, p3 with
  | some a, some b, some c, some d =>
    match finOf a, finOf b, finOf c, finOf d with
    | some x, some y, some w, some h => .ok x y w h
    | _, _, _, _ => .nonfinite
  | _, _, _, _ => .bad

theorem classify_bad {p0 p1 p2 p3 : Option Num} (h : p0 = none ∨ p1 = none ∨ p2 = none ∨ p3 = none) :
    classify p0 p1 p2 p3 = .bad := by
  rcases p0 with _ | a <;> rcases p1 with _ | b <;> rcases p2 with _ | c <;> rcases p3 with _ | d <;>
    first | rfl | simp at h

theorem classify_cases (p0 p1 p2 p3 : Option Num) :
    (p0 = none ∨ p1 = none ∨ p2 = none ∨ p3 = none) ∨ classify p0 p1 p2 p3 = .nonfinite ∨
      ∃ x y w h, p0 = some (.fin x) ∧ p1 = some (.fin y) ∧ p2 = some (.fin w) ∧ p3 = some (.fin h) := by
  rcases p0 with _ | a
  · exact .inl (.inl rfl)
  rcases p1 with _ | b
  · exact .inl (.inr (.inl rfl))
  rcases p2 with _ | c
  · exact .inl (.inr (.inr (.inl rfl)))
  rcases p3 with _ | d
  · exact .inl (.inr (.inr (.inr rfl)))
  rcases a with x | _ | _ <;> rcases b with y | _ | _ <;> rcases c with w | _ | _ <;> rcases d with h | _ | _
  · exact .inr (.inr ⟨x, y, w, h, rfl, rfl, rfl, rfl⟩)
  all_goals exact .inr (.inl rfl)

theorem parseVB_tokens (v : List Char) (t0 t1 t2 t3 : List Char) (rest : List (List Char))
    (h : pySplit (commaToBlank (pyStrip v)) = t0 :: t1 :: t2 :: t3 :: rest) :
    parseVB (some v) = classify (parseFloat t0) (parseFloat t1) (parseFloat t2) (parseFloat t3) := by
  unfold parseVB classify
  simp only [h]
  rcases parseFloat t0 with _ | a <;> rcases parseFloat t1 with _ | b <;> rcases parseFloat t2 with _ | c <;>
    rcases parseFloat t3 with _ | d <;> rfl

theorem parseVB_ok_inv {v : List Char} {x y w h : Rat} (hvb : parseVB (some v) = .ok x y w h) :
    ∃ t0 t1 t2 t3 rest, pySplit (commaToBlank (pyStrip v)) = t0 :: t1 :: t2 :: t3 :: rest ∧
      parseFloat t0 = some (.fin x) ∧ parseFloat t1 = some (.fin y) ∧ parseFloat t2 = some (.fin w) ∧
      parseFloat t3 = some (.fin h) := by
  rcases four_or_short (pySplit (commaToBlank (pyStrip v))) with hl | ⟨t0, t1, t2, t3, rest, hs⟩
  · rw [parseVB_short _ hl] at hvb; cases hvb
  rw [parseVB_tokens v t0 t1 t2 t3 rest hs] at hvb
  rcases classify_cases (parseFloat t0) (parseFloat t1) (parseFloat t2) (parseFloat t3) with
    hb | hn | ⟨x', y', w', h', h0, h1, h2, h3⟩
  · rw [classify_bad hb] at hvb; cases hvb
  · rw [hn] at hvb; cases hvb
  · rw [h0, h1, h2, h3] at hvb
    cases hvb
    exact ⟨t0, t1, t2, t3, rest, hs, h0, h1, h2, h3⟩

/-- the two sign tests of `vb_scale` -/
theorem ite_nonpos {α} {w h W H : Rat} (a b : α) (hle : w ≤ 0 ∨ h ≤ 0 ∨ W ≤ 0 ∨ H ≤ 0) :
    (if w ≤ 0 ∨ h ≤ 0 then a else if W ≤ 0 ∨ H ≤ 0 then a else b) = a := by
  by_cases h1 : w ≤ 0 ∨ h ≤ 0
  · rw [if_pos h1]
  · rw [if_neg h1, if_pos ((or_assoc.2 hle).resolve_left h1)]

theorem vbScale_ok {vb : Option (List Char)} {x y w h : Rat} (par : Option (List Char)) (W H : Rat)
    (hvb : parseVB vb = .ok x y w h) :
    vbScale vb par W H =
      if w ≤ 0 ∨ h ≤ 0 then .xf identity else if W ≤ 0 ∨ H ≤ 0 then .xf identity
      else .xf (vbCore (parTokens par).1 (parTokens par).2 x y w h W H) := by
  unfold vbScale; rw [hvb]

theorem ar_iff {w h W H : Rat} (hw : 0 < w) (hh : 0 < h) (hW : 0 < W) :
    H / W ≥ h / w ↔ W / w ≤ H / h := by
  rw [ge_iff_le, div_le_div_iff₀ hw hW, div_le_div_iff₀ hw hh, mul_comm h W]

theorem alignName_ne_none (ax ay : Pos) : alignName ax ay ≠ sNone := by
  cases ax <;> cases ay <;> decide

/-- what "the viewBox position `p` lands on the page position `p`" means, per axis -/
def Aligned (ax ay : Pos) (x y w h W H : Rat) (t : Xf) : Prop :=
  (vbPt ax x w + t.ox) * t.sx = pagePt ax W ∧ (vbPt ay y h + t.oy) * t.sy = pagePt ay H

/-- the code's string-set tests on the align token select by the `y` position … -/
theorem pickY {α} (ax ay : Pos) (a b c : α) :
    (if alignName ax ay = sXminYmin ∨ alignName ax ay = sXmidYmin ∨ alignName ax ay = sXmaxYmin then a
      else if alignName ax ay = sXminYmax ∨ alignName ax ay = sXmidYmax ∨ alignName ax ay = sXmaxYmax then b
      else c) = match ay with | .min => a | .max => b | .mid => c := by
  cases ax <;> cases ay <;> rfl

/-- … and by the `x` position -/
theorem pickX {α} (ax ay : Pos) (a b c : α) :
    (if alignName ax ay = sXminYmin ∨ alignName ax ay = sXminYmid ∨ alignName ax ay = sXminYmax then a
      else if alignName ax ay = sXmaxYmin ∨ alignName ax ay = sXmaxYmid ∨ alignName ax ay = sXmaxYmax then b
      else c) = match ax with | .min => a | .max => b | .mid => c := by
  cases ax <;> cases ay <;> rfl

/-- one axis: the viewBox of length `l` plus the excess `e` is scaled by `s` onto the page length `L`, and the
offset puts none, half or all of the excess in front -/
theorem aligned_axis (p : Pos) (m l e s L : Rat) (h : (l + e) * s = L) :
    (vbPt p m l + (match p with | .min => -m | .max => -m + e | .mid => -m + e / 2)) * s = pagePt p L := by
  subst h
  cases p <;> simp only [vbPt, pagePt] <;> ring

/-- the axis that is filled exactly: no excess -/
theorem aligned_axis_fill (p : Pos) (m l s L : Rat) (h : l * s = L) : (vbPt p m l + -m) * s = pagePt p L := by
  subst h
  cases p <;> simp only [vbPt, pagePt] <;> ring

/-- "fill X" class: meet with the page relatively taller (or equal), or slice with it relatively wider -/
theorem core_fillX (ax ay : Pos) (mos : List Char) (x y w h W H : Rat)
    (hw : 0 < w) (hW : 0 < W)
    (hc : (H / W ≥ h / w ∧ mos = sMeet) ∨ (H / W < h / w ∧ mos = sSlice)) :
    (vbCore (alignName ax ay) mos x y w h W H).sx = W / w ∧
    (vbCore (alignName ax ay) mos x y w h W H).sy = W / w ∧
    Aligned ax ay x y w h W H (vbCore (alignName ax ay) mos x y w h W H) := by
  have hw' := hw.ne'
  have hW' := hW.ne'
  simp only [vbCore, if_neg (alignName_ne_none ax ay), if_pos hc, pickY, Aligned]
  exact ⟨trivial, trivial, aligned_axis_fill ax x w _ W (by field_simp),
    aligned_axis ay y h _ _ H (by field_simp; ring)⟩

/-- "fill Y" class: everything else -/
theorem core_fillY (ax ay : Pos) (mos : List Char) (x y w h W H : Rat)
    (hh : 0 < h) (hW : 0 < W) (hH : 0 < H)
    (hc : ¬ ((H / W ≥ h / w ∧ mos = sMeet) ∨ (H / W < h / w ∧ mos = sSlice))) :
    (vbCore (alignName ax ay) mos x y w h W H).sx = H / h ∧
    (vbCore (alignName ax ay) mos x y w h W H).sy = H / h ∧
    Aligned ax ay x y w h W H (vbCore (alignName ax ay) mos x y w h W H) := by
  have hh' := hh.ne'
  have hW' := hW.ne'
  have hH' := hH.ne'
  simp only [vbCore, if_neg (alignName_ne_none ax ay), if_neg hc, pickX, Aligned]
  exact ⟨trivial, trivial, aligned_axis ax x w _ _ W (by field_simp; ring),
    aligned_axis_fill ay y h _ H (by field_simp)⟩

theorem core_none (mos : List Char) (x y w h W H : Rat) :
    vbCore sNone mos x y w h W H = ⟨W / w, H / h, -x, -y⟩ := by
  unfold vbCore; rw [if_pos rfl]

theorem sMeet_ne_sSlice : sMeet ≠ sSlice := by decide

/-- the scale SVG prescribes for a uniform fit: the smaller axis ratio for meet, the larger for slice -/
def fitScale (m : MOS) (rx ry : Rat) : Rat :=
  match m with
  | .meet => min rx ry
  | .slice => max rx ry

theorem core_uniform (ax ay : Pos) (m : MOS) (x y w h W H : Rat)
    (hw : 0 < w) (hh : 0 < h) (hW : 0 < W) (hH : 0 < H) :
    let t := vbCore (alignName ax ay) (mosName m) x y w h W H
    t.sx = t.sy ∧ t.sx = fitScale m (W / w) (H / h) ∧
    Aligned ax ay x y w h W H t := by
  intro t
  have key : H / W ≥ h / w ↔ W / w ≤ H / h := ar_iff hw hh hW
  by_cases hle : W / w ≤ H / h
  · cases m
    · obtain ⟨a, b, c⟩ := core_fillX ax ay sMeet x y w h W H hw hW (Or.inl ⟨key.mpr hle, rfl⟩)
      exact ⟨a.trans b.symm, a.trans (min_eq_left hle).symm, c⟩
    · obtain ⟨a, b, c⟩ := core_fillY ax ay sSlice x y w h W H hh hW hH
        (not_or.mpr ⟨fun e => sMeet_ne_sSlice e.2.symm, fun l => absurd (key.mpr hle) (not_le.mpr l.1)⟩)
      exact ⟨a.trans b.symm, a.trans (max_eq_right hle).symm, c⟩
  · have hlt : H / h < W / w := not_le.mp hle
    have hnk : ¬ (H / W ≥ h / w) := fun g => hle (key.mp g)
    cases m
    · obtain ⟨a, b, c⟩ := core_fillY ax ay sMeet x y w h W H hh hW hH
        (not_or.mpr ⟨fun g => hnk g.1, fun e => sMeet_ne_sSlice e.2⟩)
      exact ⟨a.trans b.symm, a.trans (min_eq_right hlt.le).symm, c⟩
    · obtain ⟨a, b, c⟩ := core_fillX ax ay sSlice x y w h W H hw hW (Or.inr ⟨not_le.mp hnk, rfl⟩)
      exact ⟨a.trans b.symm, a.trans (max_eq_left hlt.le).symm, c⟩

end C11
end Plotink
