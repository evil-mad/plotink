import Plotink.Model.C14
import Mathlib.Tactic.Linarith
import Mathlib.Order.Lattice
import Mathlib.Order.Compare

/-! C14: the R-tree query against brute force.  An extent bounds the boxes it was folded over, so pruning never hides a
hit (`extentHit_of_mem`); the quadrant tests depend only on order patterns, which is what `coversB` enumerates
(`some_quad`); one induction principle along `build` (`build_induction`) carries soundness, completeness and the depth
bound. -/
namespace Plotink
namespace C14

def Box.Valid (b : Box) : Prop := b.x1 ≤ b.x2 ∧ b.y1 ≤ b.y2

theorem overlaps_iff (q b : Box) :
    overlaps q b = true ↔ (q.x1 ≤ b.x2 ∧ q.y1 ≤ b.y2 ∧ b.x1 ≤ q.x2 ∧ b.y1 ≤ q.y2) := by
  simp only [overlaps, Bool.not_eq_true', Bool.or_eq_false_iff, decide_eq_false_iff_not, not_lt, gt_iff_lt, and_assoc]

theorem overlaps_iff_shares_point (q b : Box) (hq : q.Valid) (hb : b.Valid) :
    overlaps q b = true ↔
      ∃ x y : Rat, (b.x1 ≤ x ∧ x ≤ b.x2 ∧ b.y1 ≤ y ∧ y ≤ b.y2) ∧ (q.x1 ≤ x ∧ x ≤ q.x2 ∧ q.y1 ≤ y ∧ y ≤ q.y2) := by
  rw [overlaps_iff]
  obtain ⟨hq1, hq2⟩ := hq
  obtain ⟨hb1, hb2⟩ := hb
  constructor
  · rintro ⟨h1, h2, h3, h4⟩
    refine ⟨max q.x1 b.x1, max q.y1 b.y1, ⟨le_max_right _ _, max_le h1 hb1, le_max_right _ _, max_le h2 hb2⟩,
      ⟨le_max_left _ _, max_le hq1 h3, le_max_left _ _, max_le hq2 h4⟩⟩
  · rintro ⟨x, y, ⟨a1, a2, a3, a4⟩, ⟨c1, c2, c3, c4⟩⟩
    exact ⟨le_trans c1 a2, le_trans c3 a4, le_trans a1 c2, le_trans a3 c4⟩

def Bounds (e : Option Box) (b : Box) : Prop :=
  ∃ e', e = some e' ∧ e'.x1 ≤ b.x1 ∧ e'.y1 ≤ b.y1 ∧ b.x2 ≤ e'.x2 ∧ b.y2 ≤ e'.y2

theorem bounds_step_self (e : Option Box) (b : IBox) : Bounds (extStep e b) b.2 := by
  cases e with
  | none => exact ⟨_, rfl, le_refl _, le_refl _, le_refl _, le_refl _⟩
  | some e => exact ⟨_, rfl, min_le_right _ _, min_le_right _ _, le_max_right _ _, le_max_right _ _⟩

theorem bounds_step_mono (e : Option Box) (b : IBox) (c : Box) (h : Bounds e c) : Bounds (extStep e b) c := by
  obtain ⟨e', rfl, h1, h2, h3, h4⟩ := h
  exact ⟨_, rfl, le_trans (min_le_left _ _) h1, le_trans (min_le_left _ _) h2,
    le_trans h3 (le_max_left _ _), le_trans h4 (le_max_left _ _)⟩

theorem bounds_foldl (l : List IBox) (e : Option Box) (c : Box)
    (h : Bounds e c ∨ ∃ b ∈ l, b.2 = c) : Bounds (l.foldl extStep e) c := by
  induction l generalizing e with
  | nil =>
    rcases h with h | ⟨b, hb, _⟩
    · exact h
    · simp at hb
  | cons a t ih =>
    simp only [List.foldl_cons]
    apply ih
    rcases h with h | ⟨b, hb, rfl⟩
    · exact Or.inl (bounds_step_mono e a c h)
    · rcases List.mem_cons.mp hb with rfl | hb
      · exact Or.inl (bounds_step_self e b)
      · exact Or.inr ⟨b, hb, rfl⟩

theorem extent_bounds (bs : List IBox) (b : IBox) (hb : b ∈ bs) : Bounds (extent bs) b.2 :=
  bounds_foldl bs none b.2 (Or.inr ⟨b, hb, rfl⟩)

theorem extentHit_of_mem (q : Box) (bs : List IBox) (b : IBox) (hb : b ∈ bs) (ho : overlaps q b.2 = true) :
    extentHit q (extent bs) = true := by
  obtain ⟨e, he, h1, h2, h3, h4⟩ := extent_bounds bs b hb
  obtain ⟨o1, o2, o3, o4⟩ := (overlaps_iff q b.2).mp ho
  rw [he]
  -- against a proper extent the pruning test is the overlap test
  exact (overlaps_iff q e).mpr ⟨le_trans o1 h3, le_trans o2 h4, le_trans h1 o3, le_trans h2 o4⟩

theorem lo_eq (st : Bool) (a c : Rat) : lo st a c = loA st (compare a c) := by
  rcases lt_trichotomy a c with h | h | h
  · rw [compare_lt_iff_lt.mpr h]; cases st <;> simp [lo, loA, h, le_of_lt h]
  · subst h; rw [compare_eq_iff_eq.mpr rfl]; cases st <;> simp [lo, loA]
  · rw [compare_gt_iff_gt.mpr h]; cases st <;> simp [lo, loA, not_lt.mpr (le_of_lt h), not_le.mpr h]

theorem hi_eq (st : Bool) (a c : Rat) : hi st a c = hiA st (compare a c) := by
  rcases lt_trichotomy a c with h | h | h
  · rw [compare_lt_iff_lt.mpr h]; cases st <;> simp [hi, hiA, not_lt.mpr (le_of_lt h), not_le.mpr h]
  · subst h; rw [compare_eq_iff_eq.mpr rfl]; cases st <;> simp [hi, hiA]
  · rw [compare_gt_iff_gt.mpr h]; cases st <;> simp [hi, hiA, h, le_of_lt h]

theorem quad_eq (s : Strict) (cx cy : Rat) (k : Fin 4) (b : IBox) :
    quad s cx cy k b =
      quadA s k (compare b.2.x1 cx) (compare b.2.x2 cx) (compare b.2.y1 cy) (compare b.2.y2 cy) := by
  match k with
  | 0 | 1 | 2 | 3 => simp only [quad, quadA, lo_eq, hi_eq]

theorem okPair_of_le (a b c : Rat) (h : a ≤ b) : okPair (compare a c) (compare b c) = true := by
  rcases lt_trichotomy a c with h1 | h1 | h1
  · rw [compare_lt_iff_lt.mpr h1]; rfl
  · subst h1
    rcases lt_or_eq_of_le h with h2 | h2
    · rw [compare_eq_iff_eq.mpr rfl, compare_gt_iff_gt.mpr h2]; rfl
    · subst h2; rw [compare_eq_iff_eq.mpr rfl]; rfl
  · rw [compare_gt_iff_gt.mpr h1, compare_gt_iff_gt.mpr (lt_of_lt_of_le h1 h)]; rfl

theorem mem_ords (o : Ordering) : o ∈ ords := by cases o <;> simp [ords]

theorem coversB_spec (s : Strict) (h : coversB s = true) (ox1 ox2 oy1 oy2 : Ordering)
    (hx : okPair ox1 ox2 = true) (hy : okPair oy1 oy2 = true) :
    ∃ k, quadA s k ox1 ox2 oy1 oy2 = true := by
  have h' := List.all_eq_true.mp (List.all_eq_true.mp (List.all_eq_true.mp (List.all_eq_true.mp h
    ox1 (mem_ords _)) ox2 (mem_ords _)) oy1 (mem_ords _)) oy2 (mem_ords _)
  simp only [hx, hy, Bool.and_self, Bool.not_true, Bool.false_or, Bool.or_eq_true] at h'
  rcases h' with ((h' | h') | h') | h'
  · exact ⟨0, h'⟩
  · exact ⟨1, h'⟩
  · exact ⟨2, h'⟩
  · exact ⟨3, h'⟩

theorem some_quad (s : Strict) (hs : coversB s = true) (cx cy : Rat) (b : IBox) (hv : b.2.Valid) :
    ∃ k, quad s cx cy k b = true := by
  obtain ⟨k, hk⟩ := coversB_spec s hs _ _ _ _ (okPair_of_le b.2.x1 b.2.x2 cx hv.1) (okPair_of_le b.2.y1 b.2.y2 cy hv.2)
  exact ⟨k, by rw [quad_eq]; exact hk⟩

abbrev quadrant (s : Strict) (center : List IBox → Rat × Rat) (bs : List IBox) (k : Fin 4) : List IBox :=
  bs.filter (quad s (center bs).1 (center bs).2 k)

/-- the widest quadrant list is as long as the whole list: `build` makes a leaf -/
abbrev Stuck (s : Strict) (center : List IBox → Rat × Rat) (bs : List IBox) : Prop :=
  max (max (quadrant s center bs 0).length (quadrant s center bs 1).length)
    (max (quadrant s center bs 2).length (quadrant s center bs 3).length) = bs.length

abbrev Tree.ofFn (e : Fin 4 → Option Box) (t : Fin 4 → Tree) : Tree :=
  .node (e 0) (e 1) (e 2) (e 3) (t 0) (t 1) (t 2) (t 3)

/-- induction along `build`, the four quadrants as one family over `Fin 4` -/
theorem build_induction (s : Strict) (center : List IBox → Rat × Rat) {P : List IBox → Tree → Prop}
    (leaf : ∀ bs, Stuck s center bs → P bs (.leaf bs))
    (node : ∀ bs, ¬ Stuck s center bs → (∀ k, (quadrant s center bs k).length < bs.length) →
      (∀ k, P (quadrant s center bs k) (build s center (quadrant s center bs k))) →
      P bs (.ofFn (fun k => extent (quadrant s center bs k)) (fun k => build s center (quadrant s center bs k))))
    (bs : List IBox) : P bs (build s center bs) := by
  fun_induction build s center bs with
  | case1 bs c s0 s1 s2 s3 h => exact leaf bs h
  | case2 bs c s0 s1 s2 s3 h h0 h1 h2 h3 l0 l1 l2 l3 ih0 ih1 ih2 ih3 =>
    exact node bs h (fun k => match k with | 0 => l0 | 1 => l1 | 2 => l2 | 3 => l3)
      (fun k => match k with | 0 => ih0 | 1 => ih1 | 2 => ih2 | 3 => ih3)

theorem mem_query_node (q : Box) (e : Fin 4 → Option Box) (t : Fin 4 → Tree) (i : Nat) :
    i ∈ query q (.ofFn e t) ↔ ∃ k, extentHit q (e k) = true ∧ i ∈ query q (t k) := by
  simp only [query, List.mem_append, List.mem_ite_nil_right, Fin.exists_fin_succ, Fin.exists_fin_zero, or_false,
    or_assoc]
  rfl

/-- nothing extra: holds for every strictness assignment and every box list -/
theorem query_sound (s : Strict) (center : List IBox → Rat × Rat) (q : Box) (bs : List IBox) (i : Nat)
    (hi : i ∈ query q (build s center bs)) : ∃ b, (i, b) ∈ bs ∧ overlaps q b = true := by
  revert hi
  refine build_induction s center (P := fun bs t => i ∈ query q t → ∃ b, (i, b) ∈ bs ∧ overlaps q b = true)
    (fun bs _ hi => ?_) (fun bs _ _ ih hi => ?_) bs
  · simp only [query, List.mem_map, List.mem_filter] at hi
    obtain ⟨⟨j, b⟩, ⟨hm, ho⟩, rfl⟩ := hi
    exact ⟨b, hm, ho⟩
  · obtain ⟨k, _, hk⟩ := (mem_query_node q _ _ i).mp hi
    obtain ⟨b, hb, ho⟩ := ih k hk
    exact ⟨b, (List.mem_filter.mp hb).1, ho⟩

/-- nothing missed: needs the covering condition and `min ≤ max` -/
theorem query_complete (s : Strict) (hs : coversB s = true) (center : List IBox → Rat × Rat) (q : Box)
    (bs : List IBox) (hv : ∀ b ∈ bs, b.2.Valid) (i : Nat) (b : Box) (hb : (i, b) ∈ bs)
    (ho : overlaps q b = true) : i ∈ query q (build s center bs) := by
  revert hv hb
  refine build_induction s center (P := fun bs t => (∀ b ∈ bs, b.2.Valid) → (i, b) ∈ bs → i ∈ query q t)
    (fun bs _ _ hb => ?_) (fun bs _ _ ih hv hb => ?_) bs
  · simp only [query, List.mem_map, List.mem_filter]
    exact ⟨(i, b), ⟨hb, ho⟩, rfl⟩
  · -- the box lies in some quadrant `k`, whose extent the query meets
    obtain ⟨k, hk⟩ := some_quad s hs (center bs).1 (center bs).2 (i, b) (hv _ hb)
    have hmem : (i, b) ∈ quadrant s center bs k := List.mem_filter.mpr ⟨hb, hk⟩
    exact (mem_query_node q _ _ i).mpr
      ⟨k, extentHit_of_mem q _ (i, b) hmem ho, ih k (fun b' hb' => hv b' (List.mem_filter.mp hb').1) hmem⟩

theorem mem_bruteForce (q : Box) (bs : List IBox) (i : Nat) :
    i ∈ bruteForce q bs ↔ ∃ b, (i, b) ∈ bs ∧ overlaps q b = true := by
  simp only [bruteForce, List.mem_map, List.mem_filter, Bool.and_eq_true, decide_eq_true_eq]
  constructor
  · rintro ⟨⟨j, b⟩, ⟨hm, ⟨⟨h1, h2⟩, h3⟩, h4⟩, rfl⟩
    exact ⟨b, hm, (overlaps_iff q b).mpr ⟨h2, h4, h1, h3⟩⟩
  · rintro ⟨b, hm, ho⟩
    obtain ⟨h1, h2, h3, h4⟩ := (overlaps_iff q b).mp ho
    exact ⟨(i, b), ⟨hm, ⟨⟨h3, h1⟩, h4⟩, h2⟩, rfl⟩

theorem depth_le (s : Strict) (center : List IBox → Rat × Rat) (bs : List IBox) :
    (build s center bs).depth ≤ bs.length := by
  refine build_induction s center (P := fun bs t => t.depth ≤ bs.length) (fun _ _ => Nat.zero_le _)
    (fun bs _ hlt ih => ?_) bs
  have a := fun k => lt_of_le_of_lt (ih k) (hlt k)
  rw [Tree.depth, Nat.add_comm]
  exact Nat.succ_le_of_lt (max_lt (max_lt (a 0) (a 1)) (max_lt (a 2) (a 3)))

theorem depth_node_lt {e0 e1 e2 e3 : Option Box} {t0 t1 t2 t3 : Tree} {n : Nat}
    (h : (Tree.node e0 e1 e2 e3 t0 t1 t2 t3).depth < n + 1) :
    t0.depth < n ∧ t1.depth < n ∧ t2.depth < n ∧ t3.depth < n := by
  rw [Tree.depth, Nat.add_comm, Nat.succ_lt_succ_iff, max_lt_iff, max_lt_iff, max_lt_iff] at h
  exact ⟨h.1.1, h.1.2, h.2.1, h.2.2⟩

end C14
end Plotink
