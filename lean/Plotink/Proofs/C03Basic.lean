import Plotink.Proofs.FwAlg
/-! # C03 — steps taken, first tick, and the mirror symmetry of the recurrence -/
namespace Plotink
namespace C03
open Fw

theorem ltPos_zero (rate accel a0 : Int) : ltPos rate accel a0 0 = a0 / two31 := by
  simp [ltPos, ltTotal_zero]

theorem ltTaken_succ (rate accel a0 : Int) (k : Nat) :
    ltTaken rate accel a0 (k + 1) = ltTaken rate accel a0 k +
      ((ltPos rate accel a0 (k + 1) - ltPos rate accel a0 k).natAbs : Int) := rfl

theorem ltTaken_zero (rate accel a0 : Int) : ltTaken rate accel a0 0 = 0 := rfl

theorem ltTaken_mono (rate accel a0 : Int) {s t : Nat} (h : s ≤ t) :
    ltTaken rate accel a0 s ≤ ltTaken rate accel a0 t :=
  monotone_nat_of_le_succ (fun k => by rw [ltTaken_succ]; omega) h

theorem ltTaken_nonneg (rate accel a0 : Int) (t : Nat) : 0 ≤ ltTaken rate accel a0 t := by
  have := ltTaken_mono rate accel a0 (Nat.zero_le t)
  simpa [ltTaken_zero] using this

theorem tdiv_neg (a : Int) : tdiv (-a) 2 = -tdiv a 2 := by
  unfold tdiv; omega

theorem ltRate_neg (rate accel : Int) (k : Nat) : ltRate (-rate) (-accel) k = -ltRate rate accel k := by
  rw [ltRate_closed, ltRate_closed, tdiv_neg]; ring

theorem ltTotal_mirror (rate accel a0 : Int) (T : Nat) :
    ltTotal (-rate) (-accel) T (two31 - 1 - a0) = two31 - 1 - ltTotal rate accel T a0 := by
  have h1 := ltTotal_closed (-rate) (-accel) T (two31 - 1 - a0)
  have h2 := ltTotal_closed rate accel T a0
  rw [tdiv_neg] at h1
  linarith

theorem ltPos_mirror (rate accel a0 : Int) (T : Nat) :
    ltPos (-rate) (-accel) (two31 - 1 - a0) T = -ltPos rate accel a0 T := by
  unfold ltPos; rw [ltTotal_mirror]
  generalize ltTotal rate accel T a0 = x
  unfold two31; omega

theorem ltTaken_mirror (rate accel a0 : Int) (T : Nat) :
    ltTaken (-rate) (-accel) (two31 - 1 - a0) T = ltTaken rate accel a0 T := by
  induction T with
  | zero => rfl
  | succ T ih =>
    rw [ltTaken_succ, ltTaken_succ, ih, ltPos_mirror, ltPos_mirror]
    omega

theorem ltPos_succ_ge (rate accel a0 : Int) (k : Nat) (h : 0 ≤ ltRate rate accel (k + 1)) :
    ltPos rate accel a0 k ≤ ltPos rate accel a0 (k + 1) := by
  unfold ltPos; rw [ltTotal_succ]
  apply Int.ediv_le_ediv (by decide) ; omega

theorem ltTaken_up (rate accel a0 : Int) (s t : Nat) (h : s ≤ t)
    (hr : ∀ k : Nat, s < k → k ≤ t → 0 ≤ ltRate rate accel k) :
    ltTaken rate accel a0 t = ltTaken rate accel a0 s + (ltPos rate accel a0 t - ltPos rate accel a0 s) := by
  induction t, h using Nat.le_induction with
  | base => rw [sub_self, add_zero]
  | succ t hst ih =>
    have hp := ltPos_succ_ge rate accel a0 t (hr (t + 1) (by omega) le_rfl)
    rw [ltTaken_succ, ih fun k hk hk' => hr k hk (by omega)]; omega

/-- the upward piece of the mirrored move -/
theorem ltTaken_down (rate accel a0 : Int) (s t : Nat) (h : s ≤ t)
    (hr : ∀ k : Nat, s < k → k ≤ t → ltRate rate accel k ≤ 0) :
    ltTaken rate accel a0 t = ltTaken rate accel a0 s + (ltPos rate accel a0 s - ltPos rate accel a0 t) := by
  have := ltTaken_up (-rate) (-accel) (two31 - 1 - a0) s t h fun k hk hk' => by
    rw [ltRate_neg]; have := hr k hk hk'; omega
  rw [ltTaken_mirror, ltTaken_mirror, ltPos_mirror, ltPos_mirror] at this
  rw [this]; ring

theorem ltTaken_succ_le_one (rate accel a0 : Int) (k : Nat)
    (h : -(two31 - 1) ≤ ltRate rate accel (k + 1) ∧ ltRate rate accel (k + 1) ≤ two31 - 1) :
    ltTaken rate accel a0 (k + 1) ≤ ltTaken rate accel a0 k + 1 := by
  rw [ltTaken_succ]
  unfold ltPos; rw [ltTotal_succ]
  unfold two31 at *
  omega

def IsFirst (rate accel a0 n : Int) (t : Nat) : Prop :=
  1 ≤ t ∧ n ≤ ltTaken rate accel a0 t ∧ ∀ s : Nat, s < t → ltTaken rate accel a0 s < n

theorem isFirst_iff (rate accel a0 n : Int) (t : Nat) :
    IsFirst rate accel a0 n t ↔
      (1 ≤ t ∧ n ≤ ltTaken rate accel a0 t ∧ ltTaken rate accel a0 (t - 1) < n) := by
  unfold IsFirst
  constructor
  · rintro ⟨h1, h2, h3⟩; exact ⟨h1, h2, h3 (t - 1) (by omega)⟩
  · rintro ⟨h1, h2, h3⟩
    refine ⟨h1, h2, fun s hs => ?_⟩
    exact lt_of_le_of_lt (ltTaken_mono rate accel a0 (by omega : s ≤ t - 1)) h3

theorem isFirst_unique (rate accel a0 n : Int) {t t' : Nat}
    (h : IsFirst rate accel a0 n t) (h' : IsFirst rate accel a0 n t') : t = t' := by
  rcases Nat.lt_trichotomy t t' with h1 | h1 | h1
  · have := h'.2.2 t h1; have := h.2.1; omega
  · exact h1
  · have := h.2.2 t' h1; have := h'.2.1; omega

theorem lmFirstTick_eq_some_iff (rate accel a0 n : Int) (hn : 1 ≤ n) (fuel t : Nat) :
    lmFirstTick rate accel a0 n fuel = some t ↔ (IsFirst rate accel a0 n t ∧ t ≤ fuel) := by
  unfold lmFirstTick IsFirst
  rw [List.find?_range'_eq_some]
  simp only [decide_eq_true_eq, ge_iff_le, List.mem_range'_1, Bool.not_eq_eq_eq_not, Bool.not_true,
    decide_eq_false_iff_not, not_le]
  constructor
  · rintro ⟨h1, ⟨h2, h3⟩, h4⟩
    refine ⟨⟨h2, h1, fun s hs => ?_⟩, by omega⟩
    rcases Nat.eq_zero_or_pos s with h0 | h0
    · subst h0; rw [ltTaken_zero]; omega
    · exact h4 s h0 hs
  · rintro ⟨⟨h1, h2, h3⟩, h4⟩
    exact ⟨h2, ⟨h1, by omega⟩, fun j _ hj => h3 j hj⟩

end C03
end Plotink
