import Plotink.Proofs.C05Methods
/-!
Conforming devices (the second instance of the generic theorem of `Proofs/C05Methods.lean`: `confRecSound` in
`Proofs/C05ConfRec.lean`).  A conforming device answers every request it receives — after a number of empty reads not
exceeding the retry limits — with exactly one line that begins with the request's name, carries no `Err:` and, for the
decoded queries, a well-formed payload; and it sends nothing else.  Core Lean only.
-/
namespace Plotink
namespace Ebb3

/-- state of a responsive device: lines produced and not yet read; number of requests received -/
structure ConfSt where
  queue : List ReadEv
  count : Nat

/-- the device that answers the `k`-th text handed to `write` (CR included) with
`(reply k text).1` empty reads followed by the line `(reply k text).2` -/
def confDev (reply : Nat → Str → Nat × Str) : Device ConfSt where
  write s t := (.ok, ⟨s.queue ++ List.replicate (reply s.count t).1 (ReadEv.line []) ++
    [ReadEv.line (reply s.count t).2], s.count + 1⟩)
  read s := match s.queue with
    | [] => (.line [], s)
    | e :: q => (e, ⟨q, s.count⟩)
  reset s := ⟨[], s.count⟩

/-- conformance with respect to the retry limits of `P`, for every trimmed request `req` (name `name`) whatever its
position `k` in the history; `QG` is answered at once because `query_statusbyte` reads only once -/
def Conforming (P : Params) (reply : Nat → Str → Nat × Str) : Prop :=
  ∀ (k : Nat) (req name : Str), strip req = req → cmdName req = .ok name →
    (reply k (req ++ ['\r'])).1 ≤ P.retryCmd ∧ (reply k (req ++ ['\r'])).1 ≤ P.retryQry ∧
    (req = "QG".toList → (reply k (req ++ ['\r'])).1 = 0) ∧
    startsWith name (strip (reply k (req ++ ['\r'])).2) = true ∧
    hasErr (strip (reply k (req ++ ['\r'])).2) = false ∧
    (∀ n ∈ parsedNames, name = n →
      ∃ payload, strip (reply k (req ++ ['\r'])).2 = name ++ ',' :: payload ∧ GoodPayload name payload)

def ConfInv (w : World ConfSt) : Prop :=
  w.st.err = Option.none ∧ (w.st.port = true → w.dev.queue = [])

theorem startsWith_nonempty {name t : Str} (hne : name ≠ []) (h : startsWith name t = true) :
    t.isEmpty = false := by
  cases t with
  | nil => rw [startsWith_nil_right hne] at h; cases h
  | cons c cs => rfl

def demoReply (_k : Nat) (t : Str) : Nat × Str :=
  match cmdName t.dropLast with
  | .ok name =>
    (0, name ++ (if name = "PI".toList ∨ name = "QL".toList then [','] else ",1,".toList) ++ ['1'])
  | .error _ => (0, [])

theorem demo_conforming (P : Params) : Conforming P demoReply := by
  intro k req name ht hn
  have hdl : (req ++ ['\r']).dropLast = req := by simp
  have hne : req ≠ [] := by intro h; subst h; cases hn
  obtain ⟨c, cs, hreq, hc⟩ := head_of_trimmed ht hne
  have hname : name = [c] ∨ ∃ d, name = [c, d] := by
    subst hreq
    cases cs with
    | nil => left; injection hn with h; exact h.symm
    | cons d ds =>
      simp only [cmdName] at hn
      split at hn
      · left; injection hn with h; exact h.symm
      · right; injection hn with h; exact ⟨d, h.symm⟩
  simp only [demoReply, hdl, hn]
  have hstrip : ∀ mid : Str, strip (name ++ mid ++ ['1']) = name ++ mid ++ ['1'] := by
    intro mid
    have hne' : name ++ mid ++ ['1'] ≠ [] := by simp
    apply strip_id_of_ends _ hne'
    · rcases hname with h | ⟨d, h⟩ <;> subst h <;> simpa using hc
    · simp; decide
  refine ⟨Nat.zero_le _, Nat.zero_le _, by simp, ?_, ?_, ?_⟩
  · rw [hstrip, List.append_assoc]
    exact List.isPrefixOf_iff_prefix.mpr (List.prefix_append _ _)
  · rw [hstrip]
    split <;> (rcases hname with h | ⟨d, h⟩ <;> subst h <;> simp [hasErr, hasSub, List.isPrefixOf])
  · intro n hn' hnn
    subst hnn
    simp only [parsedNames, List.mem_cons, List.not_mem_nil, or_false] at hn'
    rcases hn' with h | h | h | h | h <;> subst h
    · refine ⟨"1,1".toList, by rw [hstrip, if_neg (by decide)]; rfl, ?_⟩
      refine ⟨fun _ => ⟨"1".toList, "1".toList, 1, 1, rfl, rfl, rfl, trivial⟩, fun h => absurd h (by decide),
        fun h => absurd h (by decide), fun h => absurd h (by decide), fun h => absurd h (by decide)⟩
    · refine ⟨"1,1".toList, by rw [hstrip, if_neg (by decide)]; rfl, ?_⟩
      refine ⟨fun h => absurd h (by decide), fun _ => ⟨"1".toList, "1".toList, 1, 1, rfl, rfl, rfl, trivial⟩,
        fun h => absurd h (by decide), fun h => absurd h (by decide), fun h => absurd h (by decide)⟩
    · refine ⟨"1,1".toList, by rw [hstrip, if_neg (by decide)]; rfl, ?_⟩
      refine ⟨fun h => absurd h (by decide), fun h => absurd h (by decide),
        fun _ => ⟨"1".toList, "1".toList, 1, 1, rfl, rfl, rfl, by decide⟩,
        fun h => absurd h (by decide), fun h => absurd h (by decide)⟩
    · refine ⟨"1".toList, by rw [hstrip, if_pos (by decide)]; rfl, ?_⟩
      refine ⟨fun h => absurd h (by decide), fun h => absurd h (by decide), fun h => absurd h (by decide),
        fun _ => ⟨1, rfl⟩, fun h => absurd h (by decide)⟩
    · refine ⟨"1".toList, by rw [hstrip, if_pos (by decide)]; rfl, ?_⟩
      refine ⟨fun h => absurd h (by decide), fun h => absurd h (by decide), fun h => absurd h (by decide),
        fun h => absurd h (by decide), fun _ => ⟨1, rfl, by decide, by decide⟩⟩

end Ebb3
end Plotink
