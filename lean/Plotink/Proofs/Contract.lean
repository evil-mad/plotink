import Plotink.Py
import Mathlib.Tactic.Linarith
import Mathlib.Tactic.Ring
import Mathlib.Tactic.NormNum
import Mathlib.Tactic.Positivity
import Mathlib.Algebra.Order.Field.Basic
import Mathlib.Algebra.Order.Field.Power

/-! # The numeric contract on the rounding parameter of generated code (DESIGN §5b)

Every generated function takes a `Rounding` (`f64`, `mp prec`, `mpSqrt prec`). Theorems about
generated code are proved under a *hypothesis* on that parameter; nothing here is an axiom.
The contract comes in nested layers so that each theorem can assume the weakest one it needs
(`ContractExact` is all that C01 needs) and each layer has a proved instance: `Rounding.exact` below for the
first two, `Rounding.ieee` in `Proofs/ContractIeee.lean` and `Proofs/ContractSqrtIeee.lean`. -/

namespace Plotink

/-- a binary floating-point number with at most `p` significant bits; the exponent is unbounded -/
def Rep (p : Nat) (x : Rat) : Prop := ∃ (m e : Int), x = (m : Rat) * (2 : Rat) ^ e ∧ |m| < 2 ^ p

structure ContractExact (R : Rounding) : Prop where
  f64_exact : ∀ x, Rep 53 x → R.f64 x = x
  mp_exact : ∀ p x, Rep p x → R.mp p x = x

/-- round-to-nearest. Monotonicity only for `p ≥ 1`: a 0-bit ties-to-even grid is not monotone (0.6 ↦ 1 but 1.0 ↦ 0), and mpmath
has `prec ≥ 1`. -/
structure ContractBasic (R : Rounding) : Prop extends ContractExact R where
  f64_err : ∀ x, |R.f64 x - x| ≤ |x| / 2 ^ 53
  mp_err : ∀ p x, |R.mp p x - x| ≤ |x| / 2 ^ p
  f64_mono : ∀ x y, x ≤ y → R.f64 x ≤ R.f64 y
  mp_mono : ∀ p, 1 ≤ p → ∀ x y, x ≤ y → R.mp p x ≤ R.mp p y

structure ContractSqrt (R : Rounding) : Prop where
  sqrt_sq : ∀ p x, 0 ≤ x → 0 ≤ R.mpSqrt p x ∧ |(R.mpSqrt p x) ^ 2 - x| ≤ 3 * x / 2 ^ p
  sqrt_exact : ∀ p y, 0 ≤ y → Rep p y → R.mpSqrt p (y * y) = y

structure Contract (R : Rounding) : Prop extends ContractBasic R, ContractSqrt R

theorem rep_int (p : Nat) (n : Int) (h : |n| < 2 ^ p) : Rep p (n : Rat) :=
  ⟨n, 0, by simp, h⟩

theorem rep_half (p : Nat) (n : Int) (h : |n| < 2 ^ p) : Rep p ((n : Rat) / 2) :=
  ⟨n, -1, by rw [zpow_neg_one]; ring, h⟩

theorem rep_div_pow2 (p : Nat) (n : Int) (k : Nat) (h : |n| < 2 ^ p) : Rep p ((n : Rat) / 2 ^ k) :=
  ⟨n, -(k : Int), by rw [zpow_neg, zpow_natCast]; ring, h⟩

theorem rep_mul_pow2 (p : Nat) (n : Int) (k : Nat) (h : |n| < 2 ^ p) : Rep p ((n : Rat) * 2 ^ k) :=
  ⟨n, (k : Int), by rw [zpow_natCast], h⟩

theorem rep_neg {p : Nat} {x : Rat} (h : Rep p x) : Rep p (-x) := by
  obtain ⟨m, e, rfl, hm⟩ := h
  exact ⟨-m, e, by push_cast; ring, by rwa [abs_neg]⟩

theorem rep_mono {p q : Nat} (hpq : p ≤ q) {x : Rat} (h : Rep p x) : Rep q x := by
  obtain ⟨m, e, hx, hm⟩ := h
  refine ⟨m, e, hx, lt_of_lt_of_le hm ?_⟩
  exact pow_le_pow_right₀ (by norm_num) hpq

/-! ## dyadic values of bounded numerator

The exact stages of generated code only form integers and their quotients by powers of two. `Dy k x B` follows such a
value through `+ − · /2` with a bound on its numerator; while the bound stays below `2^p`, every rounding of `x` to
`p` bits drops out (`Dy.rep`, `Dy.mp_eq`). -/

def Dy (k : Nat) (x : Rat) (B : Int) : Prop := ∃ n : Int, x = (n : Rat) / 2 ^ k ∧ |n| ≤ B

namespace Dy
variable {k l : Nat} {x y : Rat} {B C : Int}

theorem int (n : Int) (h : |n| ≤ B) : Dy 0 (n : Rat) B := ⟨n, by rw [pow_zero, div_one], h⟩

theorem half (h : Dy k x B) : Dy (k + 1) (x / 2) B := by
  obtain ⟨n, rfl, hn⟩ := h
  exact ⟨n, by rw [div_div, pow_succ], hn⟩

theorem lift (h : Dy k x B) : Dy (k + 1) x (2 * B) := by
  obtain ⟨n, rfl, hn⟩ := h
  refine ⟨2 * n, ?_, ?_⟩
  · rw [Int.cast_mul, Int.cast_ofNat, pow_succ, mul_comm, mul_div_mul_right _ _ two_ne_zero]
  · rw [abs_mul, abs_two]; exact mul_le_mul_of_nonneg_left hn zero_le_two

theorem add (hx : Dy k x B) (hy : Dy k y C) : Dy k (x + y) (B + C) := by
  obtain ⟨n, rfl, hn⟩ := hx
  obtain ⟨m, rfl, hm⟩ := hy
  exact ⟨n + m, by rw [Int.cast_add, add_div], (abs_add_le n m).trans (add_le_add hn hm)⟩

theorem sub (hx : Dy k x B) (hy : Dy k y C) : Dy k (x - y) (B + C) := by
  obtain ⟨n, rfl, hn⟩ := hx
  obtain ⟨m, rfl, hm⟩ := hy
  exact ⟨n - m, by rw [Int.cast_sub, sub_div], (abs_sub n m).trans (add_le_add hn hm)⟩

theorem mul (hx : Dy k x B) (hy : Dy l y C) : Dy (k + l) (x * y) (B * C) := by
  obtain ⟨n, rfl, hn⟩ := hx
  obtain ⟨m, rfl, hm⟩ := hy
  refine ⟨n * m, by rw [Int.cast_mul, pow_add, div_mul_div_comm], ?_⟩
  rw [abs_mul]; exact mul_le_mul hn hm (abs_nonneg _) ((abs_nonneg _).trans hn)

theorem div_pow (h : Dy k x B) (j : Nat) : Dy (k + j) (x / 2 ^ j) B := by
  obtain ⟨n, rfl, hn⟩ := h
  exact ⟨n, by rw [div_div, pow_add], hn⟩

theorem one_half : Dy 1 ((1 : Rat) / 2) 1 := ⟨1, by norm_num, by norm_num⟩

theorem abs_le (h : Dy k x B) : |x| ≤ (B : Rat) := by
  obtain ⟨n, rfl, hn⟩ := h
  rw [abs_div, abs_of_pos (by positivity : (0 : Rat) < 2 ^ k), ← Int.cast_abs]
  exact (div_le_self (by positivity) (one_le_pow₀ one_le_two)).trans (by exact_mod_cast hn)

theorem rep {p : Nat} (h : Dy k x B) (hB : B < 2 ^ p) : Rep p x := by
  obtain ⟨n, rfl, hn⟩ := h
  exact rep_div_pow2 p n k (hn.trans_lt hB)

/-- 103 bits is `mp.dps = 30` of `ebb_calc` (`dpsToPrec_30` in `Proofs/NumExact.lean`) -/
theorem mp_eq {R : Rounding} (hR : ContractExact R) (h : Dy k x B) (hB : B < 2 ^ 103 := by norm_num) :
    R.mp 103 x = x :=
  hR.mp_exact 103 x (h.rep hB)

end Dy

theorem math_sqrt_int_sq {R : Rounding} (hR : Contract R) (c : Int) (hc0 : 0 ≤ c) (hc : c < 2 ^ 26) :
    Py.math_sqrt R (.int (c * c)) = .flt (c : Rat) := by
  have hcc : 0 ≤ c * c := mul_nonneg hc0 hc0
  have hlt : c * c < 2 ^ 53 := lt_trans (mul_lt_mul'' hc hc hc0 hc0) (by norm_num)
  simp only [Py.math_sqrt]
  rw [if_neg (not_lt.mpr hcc), hR.f64_exact _ (rep_int 53 (c * c) (by rwa [abs_of_nonneg hcc])), Int.cast_mul,
    hR.sqrt_exact 53 (c : Rat) (by exact_mod_cast hc0)
      (rep_int 53 c (by rw [abs_of_nonneg hc0]; exact lt_trans hc (by norm_num)))]

theorem contractBasic_exact : ContractBasic Rounding.exact where
  f64_exact := fun _ _ => rfl
  mp_exact := fun _ _ _ => rfl
  f64_err := fun x => by
    simp only [Rounding.exact, id, sub_self, abs_zero]; positivity
  mp_err := fun p x => by
    simp only [Rounding.exact, id, sub_self, abs_zero]; positivity
  f64_mono := fun _ _ h => h
  mp_mono := fun _ _ _ _ h => h

theorem contractExact_exact : ContractExact Rounding.exact := contractBasic_exact.toContractExact

end Plotink
