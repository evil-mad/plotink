import Plotink.Model.Ebb3
/-!
# The methods are parametric in the device

Every method body of `Model/Ebb3.lean` is built from `pure`, `raise`, `>>=` (the decoders use nothing else), `getSt`,
`recordError`, updates of the attributes other than `err` (the helper methods use nothing else), case analysis on
values, and the three port primitives of its device.  `ExcRel`, `StRel`, `DevRel D₁ D₂` are the relations between
computations over two devices that these three sets of constructors respect.  One walk over the bodies, each
definition at the level it needs, ends in `StRel.run_helper` (the helper methods and `disconnect`) and `DevRel.run`:
such a relation holds between the two runs of every public method.  Simulation statements (`Replay`, `Proj`) are
instances; a predicate on computations over one device is a relation that ignores its second argument (`Inert` is an
`ExcRel`, `NoIO` an `StRel`, `KeepsErr` a `DevRel`).  An instance is the structure with its fields proved (three, six
or nine closure lemmas: `keepsErrRel` in `Proofs/C04Latch.lean` is the shortest); what it gets is the lemma of this
file named after the definition it needs (`L.exchange`, `L.commandCore`, …, `L.run`).  Core Lean only.
-/
namespace Plotink
namespace Ebb3
open M

/-- a relation between computations respected by what the decoders are built from -/
structure ExcRel (σ₁ σ₂ : Type) where
  R : ∀ {α : Type}, M σ₁ α → M σ₂ α → Prop
  pure : ∀ {α : Type} (a : α), R (Pure.pure a) (Pure.pure a)
  raise : ∀ {α : Type} (e : PyExc), R (M.raise e : M σ₁ α) (M.raise e)
  bind : ∀ {α β : Type} {x : M σ₁ α} {y : M σ₂ α} {f : α → M σ₁ β} {g : α → M σ₂ β},
    R x y → (∀ a, R (f a) (g a)) → R (x >>= f) (y >>= g)

namespace ExcRel
variable {σ₁ σ₂ : Type} (L : ExcRel σ₁ σ₂) {α : Type}

theorem ite {c : Prop} [inst : Decidable c] {x x' : M σ₁ α} {y y' : M σ₂ α} (h : L.R x y) (h' : L.R x' y') :
    L.R (if c then x else x') (if c then y else y') := by
  cases inst with
  | isTrue _ => exact h
  | isFalse _ => exact h'

theorem ofOption (e : PyExc) : ∀ o : Option α, L.R (ofOption e o) (ofOption e o)
  | some a => L.pure a
  | .none => L.raise e

theorem intOfVal (v : Val) : L.R (intOfVal v) (intOfVal v) := by
  cases v with
  | str s =>
    dsimp only [Ebb3.intOfVal]
    cases pyInt 10 s with
    | none => exact L.raise _
    | some z => exact L.pure _
  | int z => exact L.pure _
  | bool b => exact L.pure _
  | _ => exact L.raise _

theorem qeDecode (l : List Str) : L.R (qeDecode l) (qeDecode l) :=
  L.bind (L.ofOption _ _) fun _ => L.bind (L.ofOption _ _) fun _ =>
    match l with
    | [] | [_] => L.raise _
    | _ :: _ :: _ => L.bind (L.ofOption _ _) fun _ => L.bind (L.ofOption _ _) fun _ => L.pure _

theorem int2 (l : List Str) : L.R (int2 l) (int2 l) :=
  L.bind (L.ofOption _ _) fun _ =>
    match l with
    | [] | [_] => L.raise _
    | _ :: _ :: _ => L.bind (L.ofOption _ _) fun _ => L.pure _

theorem boolOfStr (s : Str) : L.R (boolOfStr s) (boolOfStr s) := by
  unfold Ebb3.boolOfStr
  cases pyInt 10 s with
  | some z => exact L.pure _
  | none => exact L.raise _

theorem voltageDecode (th : Int) : ∀ x : Str × Option Str, L.R (voltageDecode th x) (voltageDecode th x)
  | (_, .none) => L.pure _
  | (_, some s1) => by
    dsimp only [Ebb3.voltageDecode]
    cases pyInt 10 s1 with
    | some v => exact L.pure _
    | none => exact L.raise _

theorem currentDecode : ∀ x : Str × Option Str, L.R (currentDecode x) (currentDecode x)
  | (_, .none) => L.pure _
  | (_, some _) => L.bind (L.ofOption _ _) fun _ => L.bind (L.ofOption _ _) fun _ => L.pure _

end ExcRel

/-- … and by reading the attributes, recording an error, updating the other attributes -/
structure StRel (σ₁ σ₂ : Type) extends ExcRel σ₁ σ₂ where
  getSt : R M.getSt M.getSt
  recordError : ∀ m : Str, R (recordError m) (recordError m)
  setAttr : ∀ f : St → St, (∀ st, (f st).err = st.err) → R (modifySt f) (modifySt f)

/-- the guard, written with what every `StRel` respects -/
theorem guardM_eq {σ : Type} (fv : Val) (body : M σ Val) :
    guardM fv body = getSt >>= fun st => if st.blocked then pure fv else body := by
  funext w
  show (if w.st.blocked then _ else _) = (if w.st.blocked then pure fv else body) w
  cases w.st.blocked <;> rfl

namespace StRel
variable {σ₁ σ₂ : Type} (L : StRel σ₁ σ₂) (P : Params)

theorem disconnectM : L.R disconnectM disconnectM := L.setAttr _ fun _ => rfl

theorem setName (n : Str) : L.R (setName n) (setName n) := L.setAttr _ fun _ => rfl

theorem guardM (fv : Val) {x : M σ₁ Val} {y : M σ₂ Val} (h : L.R x y) : L.R (guardM fv x) (guardM fv y) := by
  rw [guardM_eq, guardM_eq]
  exact L.bind L.getSt fun _ => L.ite (L.pure fv) h

theorem prog {p₁ : Prog σ₁} {p₂ : Prog σ₂} (hg : p₁.guard = p₂.guard) (hb : L.R p₁.body p₂.body) :
    L.R p₁.run p₂.run := by
  unfold Prog.run
  rw [← hg]
  cases p₁.guard with
  | none => exact hb
  | some fv => exact L.guardM fv hb

theorem commandJudge (cmd name : Str) : ∀ r : Option Str, L.R (commandJudge P cmd name r) (commandJudge P cmd name r)
  | .none => L.ite (L.pure _) (L.recordError _)
  | some _ => L.bind (L.ite (L.pure _) (L.ite (L.recordError _) (L.recordError _))) fun _ =>
      L.ite (L.recordError _) (L.pure _)

theorem errIsNone : L.R errIsNone errIsNone := L.bind L.getSt fun _ => L.pure _

theorem queryJudge (q name resp : Str) : L.R (queryJudge q name resp) (queryJudge q name resp) :=
  L.ite (L.bind (L.ite (L.recordError _) (L.recordError _)) fun _ => L.pure _) (L.pure _)

theorem qgUsbFail : L.R qgUsbFail qgUsbFail := L.bind (L.recordError _) fun _ => L.pure _

theorem qgJudge (resp : Str) : L.R (qgJudge resp) (qgJudge resp) := by
  unfold Ebb3.qgJudge
  refine L.ite (L.bind (L.ite (L.recordError _) (L.recordError _)) fun _ => L.pure _)
    (L.ite (L.bind (L.recordError _) fun _ => L.pure _) ?_)
  cases pyInt 16 (resp.drop 3) <;> exact L.pure _

theorem setVersion (v : Str) : L.R (setVersion v) (setVersion v) :=
  L.bind (L.setAttr _ fun _ => rfl) fun _ => by
    cases parseRelease v with
    | some r => exact L.setAttr _ fun _ => rfl
    | none => exact L.raise _

theorem parseVersionM (s : Str) : L.R (parseVersionM s) (parseVersionM s) := by
  unfold Ebb3.parseVersionM
  cases splitSub1 "Firmware Version ".toList s with
  | none => exact L.pure _
  | some ab => exact L.setVersion _

theorem minVersionM (vs : Str) : L.R (minVersionM vs) (minVersionM vs) := by
  unfold Ebb3.minVersionM
  cases parseRelease vs with
  | none => exact L.pure _
  | some want =>
    refine L.bind L.getSt fun st => ?_
    cases st.versionParsed with
    | none => exact L.raise _
    | some h => exact L.pure _

theorem getPortName (given found : Option Str) : L.R (getPortName given found) (getPortName given found) :=
  L.bind (L.setAttr _ fun _ => rfl) fun _ => L.ite (L.recordError _) (L.pure _)

theorem probeFail (pn : Str) : L.R (probeFail pn) (probeFail pn) :=
  L.bind (L.recordError _) fun _ => L.bind L.disconnectM fun _ => L.pure _

theorem setCaller (caller : Option Str) : L.R (setCaller caller) (setCaller caller) :=
  L.ite (L.setAttr _ fun _ => rfl) (L.pure _)

theorem connectFailed (pn : Str) : L.R (connectFailed pn) (connectFailed pn) :=
  L.bind (L.recordError _) fun _ => L.bind L.disconnectM fun _ => L.pure _

theorem run_helper {D₁ : Device σ₁} {D₂ : Device σ₂} (c : Call)
    (hc : c.method.isHelper = true ∨ c.method = .disconnect) : L.R (run P D₁ c) (run P D₂ c) := by
  cases c
  case find_first f => exact L.prog rfl <| L.bind (L.setAttr _ fun _ => rfl) fun _ => L.pure _
  case record_error m => exact L.prog rfl <| L.bind (L.recordError m) fun _ => L.pure _
  case parse_version s => exact L.prog rfl <| L.bind (L.parseVersionM s) fun _ => L.pure _
  case disconnect => exact L.prog rfl <| L.bind L.disconnectM fun _ => L.pure _
  case min_version v => exact L.prog rfl (L.minVersionM v)
  all_goals rcases hc with h | h <;> cases h

end StRel

/-- … and by the three port primitives of the two devices -/
structure DevRel {σ₁ σ₂ : Type} (D₁ : Device σ₁) (D₂ : Device σ₂) extends StRel σ₁ σ₂ where
  write : ∀ t : Str, R (portWrite D₁ t) (portWrite D₂ t)
  read : R (portRead D₁) (portRead D₂)
  reset : R (portReset D₁) (portReset D₂)

namespace DevRel
variable {σ₁ σ₂ : Type} {D₁ : Device σ₁} {D₂ : Device σ₂} (L : DevRel D₁ D₂) (P : Params)

theorem readLoop : ∀ n : Nat, L.R (readLoop D₁ n) (readLoop D₂ n)
  | 0 => L.pure _
  | n + 1 => L.bind L.read fun r =>
    match r with
    | .none => L.pure _
    | some _ => L.ite (readLoop n) (L.pure _)

theorem exchange (retry : Nat) (t : Str) : L.R (exchange D₁ retry t) (exchange D₂ retry t) :=
  L.bind (L.write _) fun _ => L.ite (L.readLoop _) (L.pure _)

theorem commandCore (cmd : Str) : L.R (commandCore P D₁ cmd) (commandCore P D₂ cmd) := by
  unfold Ebb3.commandCore
  cases cmdName cmd with
  | error e => exact L.raise e
  | ok name => exact L.bind (L.exchange _ _) fun _ => L.bind (L.commandJudge P _ _ _) fun _ => L.errIsNone

theorem commandRun (c : Option Str) : L.R (commandP P D₁ c).run (commandP P D₂ c).run :=
  L.prog rfl <| match c with
    | .none => L.pure _
    | some _ => L.commandCore P _

theorem queryCore (q : Str) : L.R (queryCore P D₁ q) (queryCore P D₂ q) := by
  unfold Ebb3.queryCore
  cases cmdName q with
  | error e => exact L.raise e
  | ok name =>
    refine L.bind (L.exchange _ _) fun r => ?_
    cases r with
    | some resp => exact L.queryJudge _ _ _
    | none => exact L.ite (L.queryJudge _ _ _) (L.bind (L.recordError _) fun _ => L.pure _)

theorem queryRun (q : Option Str) : L.R (queryP P D₁ q).run (queryP P D₂ q).run :=
  L.prog rfl <| match q with
    | .none => L.pure _
    | some _ => L.queryCore P _

theorem queryStatusByteBody : L.R (queryStatusByteBody D₁) (queryStatusByteBody D₂) :=
  L.bind (L.write _) fun _ => L.ite
    (L.bind L.read fun r => match r with
      | .none => L.qgUsbFail
      | some _ => L.qgJudge _)
    L.qgUsbFail

theorem rawCloseBody (t : Str) : L.R (rawCloseBody D₁ t) (rawCloseBody D₂ t) :=
  L.bind (L.write t) fun _ => L.ite (L.bind L.disconnectM fun _ => L.pure _) (L.pure _)

theorem queryNicknameRun : L.R (queryNicknameP P D₁).run (queryNicknameP P D₂).run :=
  L.prog rfl <| L.bind (L.queryRun P _) fun r => by
    cases r with
    | str raw => exact L.bind (L.ite (L.pure _) (L.setName _)) fun _ => L.pure _
    | _ => exact L.pure _

theorem writeNicknameRun (n : Option Str) : L.R (writeNicknameP P D₁ n).run (writeNicknameP P D₂ n).run := by
  refine L.prog rfl ?_
  cases n with
  | none => exact L.pure _
  | some n0 =>
    refine L.bind (L.commandRun P _) fun r => ?_
    cases r with
    | bool b =>
      cases b with
      | true => exact L.bind (L.setName _) fun _ => L.pure _
      | false => exact L.pure _
    | _ => exact L.pure _

theorem varWriteRun (v i : Int) : L.R (varWriteP P D₁ v i).run (varWriteP P D₂ v i).run :=
  L.prog rfl <| L.bind (L.commandRun P _) fun _ => L.errIsNone

theorem varReadRun (i : Int) : L.R (varReadP P D₁ i).run (varReadP P D₂ i).run :=
  L.prog rfl <| L.bind (L.queryRun P _) fun _ => L.bind L.getSt fun _ => L.ite (L.pure _) (L.intOfVal _)

theorem varWriteInt32Run (v i : Int) : L.R (varWriteInt32P P D₁ v i).run (varWriteInt32P P D₂ v i).run := by
  refine L.prog rfl ?_
  unfold varWriteInt32P
  cases toBytes4 v with
  | error e => exact L.raise e
  | ok b =>
    exact L.bind (L.varWriteRun P _ _) fun _ => L.bind (L.varWriteRun P _ _) fun _ =>
      L.bind (L.varWriteRun P _ _) fun _ => L.bind (L.varWriteRun P _ _) fun _ => L.errIsNone

theorem varReadInt32Run (i : Int) : L.R (varReadInt32P P D₁ i).run (varReadInt32P P D₂ i).run :=
  L.prog rfl <| L.bind (L.varReadRun P _) fun a => L.bind (L.varReadRun P _) fun b =>
    L.bind (L.varReadRun P _) fun c => L.bind (L.varReadRun P _) fun d => L.bind L.getSt fun _ =>
      L.ite (L.pure _) <| by
        cases fromBytes4 a b c d with
        | ok z => exact L.pure _
        | error e => exact L.raise e

theorem probe : L.R (probe D₁) (probe D₂) :=
  L.bind (L.write _) fun _ => L.ite
    (L.bind L.read fun r => match r with
      | some _ => L.pure _
      | .none => L.pure _)
    (L.pure _)

theorem identify (pn : Str) (openOk : Bool) : L.R (identify D₁ pn openOk) (identify D₂ pn openOk) :=
  L.ite
    (L.bind (L.setAttr _ fun _ => rfl) fun _ => L.bind L.reset fun _ => L.bind L.probe fun p1 =>
      match p1 with
      | .none => L.probeFail pn
      | some _ => L.ite (L.pure _) <| L.bind L.probe fun p2 =>
        match p2 with
        | .none => L.probeFail pn
        | some _ => L.ite (L.pure _) (L.pure _))
    (L.probeFail pn)

theorem enterFuture (caller : Option Str) : L.R (enterFuture P D₁ caller) (enterFuture P D₂ caller) :=
  L.bind (L.write _) fun _ => L.ite
    (L.bind L.read fun r => match r with
      | .none => L.raise _
      | some _ => L.bind L.reset fun _ => L.bind (L.queryNicknameRun P) fun _ =>
        L.bind (L.setCaller caller) fun _ => L.pure _)
    (L.raise _)

theorem checkVersion (caller : Option Str) (sv : Str) :
    L.R (checkVersion P D₁ caller sv) (checkVersion P D₂ caller sv) :=
  L.bind (L.parseVersionM sv) fun _ => L.bind (L.minVersionM _) fun _ => L.ite (L.enterFuture P caller) <|
    L.bind L.getSt fun _ => L.bind (L.recordError _) fun _ => L.pure _

theorem connectBody (given caller found : Option Str) (openOk : Bool) :
    L.R (connectBody P D₁ given caller found openOk) (connectBody P D₂ given caller found openOk) :=
  L.bind L.getSt fun _ => L.ite (L.pure _) <| L.bind (L.getPortName given found) fun _ =>
    match found with
    | .none => L.pure _
    | some pn => L.bind (L.identify pn openOk) fun v =>
      match v with
      | .none => L.connectFailed pn
      | some sv => L.checkVersion P caller sv

theorem cmd_ (t : Str) : L.R (cmd_ P D₁ t) (cmd_ P D₂ t) := L.bind (L.commandRun P _) fun _ => L.pure _

theorem runCmds : ∀ l : List Str, L.R (runCmds P D₁ l) (runCmds P D₂ l)
  | [] => L.pure _
  | c :: cs => L.bind (L.cmd_ P c) fun _ => runCmds cs

/-- shape shared by the decoding methods: behind the guard `query`, then a decoder on the text -/
theorem decodeRun (q : Str) {dec₁ : Str → M σ₁ Val} {dec₂ : Str → M σ₂ Val} (fv : Val)
    (hdec : ∀ s, L.R (dec₁ s) (dec₂ s)) :
    L.R (⟨some fv, (queryP P D₁ (some q)).run >>= fun r => match r with | .str s => dec₁ s | _ => pure fv⟩ : Prog σ₁).run
      (⟨some fv, (queryP P D₂ (some q)).run >>= fun r => match r with | .str s => dec₂ s | _ => pure fv⟩ : Prog σ₂).run :=
  L.prog rfl <| L.bind (L.queryRun P _) fun r => by
    cases r with
    | str s => exact hdec s
    | _ => exact L.pure _

theorem motorsQueryEnabledRun : L.R (motorsQueryEnabledP P D₁).run (motorsQueryEnabledP P D₂).run :=
  L.decodeRun P _ _ fun _ => L.qeDecode _

theorem motorsEnableCore (a b : Int) : L.R (motorsEnableCore P D₁ a b) (motorsEnableCore P D₂ a b) :=
  L.bind (L.ite (L.cmd_ P _) (L.pure _)) fun _ => L.ite
    (L.bind (L.motorsQueryEnabledRun P) fun mr => by
      split
      · exact L.bind (L.ite (L.cmd_ P _) (L.pure _)) fun _ => L.bind (L.cmd_ P _) fun _ => L.pure _
      · exact L.pure _)
    (L.bind (L.cmd_ P _) fun _ => L.pure _)

theorem queryStepsRun : L.R (queryStepsP P D₁).run (queryStepsP P D₂).run :=
  L.prog rfl <| L.bind (L.queryRun P _) fun r => L.bind L.getSt fun _ => L.ite (L.pure _) <| by
    cases r with
    | str s => exact L.int2 _
    | _ => exact L.raise _

theorem run : ∀ c : Call, L.R (run P D₁ c) (run P D₂ c)
  | .find_first _ | .record_error _ | .parse_version _ | .min_version _ => L.run_helper P _ (Or.inl rfl)
  | .disconnect => L.run_helper P _ (Or.inr rfl)
  | .reboot | .bootload => L.prog rfl (L.rawCloseBody _)
  | .query_nickname => L.queryNicknameRun P
  | .write_nickname _ => L.writeNicknameRun P _
  | .connect .. => L.prog rfl (L.connectBody P ..)
  | .command _ => L.commandRun P _
  | .query _ => L.queryRun P _
  | .query_statusbyte => L.prog rfl L.queryStatusByteBody
  | .var_write .. => L.varWriteRun P ..
  | .var_read _ => L.varReadRun P _
  | .var_write_int32 .. => L.varWriteInt32Run P ..
  | .var_read_int32 _ => L.varReadInt32Run P _
  | .timed_pause _ => L.prog rfl <| L.bind (L.runCmds P _) fun _ => L.pure _
  | .motors_enable .. => L.prog rfl (L.motorsEnableCore P _ _)
  | .motors_query_enabled => L.motorsQueryEnabledRun P
  | .query_steps => L.queryStepsRun P
  | .dio_b_config .. => L.prog rfl <| L.bind (L.cmd_ P _) fun _ => L.bind (L.cmd_ P _) fun _ => L.pure _
  | .dio_b_read _ => L.decodeRun P _ _ L.boolOfStr
  | .query_voltage _ => L.decodeRun P _ _ fun _ => L.voltageDecode _ _
  | .query_current => L.decodeRun P _ _ fun _ => L.currentDecode _
  | .xy_move .. | .abs_move .. | .motors_disable | .clear_steps | .clear_accumulators | .pen_lower .. | .pen_raise ..
  | .dio_b_set .. | .pen_pos_down _ | .pen_pos_up _ | .pen_rate_down _ | .pen_rate_up _ | .servo_timeout .. =>
    L.prog rfl <| L.bind (L.cmd_ P _) fun _ => L.pure _

end DevRel
end Ebb3
end Plotink
