import Plotink.Proofs.FwAlg

/-! # C17 — the peak of `|quadratic|` on an integer interval

`f k = V + j·(k − t)²` with `j > 0` (a parabola opening upward, vertex at the rational `t`). On
`1 ≤ k ≤ T` it is at most `max (f 1) (f T)`; and it is at least `m − 2j` where `m` is the value at
an end point or at an integer `c` near the vertex, in each of the three situations the code
distinguishes. All statements are over `Rat`; `k`, `c`, `T` are integers. -/

namespace Plotink
namespace T3

theorem quad_upper (V j t : Rat) (hj : 0 ≤ j) (T k : Int) (hk1 : 1 ≤ k) (hkT : k ≤ T) :
    V + j * ((k : Rat) - t) ^ 2 ≤ max (V + j * ((1 : Rat) - t) ^ 2) (V + j * ((T : Rat) - t) ^ 2) := by
  have hk1' : (0 : Rat) ≤ k - 1 := sub_nonneg.2 (by exact_mod_cast hk1)
  have hkT' : (0 : Rat) ≤ T - k := sub_nonneg.2 (by exact_mod_cast hkT)
  by_cases h : 0 ≤ (k : Rat) + T - 2 * t
  · -- `(T-t)² − (k-t)² = (T-k)·(k+T-2t)`
    have := mul_nonneg hj (mul_nonneg hkT' h)
    exact le_trans (by linear_combination this) (le_max_right _ _)
  · -- `(1-t)² − (k-t)² = (k-1)·(2t-k-1)`
    have := mul_nonneg hj (mul_nonneg hk1' (show 0 ≤ 2 * t - k - 1 by linarith only [not_le.mp h, hkT', hk1']))
    exact le_trans (by linear_combination this) (le_max_left _ _)

/-- the three situations of `max_rate_t3` (`j > 0`): a probe `c` within 5/4 of the vertex, or the
vertex at most 7/4, or the vertex at least `T − 3/2` -/
theorem quad_lower (V j t : Rat) (hj : 0 < j) (T k : Int) (hk1 : 1 ≤ k) (hkT : k ≤ T) (m : Rat)
    (h : (∃ c : Int, |(c : Rat) - t| ≤ 5 / 4 ∧ m ≤ V + j * ((c : Rat) - t) ^ 2) ∨
         (t ≤ 7 / 4 ∧ m ≤ V + j * ((1 : Rat) - t) ^ 2) ∨
         ((T : Rat) - 3 / 2 ≤ t ∧ m ≤ V + j * ((T : Rat) - t) ^ 2)) :
    m - 2 * j ≤ V + j * ((k : Rat) - t) ^ 2 := by
  have hk1' : (0 : Rat) ≤ k - 1 := sub_nonneg.2 (by exact_mod_cast hk1)
  have hkT' : (0 : Rat) ≤ T - k := sub_nonneg.2 (by exact_mod_cast hkT)
  rcases h with ⟨c, hc, hm⟩ | ⟨ht, hm⟩ | ⟨ht, hm⟩
  · -- `(c-t)² ≤ 25/16 < 2` and `0 ≤ (k-t)²`
    rw [abs_le] at hc
    have p1 := mul_nonneg hj.le (mul_nonneg (sub_nonneg.mpr hc.2) (neg_le_iff_add_nonneg'.mp hc.1))
    have p2 := mul_nonneg hj.le (sq_nonneg ((k : Rat) - t))
    linear_combination p1 + p2 + hm + (7 / 16) * hj
  · -- `f k − f 1 = j·(k-1)·(k+1-2t) ≥ j·(k-1)·(k-5/2) = j·((k-7/4)² − 9/16)`
    have p1 := mul_nonneg hj.le (mul_nonneg hk1' (show 0 ≤ 7 / 2 - 2 * t by linarith only [ht]))
    have p2 := mul_nonneg hj.le (sq_nonneg ((k : Rat) - 7 / 4))
    linear_combination p1 + p2 + hm + (23 / 16) * hj
  · -- `f k − f T = j·n·(2t-k-T) ≥ j·n·(n-3) ≥ −2j` for the integer `n = T − k ≥ 0`
    have hn : (0 : Int) ≤ (T - k - 1) * (T - k - 2) := by
      rcases le_or_gt (T - k - 1) 0 with h | h
      · exact mul_nonneg_of_nonpos_of_nonpos h (by omega)
      · exact mul_nonneg h.le (by omega)
    have hn' : (0 : Rat) ≤ ((T : Rat) - k - 1) * ((T : Rat) - k - 2) := by exact_mod_cast hn
    have p1 := mul_nonneg hj.le (mul_nonneg hkT' (show 0 ≤ 2 * t - 2 * T + 3 by linarith only [ht]))
    have p2 := mul_nonneg hj.le hn'
    linear_combination p1 + p2 + hm

theorem quad_short_pos (V j t : Rat) (hj : 0 < j) (T k : Int) (hk1 : 1 ≤ k) (hkT : k ≤ T) (res : Rat)
    (h1 : |V + j * ((1 : Rat) - t) ^ 2| ≤ res) (hT : |V + j * ((T : Rat) - t) ^ 2| ≤ res)
    (h : (∃ c : Int, |(c : Rat) - t| ≤ 5 / 4 ∧ |V + j * ((c : Rat) - t) ^ 2| ≤ res) ∨
         t ≤ 7 / 4 ∨ (T : Rat) - 3 / 2 ≤ t) :
    |V + j * ((k : Rat) - t) ^ 2| ≤ res + 2 * j := by
  rw [abs_le] at h1 hT
  have up := quad_upper V j t hj.le T k hk1 hkT
  have lo := quad_lower V j t hj T k hk1 hkT (-res) (by
    rcases h with ⟨c, hc, hm⟩ | ht | ht
    · exact Or.inl ⟨c, hc, (abs_le.mp hm).1⟩
    · exact Or.inr (Or.inl ⟨ht, h1.1⟩)
    · exact Or.inr (Or.inr ⟨ht, hT.1⟩))
  have hmax := max_le h1.2 hT.2
  rw [abs_le]
  constructor <;> linarith only [up, lo, hmax, hj]

theorem quad_short (V j t : Rat) (hj : j ≠ 0) (T k : Int) (hk1 : 1 ≤ k) (hkT : k ≤ T) (res : Rat)
    (h1 : |V + j * ((1 : Rat) - t) ^ 2| ≤ res) (hT : |V + j * ((T : Rat) - t) ^ 2| ≤ res)
    (h : (∃ c : Int, |(c : Rat) - t| ≤ 5 / 4 ∧ |V + j * ((c : Rat) - t) ^ 2| ≤ res) ∨
         t ≤ 7 / 4 ∨ (T : Rat) - 3 / 2 ≤ t) :
    |V + j * ((k : Rat) - t) ^ 2| ≤ res + 2 * |j| := by
  rcases lt_or_gt_of_ne hj with hneg | hpos
  · have e : ∀ x : Rat, |-V + -j * x| = |V + j * x| := fun x => by rw [← abs_neg]; congr 1; ring
    have := quad_short_pos (-V) (-j) t (neg_pos.2 hneg) T k hk1 hkT res (by rwa [e]) (by rwa [e])
      (by simpa only [e] using h)
    rwa [e, ← abs_of_neg hneg] at this
  · rw [abs_of_pos hpos]; exact quad_short_pos V j t hpos T k hk1 hkT res h1 hT h

theorem lin_short (q a : Rat) (T k : Int) (hk1 : 1 ≤ k) (hkT : k ≤ T) (res : Rat)
    (h1 : |q + (1 : Rat) * a| ≤ res) (hT : |q + (T : Rat) * a| ≤ res) : |q + (k : Rat) * a| ≤ res := by
  have hk1' : (0 : Rat) ≤ k - 1 := sub_nonneg.2 (by exact_mod_cast hk1)
  have hkT' : (0 : Rat) ≤ T - k := sub_nonneg.2 (by exact_mod_cast hkT)
  rw [abs_le] at h1 hT ⊢
  rcases le_total 0 a with ha | ha
  · have p1 := mul_nonneg hk1' ha
    have pT := mul_nonneg hkT' ha
    exact ⟨by linear_combination h1.1 + p1, by linear_combination hT.2 + pT⟩
  · have p1 := mul_nonneg hk1' (neg_nonneg.2 ha)
    have pT := mul_nonneg hkT' (neg_nonneg.2 ha)
    exact ⟨by linear_combination hT.1 + pT, by linear_combination h1.2 + p1⟩

end T3
end Plotink
