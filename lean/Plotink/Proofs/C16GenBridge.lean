import Plotink.Proofs.C16GenMethods
import Plotink.Proofs.C16Spec
/-! C16 ↔ regenerated code, over the script-producing device defined from the board (`boardReads`, `Proofs/C16Link.lean`:
the reply lines of `boardRecv` to the request lines, in order).  `genOp_trace`: on the script the board produces for
`opReqs`, each regenerated method returns the value of `Spec.step`, writes exactly `opReqs` and consumes exactly those
replies.  With `runOp_trace` that is the bridge to the model (`gen_op_bridge`, `gen_ops_bridge` for histories); with
`after_opReqs` the statement about the specification alone (`gen_op_spec`). -/
namespace Plotink.C16
open PyObj Gen

/-- model values as values of the regenerated code (`motors_query_enabled`'s pair is a 2-tuple) -/
def encVal : C16.Val → PyObj.Val
  | .none => .none
  | .bool b => .bool b
  | .int z => .int z
  | .pair a b => .tuple [.int a, .int b]

def encName : Option Str → PyObj.Val
  | none => .none
  | some s => .str s

/-- the object after an operation: only the two nickname methods assign an attribute (`self.name`) -/
def objAfter (obj : EBB3_Obj) (b : Board) : Op → EBB3_Obj
  | .writeNick s => { obj with name := .str (strip s) }
  | .queryNick => { obj with name := .str (strip b.name) }
  | _ => obj

theorem readyObj_objAfter {obj : EBB3_Obj} (h : ReadyObj obj) (b : Board) (op : Op) : ReadyObj (objAfter obj b op) := by
  cases op <;> exact h

/-- `Inv` plus: the stored name is ASCII (it travels through `decode('ascii')`) -/
def InvG (w : World) : Prop := Inv w ∧ PyIO.isAscii w.board.name = true

def genOp (fuel : Nat) : Op → PyObj.World EBB3_Obj → Out EBB3_Obj
  | .varWrite v i => EBB3_var_write fuel (.int v) (.int i)
  | .varRead i => EBB3_var_read fuel (.int i)
  | .writeInt32 v i => EBB3_var_write_int32 fuel (.int v) (.int i)
  | .readInt32 i => EBB3_var_read_int32 fuel (.int i)
  | .motorsEnable r1 r2 => EBBMotionWrap_motors_enable fuel (.int r1) (.int r2)
  | .motorsQuery => EBBMotionWrap_motors_query_enabled fuel
  | .writeNick s => EBB3_write_nickname fuel (.str s)
  | .queryNick => EBB3_query_nickname fuel

/-- what `query_nickname` needs of the stored name (the other operations need nothing) -/
def NameReq (w : World) : Op → Prop
  | .queryNick => isInfix sErr w.board.name = false ∧ PyIO.isAscii w.board.name = true
  | _ => True

def OpBridge (w : World) (op : Op) (obj : EBB3_Obj) : Prop :=
  ∃ reqs v py',
    runOp w op = .ok (v, ⟨py', boardAfter w.board reqs, reqs.reverse ++ w.sent⟩) ∧
    (obj.name = encName w.py.name → (objAfter obj w.board op).name = encName py'.name) ∧
    ∀ (fuel : Nat) (ext : Ext) (tl : List PyIO.Rd) (log : List (List Char)) (n : Nat),
      genOp (fuel + 1) op ⟨obj, ⟨boardReads w.board reqs ++ tl, [], log, n⟩, ext⟩ =
        .val (encVal v) ⟨objAfter obj w.board op, ⟨tl, [], log ++ reqs.map (· ++ ['\r']), n + reqs.length⟩, ext⟩

theorem genOp_trace {b : Board} (hwf : b.WF) (nm : Option Str) (op : Op) (hop : OpOK op)
    (hnm : op = .queryNick → isInfix sErr b.name = false ∧ PyIO.isAscii b.name = true)
    (fuel : Nat) (c : Conv) (rest : List PyIO.Rd) :
    genOp (fuel + 1) op (c.world (boardReads b (opReqs b op) ++ rest)) =
      .val (encVal (Spec.step ⟨b, nm⟩ op).1) ⟨objAfter c.obj b op, ((c.sent (opReqs b op)).world rest).port, c.ext⟩ := by
  cases op with
  | varWrite v i =>
    obtain ⟨vn, rfl⟩ := Int.eq_ofNat_of_zero_le hop.1.1
    obtain ⟨k, rfl⟩ := Int.eq_ofNat_of_zero_le hop.2.1
    exact gen_var_write fuel c hwf (by have := hop.1.2; omega) (by have := hop.2.2; omega) [] rest
  | varRead i =>
    obtain ⟨k, rfl⟩ := Int.eq_ofNat_of_zero_le hop.1
    exact gen_var_read fuel c hwf (by have := hop.2; omega) [] rest
  | writeInt32 v i =>
    obtain ⟨k, rfl⟩ := Int.eq_ofNat_of_zero_le hop.2.1
    exact gen_var_write_int32 fuel c hwf hop.1 (by have := hop.2.2; omega) rest
  | readInt32 i =>
    obtain ⟨k, rfl⟩ := Int.eq_ofNat_of_zero_le hop.1
    exact gen_var_read_int32 fuel c hwf (by have := hop.2; omega) rest
  | motorsEnable r1 r2 => exact gen_motors_enable fuel c hwf.mode r1 r2 rest
  | motorsQuery => exact gen_motors_query_enabled fuel c hwf.mode [] rest
  | writeNick s => exact gen_write_nickname fuel c b rest hop
  | queryNick => exact gen_query_nickname fuel c b rest (hnm rfl).2 (hnm rfl).1

theorem gen_op_bridge (w : World) (hr : Ready w) (hwf : w.board.WF) (op : Op) (hop : OpOK op) (hnm : NameReq w op)
    (obj : EBB3_Obj) (hready : ReadyObj obj) : OpBridge w op obj := by
  have hq : op = .queryNick → isInfix sErr w.board.name = false ∧ PyIO.isAscii w.board.name = true := by
    rintro rfl; exact hnm
  refine ⟨opReqs w.board op, _, _, runOp_trace w hr hwf op hop (fun h => (hq h).1), fun h => ?_,
    fun fuel ext tl log n => genOp_trace hwf w.py.name op hop hq fuel ⟨obj, hready, ext, log, n⟩ tl⟩
  -- only the two nickname methods assign `self.name`, both what the specification says
  cases op with
  | writeNick _ | queryNick => rfl
  | _ => exact h

/-- a history on the regenerated methods: the values returned, or `none` as soon as a call raises / runs out of fuel -/
def genRunOps (fuel : Nat) : List Op → PyObj.World EBB3_Obj → Option (List PyObj.Val × PyObj.World EBB3_Obj)
  | [], w => some ([], w)
  | op :: rest, w =>
    match genOp fuel op w with
    | .val v w' => (genRunOps fuel rest w').map (fun r => (v :: r.1, r.2))
    | _ => none

theorem spec_step_name_ascii (s : Spec.Abs) (op : Op) (hop : OpOK op) (h : PyIO.isAscii s.board.name = true) :
    PyIO.isAscii (Spec.step s op).2.board.name = true := by
  cases op with
  | writeNick n => exact isAscii_of_printable hop.2.1
  | _ => exact h

theorem nameReq_of_invG {w : World} (h : InvG w) (op : Op) : NameReq w op := by
  cases op
  case queryNick => exact ⟨h.1.2.2, h.2⟩
  all_goals trivial

theorem gen_ops_bridge (ops : List Op) (w : World) (hinv : InvG w) (hops : ∀ op ∈ ops, OpOK op)
    (obj : EBB3_Obj) (hready : ReadyObj obj) (hname : obj.name = encName w.py.name) :
    ∃ reqs vals py' obj',
      runOps w ops = .ok (vals, ⟨py', boardAfter w.board reqs, reqs.reverse ++ w.sent⟩) ∧
      (ReadyObj obj' ∧ obj'.name = encName py'.name) ∧ InvG ⟨py', boardAfter w.board reqs, reqs.reverse ++ w.sent⟩ ∧
      ∀ (fuel : Nat) (ext : Ext) (tl : List PyIO.Rd) (log : List (List Char)) (n : Nat),
        genRunOps (fuel + 1) ops ⟨obj, ⟨boardReads w.board reqs ++ tl, [], log, n⟩, ext⟩ =
          some (vals.map encVal, ⟨obj', ⟨tl, [], log ++ reqs.map (· ++ ['\r']), n + reqs.length⟩, ext⟩) := by
  induction ops generalizing w obj with
  | nil =>
    refine ⟨[], [], w.py, obj, ?_, ⟨hready, hname⟩, ?_, fun fuel ext tl log n => ?_⟩
    · simp [runOps, boardAfter]
    · simpa [boardAfter] using hinv
    · simp [genRunOps, boardReads]
  | cons op rest ih =>
    have hop := hops op List.mem_cons_self
    obtain ⟨reqs1, v, py1, hm1, hn1, hg1⟩ :=
      gen_op_bridge w hinv.1.1 hinv.1.2.1 op hop (nameReq_of_invG hinv op) obj hready
    have hinv1 : InvG ⟨py1, boardAfter w.board reqs1, reqs1.reverse ++ w.sent⟩ := by
      obtain ⟨w', h1, e1, i1⟩ := runOp_refines w hinv.1 op hop
      cases hm1.symm.trans h1
      have hb : boardAfter w.board reqs1 = (Spec.step ⟨w.board, w.py.name⟩ op).2.board := congrArg Spec.Abs.board e1
      exact ⟨i1, hb ▸ spec_step_name_ascii _ op hop hinv.2⟩
    obtain ⟨reqs2, vals2, py2, obj2, hm2, rel2, hinv2, hg2⟩ :=
      ih ⟨py1, boardAfter w.board reqs1, reqs1.reverse ++ w.sent⟩ hinv1
        (fun o ho => hops o (List.mem_cons_of_mem _ ho)) (objAfter obj w.board op) (readyObj_objAfter hready _ _) (hn1 hname)
    refine ⟨reqs1 ++ reqs2, v :: vals2, py2, obj2, ?_, rel2, ?_, fun fuel ext tl log n => ?_⟩
    · simp only [runOps, hm1, hm2, Bind.bind, Except.bind, boardAfter_append, List.reverse_append, List.append_assoc]
    · simpa [boardAfter_append, List.reverse_append, List.append_assoc] using hinv2
    · simp only [genRunOps, boardReads_append, List.append_assoc]
      rw [hg1 fuel ext (boardReads (boardAfter w.board reqs1) reqs2 ++ tl) log n]
      simp only []
      rw [hg2 fuel ext tl (log ++ reqs1.map (· ++ ['\r'])) (n + reqs1.length)]
      simp [List.map_append, Nat.add_assoc]

abbrev readyWorld (b : Board) (nm : Option Str) : World := ⟨⟨true, false, nm⟩, b, []⟩

/-- a ready regenerated object for the non-vacuity examples -/
def exampleObj : EBB3_Obj := { EBB3_Obj.init with port := PyObj.Val.port }

theorem exampleObj_ready : ReadyObj exampleObj := ⟨rfl, rfl⟩

theorem gen_op_spec (b : Board) (nm : Option Str) (hwf : b.WF) (op : Op) (hop : OpOK op)
    (hnm : op = .queryNick → isInfix sErr b.name = false ∧ PyIO.isAscii b.name = true) (obj : EBB3_Obj)
    (hobj : ReadyObj obj) :
    ∃ reqs, boardAfter b reqs = (Spec.step ⟨b, nm⟩ op).2.board ∧ (boardAfter b reqs).WF ∧
      ∀ (fuel : Nat) (ext : Ext) (tl : List PyIO.Rd) (log : List (List Char)) (n : Nat),
        genOp (fuel + 1) op ⟨obj, ⟨boardReads b reqs ++ tl, [], log, n⟩, ext⟩ =
          .val (encVal (Spec.step ⟨b, nm⟩ op).1)
            ⟨objAfter obj b op, ⟨tl, [], log ++ reqs.map (· ++ ['\r']), n + reqs.length⟩, ext⟩ :=
  ⟨opReqs b op, after_opReqs hwf nm op hop, boardAfter_wf hwf _, fun fuel ext tl log n =>
    genOp_trace hwf nm op hop hnm fuel ⟨obj, hobj, ext, log, n⟩ tl⟩

end Plotink.C16
