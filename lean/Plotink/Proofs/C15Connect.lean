import Plotink.Proofs.C15Io
/-! # C15 — `EBB3.connect` (core Lean only)

`connect` on a disconnected object is its head — up to and including the minimum-version check, `connectHeadP`, stated
for a given `parse` of the reply's version text so that the other hand model and the regenerated code can be compared with
it — followed by its tail (`connect_eq_head`).  Passing the head means identification with a sufficient version; every
rejection scenario ends the head in a refusal, which read through `connect_eq_head` is `connect_false`. -/
namespace Plotink.C15

theorem recordError_err (st : St) (m : Str) : (recordError st m).err ≠ none := by
  unfold recordError; split <;> simp_all

theorem recordError_port (st : St) (m : Str) : (recordError st m).port = st.port := by
  unfold recordError; split <;> rfl

theorem recordError_vparsed (st : St) (m : Str) : (recordError st m).vparsed = st.vparsed := by
  unfold recordError; split <;> rfl

theorem recordError_keeps (st : St) (m : Str) (h : st.err ≠ none) : (recordError st m).err ≠ none :=
  recordError_err st m

theorem blocked_of_err {st : St} (h : st.err ≠ none) : blocked st = true := by
  unfold blocked
  cases he : st.err with
  | none => exact absurd he h
  | some _ => simp

theorem blocked_of_port {st : St} (h : st.port = false) : blocked st = true := by
  simp [blocked, h]

theorem minVersion3_true {st : St} {thr : Str} (h : minVersion3 st thr = .ok true) :
    ∃ m v, parseVersion thr = some m ∧ st.vparsed = some v ∧ vle m v = true := by
  unfold minVersion3 at h
  cases hm : parseVersion thr with
  | none => simp only [hm] at h; cases h
  | some m =>
    simp only [hm] at h
    cases hv : st.vparsed with
    | none => simp only [hv] at h; cases h
    | some v => simp only [hv] at h; exact ⟨m, v, rfl, rfl, by rw [← versionGe_eq_vle]; exact Except.ok.inj h⟩

theorem rejected_cases {m : List Nat} {io : Io} (h : Rejected m io) :
    (handshake io).verified = false ∨ ∃ s v, Identifies io s ∧ versionOf s = some v ∧ vle m v = false := by
  cases h with
  | openFail h => exact Or.inl ((hs_unverified_iff io).mpr (Or.inl h))
  | probeRaise h => exact Or.inl ((hs_unverified_iff io).mpr (Or.inr (Or.inl h)))
  | notEbb h0 h1 => exact Or.inl ((hs_unverified_iff io).mpr (Or.inr (Or.inr ⟨h0, h1⟩)))
  | oldFirmware s v hs hv hlt => exact Or.inr ⟨s, v, hs, hv, hlt⟩

end Plotink.C15

namespace Plotink.C15Gen
open C15

/-- how `connect` ends before it sends anything beyond the probes -/
inductive Head where
  | refused (st : St) (io : Io)               -- `return False`
  | failed (e : PyExc) (st : St) (io : Io)    -- an exception escapes (`parse` / `None >= Version`)
  | pass (st : St) (io : Io)                  -- identified, version accepted: goes on to `CU,10,1`

/-- `parse_version`, for a given `packaging.version.parse` -/
def parseStmtP (parse : Str → Option (List Nat)) (st : St) (sv : Str) : Option St :=
  match versionText sv with
  | none => some st
  | some t => match parse t with
    | none => none
    | some v => some { st with version := some t, vparsed := some v }

theorem parseStmtP_model (st : St) (sv : Str) : parseStmtP parseVersion st sv = parseVersionStmt st sv := rfl

theorem parseStmtP_some {parse : Str → Option (List Nat)} {st st' : St} {sv : Str} (h : parseStmtP parse st sv = some st') :
    (versionText sv = none ∧ st' = st) ∨ ∃ t v, versionText sv = some t ∧ parse t = some v ∧ st'.vparsed = some v := by
  unfold parseStmtP at h
  cases hvt : versionText sv with
  | none => rw [hvt] at h; exact Or.inl ⟨rfl, (Option.some.inj h).symm⟩
  | some t =>
    simp only [hvt] at h
    cases hp : parse t with
    | none => simp only [hp] at h; cases h
    | some v => simp only [hp] at h; cases h; exact Or.inr ⟨t, v, rfl, hp, rfl⟩

/-- the minimum-version check of `connect`, on the object as `parse_version` left it -/
def versionCheck (P : Params) (st : St) (io : Io) : Head :=
  match minVersion3 st P.minVersion with
  | .error e => .failed e st io
  | .ok false => .refused (recordError st (msgOld st.version P.minVersion)) io
  | .ok true => .pass st io

/-- the attributes after the `try:` block of `connect` -/
def hsSt (st : St) (pn : Str) (hs : Hs) : St :=
  let st1 := if hs.opened then { st with port := true } else st
  if hs.raised then disconnect (recordError st1 (msgTest pn)) else st1

/-- `connect` on a disconnected object, up to and including the minimum-version check (for a given `parse` of the
version text of the reply: `C15.parseVersion` in the model, the runtime's `Ebb3.parseRelease` in the regenerated code) -/
def connectHeadP (parse : Str → Option (List Nat)) (P : Params) (st : St) (given found : Option Str) (io : Io) : Head :=
  let st := { st with portName := found }
  match found with
  | none => .refused (recordError st (msgLocate given)) io
  | some pn =>
    let hs := handshake io
    let st := hsSt st pn hs
    if !hs.verified then .refused (disconnect (recordError st (msgFail pn))) hs.io else
    match parseStmtP parse st hs.sv with
    | none => .failed .versionSyntax st hs.io
    | some st => versionCheck P st hs.io

abbrev connectHead := connectHeadP parseVersion

/-- the rest of `connect`: syntax-mode command, nickname query, caller -/
def connectTail (P : Params) (st : St) (caller : Option Str) (io : Io) : Out Bool :=
  match io.write cuCmd with
  | (true, io1) => ⟨st, io1, .error .serialException⟩
  | (false, io1) =>
    match io1.read with
    | (none, io2) => ⟨st, io2, .error .serialException⟩
    | (some _, io2) =>
      let (st, io3) := queryNickname3 P st io2
      let st := match caller with | some c => { st with caller := some c } | none => st
      ⟨st, io3, .ok true⟩

theorem connect_eq_head (P : Params) (st : St) (given found caller : Option Str) (io : Io) (hp : st.port = false) :
    connect P st given found caller io =
      match connectHead P st given found io with
      | .refused st' io' => ⟨st', io', .ok false⟩
      | .failed e st' io' => ⟨st', io', .error e⟩
      | .pass st' io' => connectTail P st' caller io' := by
  unfold connect connectHead connectHeadP hsSt versionCheck connectTail
  simp only [parseStmtP_model]
  simp only [hp, Bool.false_eq_true, ↓reduceIte]
  cases found with
  | none => rfl
  | some pn =>
    simp only
    cases (handshake io).verified with
    | false => rfl
    | true =>
      simp only [Bool.not_true, Bool.false_eq_true, ↓reduceIte]
      generalize parseVersionStmt _ (handshake io).sv = r
      cases r with
      | none => rfl
      | some st3 =>
        simp only
        cases minVersion3 st3 P.minVersion with
        | error e => rfl
        | ok b => cases b <;> rfl

theorem head_pass {parse : Str → Option (List Nat)} (hparse : ∀ t v, parse t = some v → parseVersion t = some v)
    (P : Params) (st : St) (given found : Option Str) (io : Io) (st' : St) (io' : Io)
    (h : connectHeadP parse P st given found io = .pass st' io') :
    ∃ s m, Identifies io s ∧ parseVersion P.minVersion = some m ∧
      ((∃ v, versionOf s = some v ∧ vle m v = true) ∨
       (versionText s = none ∧ ∃ v, st.vparsed = some v ∧ vle m v = true)) := by
  unfold connectHeadP hsSt versionCheck at h
  cases found with
  | none => cases h
  | some pn =>
    cases hv : (handshake io).verified with
    | false => simp [hv] at h
    | true =>
      obtain ⟨hr, ho⟩ := hs_flags io hv
      simp only [hv, hr, ho, Bool.not_true, Bool.false_eq_true, ↓reduceIte] at h
      split at h
      · cases h
      · rename_i st3 hps
        split at h
        · cases h
        · cases h
        · rename_i hmv
          cases h
          obtain ⟨m, v, hm, hv3, hle⟩ := minVersion3_true hmv
          refine ⟨_, m, (identifies_iff io _).mpr ⟨hv, rfl⟩, hm, ?_⟩
          rcases parseStmtP_some hps with ⟨hnone, rfl⟩ | ⟨t, v', hvt, hpt, hv'⟩
          · exact Or.inr ⟨hnone, v, hv3, hle⟩
          · exact Or.inl ⟨v', by rw [versionOf, hvt]; exact hparse t v' hpt, by rw [hv'] at hv3; cases hv3; exact hle⟩

theorem head_rejected (P : Params) (st : St) (given found : Option Str) (io : Io) (m : List Nat)
    (hm : parseVersion P.minVersion = some m) (hrej : found = none ∨ Rejected m io) :
    ∃ st' io', connectHead P st given found io = .refused st' io' ∧ st'.err ≠ none ∧ blocked st' = true ∧
      ∃ k, k ≤ 2 ∧ io'.written = io.written ++ List.replicate k vProbe ∧
        (found = none ∨ openAt io 0 = false → k = 0) := by
  unfold connectHead connectHeadP hsSt
  cases found with
  | none =>
    exact ⟨_, _, rfl, recordError_err _ _, blocked_of_err (recordError_err _ _), 0, by omega, by simp, fun _ => rfl⟩
  | some pn =>
    simp only
    obtain ⟨k, hk, hw, hk0⟩ := hs_written io
    have hk0 : some pn = none ∨ openAt io 0 = false → k = 0 := fun h => hk0 (h.resolve_left nofun)
    rcases rejected_cases (hrej.resolve_left nofun) with hv | ⟨s, v, hs, hvo, hlt⟩
    · simp only [hv, Bool.not_false, ↓reduceIte]
      exact ⟨_, _, rfl, recordError_err _ _, blocked_of_port rfl, k, hk, hw, hk0⟩
    · have hv : (handshake io).verified = true := (hs_verified_iff io).mpr ⟨s, hs⟩
      have hsv := hs_sv io s hs
      obtain ⟨hr, ho⟩ := hs_flags io hv
      simp only [hv, hr, ho, hsv, Bool.not_true, Bool.false_eq_true, ↓reduceIte]
      obtain ⟨t, hvt, hvo⟩ := Option.bind_eq_some_iff.mp hvo
      simp only [parseStmtP, hvt, hvo, versionCheck, minVersion3, hm, versionGe_eq_vle, hlt]
      exact ⟨_, _, rfl, recordError_err _ _, blocked_of_err (recordError_err _ _), k, hk, hw, hk0⟩

theorem head_refused (P : Params) (st : St) (given found caller : Option Str) (io : Io) (m : List Nat)
    (hp : st.port = false) (hm : parseVersion P.minVersion = some m) (hrej : found = none ∨ Rejected m io) :
    connectHead P st given found io =
      .refused (connect P st given found caller io).st (connect P st given found caller io).io := by
  obtain ⟨st', io', e, -⟩ := head_rejected P st given found io m hm hrej
  rw [connect_eq_head P st given found caller io hp, e]

theorem headP_congr (parse1 parse2 : Str → Option (List Nat)) (P : Params) (st : St) (given found : Option Str) (io : Io)
    (h : (handshake io).verified = true → ∀ t, versionText (handshake io).sv = some t → parse1 t = parse2 t) :
    connectHeadP parse1 P st given found io = connectHeadP parse2 P st given found io := by
  unfold connectHeadP
  cases found with
  | none => rfl
  | some pn =>
    simp only
    cases hv : (handshake io).verified with
    | false => rfl
    | true =>
      have : ∀ st2, parseStmtP parse1 st2 (handshake io).sv = parseStmtP parse2 st2 (handshake io).sv := by
        intro st2
        unfold parseStmtP
        cases hvt : versionText (handshake io).sv with
        | none => rfl
        | some t => simp only [h hv t hvt]
      simp only [this]

end Plotink.C15Gen

namespace Plotink.C15

theorem connect_false (P : Params) (st : St) (given found caller : Option Str) (io : Io) (m : List Nat)
    (hp : st.port = false) (hm : parseVersion P.minVersion = some m)
    (hrej : found = none ∨ Rejected m io) :
    (connect P st given found caller io).res = .ok false ∧
    (connect P st given found caller io).st.err ≠ none ∧
    blocked (connect P st given found caller io).st = true ∧
    ∃ k, k ≤ 2 ∧ (connect P st given found caller io).io.written = io.written ++ List.replicate k vProbe ∧
      (found = none ∨ openAt io 0 = false → k = 0) := by
  obtain ⟨st', io', e, h⟩ := C15Gen.head_rejected P st given found io m hm hrej
  rw [C15Gen.connect_eq_head P st given found caller io hp, e]
  exact ⟨rfl, h⟩

end Plotink.C15
