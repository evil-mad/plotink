import Plotink.Gen.ebb_serial_testPort
import Plotink.Gen.ebb_serial_openPort
import Plotink.Gen.ebb_serial_open_named_port
import Plotink.Proofs.PyIOLemmas
import Plotink.Proofs.LegacyGen
import Plotink.Proofs.C19Gen2
/-! # X02 (supplementary) — opening a port in the legacy layer: `ebb_serial.testPort`, `openPort`, `open_named_port`

The three functions are regenerated from plotink/ebb_serial.py by the I/O translator on every run.  `testPortSpec` is a
statement-level specification (two `v` probes over the read/write script); the regenerated `testPort` equals it
(`testPort_eq`), and the properties of the specification are proved one round at a time (`probeThen`). -/
namespace Plotink
namespace X02
open PyObj Gen LegacyGen C19Gen

def vProbe : List Char := ['v', '\r']

def probe (w : World NoObj) : Res × World NoObj :=
  match meth_write .port (.bytes vProbe) w with
  | (.ok _, w1) => meth_readline .port w1
  | r => r

/-- `str_version and str_version.startswith(b"EBB")` -/
def isEBB : Val → Bool
  | .bytes b => !b.isEmpty && Ebb3.startsWith ['E', 'B', 'B'] b
  | _ => false

/-- `except serial.SerialException`: the subclasses are swallowed (→ `None`), everything else escapes -/
def fin (c : PyIO.ExcClass) (w : World NoObj) : Out NoObj :=
  if PyIO.catches [.serialException] c then .val .none w else .exc c w

/-- statement-level specification of `ebb_serial.testPort(port_name)` for `port_name` a `str` or `None` -/
def testPortSpec (name : Val) (w : World NoObj) : Out NoObj :=
  match name with
  | .none => .val .none w
  | _ =>
    if !w.ext.openOk then .val .none w else
    match probe w with
    | (.exc c, w1) => fin c w1
    | (.fuelOut, _) => .fuelOut
    | (.ok v1, w1) =>
      if isEBB v1 then .val .port w1 else
      match probe w1 with
      | (.exc c, w2) => fin c w2
      | (.fuelOut, _) => .fuelOut
      | (.ok v2, w2) => if isEBB v2 then .val .port w2 else .val .none w2

@[simp] theorem isEBB_nil : isEBB (.bytes []) = false := rfl

theorem write_cases (b : Str) (w : World NoObj) :
    ∃ w', ((∃ n, meth_write .port (.bytes b) w = (.ok (.int n), w')) ∨ ∃ c, meth_write .port (.bytes b) w = (.exc c, w')) ∧
      w'.port.log = w.port.log ++ [b] := by
  obtain ⟨obj, ⟨reads, writes, log, nread⟩, ext⟩ := w
  rcases writes with _ | ⟨_ | c, ws⟩
  · exact ⟨_, .inl ⟨_, rfl⟩, rfl⟩
  · exact ⟨_, .inl ⟨_, rfl⟩, rfl⟩
  · exact ⟨_, .inr ⟨_, rfl⟩, rfl⟩

theorem readline_cases (w : World NoObj) :
    ∃ w', ((∃ b, meth_readline .port w = (.ok (.bytes b), w')) ∨ ∃ c, meth_readline .port w = (.exc c, w')) ∧
      w'.port.log = w.port.log := by
  obtain ⟨obj, ⟨reads, writes, log, nread⟩, ext⟩ := w
  rcases reads with _ | ⟨b | _ | c, rs⟩
  · exact ⟨_, .inl ⟨_, rfl⟩, rfl⟩
  · exact ⟨_, .inl ⟨_, rfl⟩, rfl⟩
  · exact ⟨_, .inl ⟨_, rfl⟩, rfl⟩
  · exact ⟨_, .inr ⟨_, rfl⟩, rfl⟩

theorem probe_cases (w : World NoObj) :
    ∃ w', ((∃ b, probe w = (.ok (.bytes b), w')) ∨ ∃ c, probe w = (.exc c, w')) ∧
      w'.port.log = w.port.log ++ [vProbe] := by
  obtain ⟨w1, hw | ⟨c, hw⟩, hl1⟩ := write_cases vProbe w
  · obtain ⟨n, hw⟩ := hw
    obtain ⟨w2, hr, hl2⟩ := readline_cases w1
    refine ⟨w2, ?_, hl2.trans hl1⟩
    unfold probe
    rw [hw]
    exact hr
  · refine ⟨w1, .inr ⟨c, ?_⟩, hl1⟩
    unfold probe
    rw [hw]

/-- `str_version and str_version.startswith(b"EBB")` on a reply -/
theorem if2_eq (fuel : Nat) (env : ebb_serial_testPort_Env) (b : Str) (w : World NoObj)
    (hp : env.serial_port = .port) (hv : env.str_version = .bytes b) :
    ebb_serial_testPort_if2 fuel env w = if isEBB (.bytes b) then .ret .port w else .norm env w := by
  obtain ⟨pn, sp, sv, er⟩ := env
  subst hp hv
  cases b with
  | nil => exact ifte_neg rfl rfl
  | cons c cs => rw [ebb_serial_testPort_if2, ifte_of rfl]; rfl

/-- the statements `serial_port.write('v\r'.encode('ascii')); str_version = serial_port.readline()` are one probe -/
theorem probe_stmt (rest : Stmt NoObj ebb_serial_testPort_Env) (fuel : Nat) (env : ebb_serial_testPort_Env)
    (w : World NoObj) (hp : env.serial_port = .port) :
    seq (expr (fun _ env => eff2 meth_write (load env.serial_port)
            (app2 meth_encode (ok (.str ['v', '\r'])) (ok (.str ['a', 's', 'c', 'i', 'i'])))))
        (seq (assign (fun env v => { env with str_version := v }) (fun _ env => eff1 meth_readline (load env.serial_port)))
          rest) fuel env w
      = match probe w with
        | (.ok v, w1) => rest fuel { env with str_version := v } w1
        | (.exc c, w1) => .exc c env w1
        | (.fuelOut, _) => .fuelOut := by
  have henc : (app2 meth_encode (ok (.str ['v', '\r'])) (ok (.str ['a', 's', 'c', 'i', 'i'])) : Eff NoObj)
      = ok (.bytes vProbe) := rfl
  obtain ⟨pn, sp, sv, er⟩ := env
  subst hp
  simp only [seq, expr, assign, load, henc, eff2_ok, probe]
  rcases meth_write .port (.bytes vProbe) w with ⟨_ | _ | _, w1⟩
  · simp only [eff1_ok]
    rcases meth_readline .port w1 with ⟨_ | _ | _, w2⟩ <;> rfl
  · rfl
  · rfl

theorem handler_eq (fuel : Nat) (n : List Char) (sp sv : Val) (c : PyIO.ExcClass) (w : World NoObj) :
    dispatch ebb_serial_testPort_handlers1 c fuel ⟨.str n, sp, sv, .unbound⟩ w
      = if PyIO.catches [.serialException] c then .norm ⟨.str n, sp, sv, .unbound⟩ w
        else .exc c ⟨.str n, sp, sv, .unbound⟩ w := by
  rw [ebb_serial_testPort_handlers1, dispatch]
  show (if PyIO.catches [.serialException] c = true then _ else _) = _
  cases PyIO.catches [.serialException] c <;> rfl

theorem testPort_eq (fuel : Nat) (n : List Char) (w : World NoObj) :
    ebb_serial_testPort fuel (.str n) w = testPortSpec (.str n) w := by
  have hif3 : ebb_serial_testPort_if3 = ebb_serial_testPort_if2 := rfl
  unfold ebb_serial_testPort run ebb_serial_testPort_main ebb_serial_testPort_if1 testPortSpec
  simp only [block_cons2, block_one, ebb_serial_testPort_try1, hif3]
  rw [seq, ifte_of (v := .bool true) (w' := w) rfl, tryExcept]
  simp only [truthy_bool, if_true]
  cases hop : w.ext.openOk
  · simp [seq, assign, eff1, PyObj.bind, ok, ext_serial_open, handler_eq, return_, PyIO.catches, PyIO.isSub_refl, hop]
  · rw [seq_norm (env' := ⟨.str n, .port, .unbound, .unbound⟩) (w' := w) (by
        simp only [assign, eff1_ok, ext_serial_open, hop, if_true]),
      seq_norm (env' := ⟨.str n, .port, .unbound, .unbound⟩) (w' := w) rfl, probe_stmt _ _ _ _ rfl]
    obtain ⟨w1, ⟨b1, h1⟩ | ⟨c, h1⟩, -⟩ := probe_cases w
    · rw [h1]
      simp only []
      rw [seq, if2_eq _ _ b1 _ rfl rfl]
      cases isEBB (.bytes b1)
      · simp only [Bool.false_eq_true, if_false]
        rw [probe_stmt _ _ _ _ rfl]
        obtain ⟨w2, ⟨b2, h2⟩ | ⟨c, h2⟩, -⟩ := probe_cases w1
        · rw [h2]
          simp only []
          rw [seq, if2_eq _ _ b2 _ rfl rfl]
          cases isEBB (.bytes b2)
          · simp [expr, eff1, load, PyObj.bind, ok, meth_close, return_]
          · simp
        · rw [h2]
          simp only [handler_eq, fin]
          cases PyIO.catches [.serialException] c <;> simp [return_, ok]
      · simp
    · rw [h1]
      simp only [handler_eq, fin]
      cases PyIO.catches [.serialException] c <;> simp [return_, ok]

def probeThen (k : World NoObj → Out NoObj) (w : World NoObj) : Out NoObj :=
  match probe w with
  | (.exc c, w1) => fin c w1
  | (.fuelOut, _) => .fuelOut
  | (.ok v, w1) => if isEBB v then .val .port w1 else k w1

theorem spec_eq (name : Val) (w : World NoObj) :
    testPortSpec name w
      = if isNone name || !w.ext.openOk then .val .none w else probeThen (probeThen (.val .none)) w := by
  cases name <;> rfl

theorem probeThen_cases (k : World NoObj → Out NoObj) (w : World NoObj) :
    ∃ w1, ((∃ c, probe w = (.exc c, w1) ∧ probeThen k w = fin c w1) ∨
        (∃ v, probe w = (.ok v, w1) ∧ isEBB v = true ∧ probeThen k w = .val .port w1) ∨
        (∃ v, probe w = (.ok v, w1) ∧ isEBB v = false ∧ probeThen k w = k w1)) ∧
      w1.port.log = w.port.log ++ [vProbe] := by
  obtain ⟨w1, ⟨b, h⟩ | ⟨c, h⟩, hl⟩ := probe_cases w
  · refine ⟨w1, .inr ?_, hl⟩
    cases hb : isEBB (.bytes b)
    · exact .inr ⟨_, h, hb, by simp only [probeThen, h, hb, Bool.false_eq_true, if_false]⟩
    · exact .inl ⟨_, h, hb, by simp only [probeThen, h, hb, if_true]⟩
  · exact ⟨w1, .inl ⟨c, h, by simp only [probeThen, h]⟩, hl⟩

def Answer (r : Out NoObj) : Prop :=
  (∃ w', r = .val .port w') ∨ (∃ w', r = .val .none w') ∨
    (∃ c w', r = .exc c w' ∧ PyIO.catches [.serialException] c = false)

theorem fin_answer (c : PyIO.ExcClass) (w : World NoObj) : Answer (fin c w) := by
  unfold fin
  cases h : PyIO.catches [.serialException] c
  · exact .inr (.inr ⟨c, w, rfl, h⟩)
  · exact .inr (.inl ⟨w, rfl⟩)

theorem probeThen_answer (k : World NoObj → Out NoObj) (hk : ∀ w1, Answer (k w1)) (w : World NoObj) :
    Answer (probeThen k w) := by
  obtain ⟨w1, ⟨c, -, h⟩ | ⟨v, -, -, h⟩ | ⟨v, -, -, h⟩, -⟩ := probeThen_cases k w <;> rw [h]
  · exact fin_answer c w1
  · exact .inl ⟨w1, rfl⟩
  · exact hk w1

theorem spec_forms (name : Val) (w : World NoObj) : Answer (testPortSpec name w) := by
  rw [spec_eq]
  split
  · exact .inr (.inl ⟨w, rfl⟩)
  · exact probeThen_answer _ (probeThen_answer _ fun w2 => .inr (.inl ⟨w2, rfl⟩)) w

def outWorld : Out NoObj → Option (World NoObj)
  | .val _ w => some w
  | .exc _ w => some w
  | .fuelOut => Option.none

theorem fin_world (c : PyIO.ExcClass) (w : World NoObj) : outWorld (fin c w) = some w := by
  unfold fin; split <;> rfl

def Wrote (m : Nat) (w : World NoObj) (r : Out NoObj) : Prop :=
  ∃ w' k, outWorld r = some w' ∧ k ≤ m ∧ w'.port.log = w.port.log ++ List.replicate k vProbe

theorem wrote_here (m : Nat) {w : World NoObj} {r : Out NoObj} (h : outWorld r = some w) : Wrote m w r :=
  ⟨w, 0, h, Nat.zero_le _, (List.append_nil _).symm⟩

theorem probeThen_wrote (k : World NoObj → Out NoObj) (m : Nat) (hk : ∀ w1, Wrote m w1 (k w1)) (w : World NoObj) :
    Wrote (m + 1) w (probeThen k w) := by
  obtain ⟨w1, hc, hl⟩ := probeThen_cases k w
  have step : ∀ r, Wrote m w1 r → Wrote (m + 1) w r := by
    rintro r ⟨w', j, hr, hj, hl'⟩
    exact ⟨w', j + 1, hr, Nat.succ_le_succ hj, by rw [hl', hl, List.append_assoc]; rfl⟩
  obtain ⟨c, -, h⟩ | ⟨v, -, -, h⟩ | ⟨v, -, -, h⟩ := hc <;> rw [h]
  · exact step _ (wrote_here m (fin_world c w1))
  · exact step _ (wrote_here m rfl)
  · exact step _ (hk w1)

theorem spec_log (name : Val) (w : World NoObj) : Wrote 2 w (testPortSpec name w) := by
  rw [spec_eq]
  split
  · exact wrote_here 2 rfl
  · exact probeThen_wrote _ 1 (probeThen_wrote _ 0 fun w2 => wrote_here 0 rfl) w

theorem probeThen_port (k : World NoObj → Out NoObj) (w w' : World NoObj) (h : probeThen k w = .val .port w') :
    (∃ v, probe w = (.ok v, w') ∧ isEBB v = true) ∨
      (∃ v w1, probe w = (.ok v, w1) ∧ isEBB v = false ∧ k w1 = .val .port w') := by
  obtain ⟨w1, ⟨c, -, e⟩ | ⟨v, hp, hv, e⟩ | ⟨v, hp, hv, e⟩, -⟩ := probeThen_cases k w <;> rw [e] at h
  · unfold fin at h
    split at h <;> cases h
  · cases h
    exact .inl ⟨v, hp, hv⟩
  · exact .inr ⟨v, w1, hp, hv, h⟩

theorem spec_port (name : Val) (w w' : World NoObj) (h : testPortSpec name w = .val .port w') :
    w.ext.openOk = true ∧
    ((∃ v1, probe w = (.ok v1, w') ∧ isEBB v1 = true) ∨
     (∃ v1 w1 v2, probe w = (.ok v1, w1) ∧ isEBB v1 = false ∧ probe w1 = (.ok v2, w') ∧ isEBB v2 = true)) := by
  rw [spec_eq] at h
  split at h
  · cases h
  · rename_i hop
    refine ⟨by simp only [Bool.or_eq_true, Bool.not_eq_true', not_or, Bool.not_eq_false] at hop; exact hop.2, ?_⟩
    obtain h1 | ⟨v1, w1, hp1, hv1, h1⟩ := probeThen_port _ _ _ h
    · exact .inl h1
    · obtain ⟨v2, hp2, hv2⟩ | ⟨_, _, _, _, h2⟩ := probeThen_port _ _ _ h1
      · exact .inr ⟨v1, w1, v2, hp1, hv1, hp2, hv2⟩
      · cases h2

/-- `serial_port = <call>; if serial_port: return serial_port; return None` hands on the answer of the call -/
theorem run_answer {σ : Type} (set : σ → Val → σ) (get : σ → Val) (hgs : ∀ env v, get (set env v) = v)
    (e : Expr NoObj σ) (fuel : Nat) (env : σ) (w : World NoObj) (r : Out NoObj) (hr : Answer r)
    (he : e fuel env w = ofOut r (.fuelOut, w)) :
    run (seq (assign set e) (seq (ifte (fun _ env => load (get env)) (return_ fun _ env => load (get env)) pass)
      (return_ fun _ _ => ok .none))) fuel env w = r := by
  obtain ⟨w', rfl⟩ | ⟨w', rfl⟩ | ⟨c, w', rfl, -⟩ := hr <;>
    simp [run, seq, assign, he, ofOut, ifte, hgs, load, ok, truthy, return_, pass]

/-- `testPort(found_port)` as the callers evaluate it, on what a discovery function returned (`str` or `None`) -/
theorem testPort_call (fuel : Nat) (o : Option (List Char)) (w : World NoObj) :
    mcall1 (ebb_serial_testPort fuel) (load (encOptStr o)) w = ofOut (testPortSpec (encOptStr o) w) (.fuelOut, w) := by
  cases o with
  | none => rfl
  | some n => exact congrArg (ofOut · (.fuelOut, w)) (testPort_eq fuel n w)

/-- `openPort()` = `testPort(findPort())`: the `if serial_port:` test passes exactly the opened port through -/
theorem openPort_eq (fuel : Nat) (ports : List C19.Port) (w : World NoObj)
    (hc : w.ext.comports = .ok (.list (ports.map encPort))) :
    ebb_serial_openPort fuel w = testPortSpec (encOptStr (C19.Legacy.findFirst ports)) w := by
  unfold ebb_serial_openPort ebb_serial_openPort_main
  rw [block_cons2, run, seq_norm (assign_of (by rw [mcall0_apply, findPort_bridge fuel ports w hc, ofOut_val]))]
  exact run_answer _ ebb_serial_openPort_Env.serial_port (fun _ _ => rfl) _ fuel _ w _ (spec_forms _ w)
    (testPort_call fuel _ w)

/-- `open_named_port(name)` = `testPort(find_named_ebb(name))` -/
theorem open_named_port_eq (fuel : Nat) (key : Option C19.Str) (ports : List C19.Port) (w : World NoObj)
    (hc : w.ext.comports = .ok (.list (ports.map encPort))) :
    ebb_serial_open_named_port fuel (encOptStr key) w
      = testPortSpec (encOptStr (C19.Legacy.findNamed key ports)) w := by
  unfold ebb_serial_open_named_port ebb_serial_open_named_port_main
  rw [block_cons2, run, seq_norm (assign_of (by
    rw [mcall1_ok_apply, find_named_ebb_bridge fuel key ports w hc, ofOut_val]))]
  exact run_answer _ ebb_serial_open_named_port_Env.serial_port (fun _ _ => rfl) _ fuel _ w _ (spec_forms _ w)
    (testPort_call fuel _ w)

end X02
end Plotink
