import Plotink.Proofs.C16GenPrims
import Plotink.Proofs.C16Exch
import Plotink.Proofs.PyIOLemmas
import Plotink.Gen.EBB3_command
import Plotink.Gen.EBB3_query
import Plotink.Proofs.RuleSets
/-! C16 ↔ regenerated code: the regenerated `EBB3.command` / `EBB3.query` evaluated on one conforming exchange (`ExchA`,
`C16Exch.lean`) of a conversation with the board: the write succeeds, the next `readline` returns the board's reply line.
Direct symbolic evaluation of `Gen.EBB3_command` / `Gen.EBB3_query` (no model in between), on the board's own script
`boardReads`. -/
namespace Plotink.C16
open PyObj Gen

theorem pyEq_int (a b : Int) : pyEq (.int a) (.int b) = (a == b) := rfl

theorem pyEq_str (a b : Str) : pyEq (.str a) (.str b) = (a == b) := rfl

theorem strOf_str (s : Str) : strOf (.str s) = s := rfl

theorem sliceBound_int (len dflt : Nat) (i : Int) :
    sliceBound len dflt (.int i) = some (if 0 ≤ i then min i.toNat len else len - min (-i).toNat len) := rfl

theorem sliceBound_none (len dflt : Nat) : sliceBound len dflt .none = some dflt := rfl

theorem op_slice_str (s : Str) (lo hi : PyObj.Val) :
    op_slice (.str s) lo hi =
      match sliceBound s.length 0 lo, sliceBound s.length s.length hi with
      | some l, some h => .ok (.str (sliceList s l h))
      | _, _ => .error .typeError := rfl

/- The cases used here of `pyEq`, `strOf`, `sliceBound` and `op_slice` are tagged as lemmas: tagging the definitions
would generate all their equations (matches over pairs of `Val` constructors, string literals), which is slow. -/
attribute [pyobj] ok PyObj.bind ofP load truthy ifte app1 app2 app3 pass intOf assign pyEq_int pyEq_str op_eq op_ne
  isNone getattr op_is_none op_is_not_none and_ or_ not_ ofOut return_ expr mcall1 mcall2 op_len op_getitem normIdx
  op_add evalList strOf_str strOf_ofInt fstr eff1 eff2 op_slice_str sliceBound_int sliceBound_none sliceList op_mul op_in b_bool setattr

/-- the object is connected and has no recorded error -/
def ReadyObj (o : EBB3_Obj) : Prop := o.port = PyObj.Val.port ∧ o.err = PyObj.Val.none

/-- A conversation of a ready regenerated object over a port on which every write succeeds: the object, the state
outside it, the requests written so far and the number of lines read so far.  What the port will answer is given
apart. -/
structure Conv where
  obj : EBB3_Obj
  ready : ReadyObj obj
  ext : Ext
  log : List Str
  nread : Nat

/-- the world of the conversation when the port is about to answer `reads` -/
def Conv.world (c : Conv) (reads : List PyIO.Rd) : PyObj.World EBB3_Obj := ⟨c.obj, ⟨reads, [], c.log, c.nread⟩, c.ext⟩

/-- after the exchanges of `reqs`: each request went out with its CR, one line was read for each -/
def Conv.sent (c : Conv) (reqs : List Str) : Conv :=
  { c with log := c.log ++ reqs.map (· ++ ['\r']), nread := c.nread + reqs.length }

theorem Conv.sent_sent (c : Conv) (r1 r2 : List Str) : (c.sent r1).sent r2 = c.sent (r1 ++ r2) := by
  simp [Conv.sent, List.append_assoc, Nat.add_assoc]

theorem Conv.sent_nil (c : Conv) : c.sent [] = c := by
  simp [Conv.sent]

/-- the guard `if self.port is None or self.err is not None: return …` falls through -/
theorem guard_ready {σ : Type} (ret : Stmt EBB3_Obj σ) (fuel : Nat) (env : σ) (c : Conv) (reads : List PyIO.Rd) :
    ifte (fun _ _ => or_ (app1 op_is_none (getattr (·.port))) (app1 op_is_not_none (getattr (·.err)))) ret pass
      fuel env (c.world reads) = .norm env (c.world reads) := by
  simp [pyobj, Conv.world, c.ready.1, c.ready.2]

/-- so does the check `if self.err is not None: return …` -/
theorem noerr_ready {σ : Type} (ret : Stmt EBB3_Obj σ) (fuel : Nat) (env : σ) (c : Conv) (reads : List PyIO.Rd) :
    ifte (fun _ _ => app1 op_is_not_none (getattr (·.err))) ret pass fuel env (c.world reads) =
      .norm env (c.world reads) := by
  simp [pyobj, Conv.world, c.ready.2]

/-- One exchange: `self.port.write((text + '\r').encode('ascii'))` followed by
`x = self.port.readline().decode('ascii').strip()` on a reply line. -/
theorem seq_exchange {σ : Type} (fuel : Nat) (env : σ) (c : Conv) (get : σ → PyObj.Val) (set : σ → PyObj.Val → σ)
    (b : Stmt EBB3_Obj σ) {q reply : Str} (hg : get env = .str q) (hq : PyIO.isAscii q = true)
    (hr : PyIO.isAscii reply = true) (rest : List PyIO.Rd) :
    seq (expr (fun _ env => eff2 meth_write (getattr (·.port))
          (app2 meth_encode (app2 op_add (load (get env)) (ok (.str ['\r']))) (ok (.str ['a', 's', 'c', 'i', 'i'])))))
        (seq (assign set (fun _ _ => app1 meth_strip
          (app2 meth_decode (eff1 meth_readline (getattr (·.port))) (ok (.str ['a', 's', 'c', 'i', 'i']))))) b)
      fuel env (c.world (.line reply :: rest)) =
      b fuel (set env (.str (Ebb3.strip reply))) ((c.sent [q]).world rest) := by
  simp [pyobj, seq, Conv.world, Conv.sent, hg, meth_encode, isAscii_append_of hq (b := ['\r']) rfl, meth_write,
    meth_readline, meth_decode, hr, meth_strip, c.ready.1]

/-! Both methods are evaluated statement by statement (`seq_norm`): each step is a small evaluation of one statement
in the environment reached so far, so that no step sees the rest of the method body. -/

namespace ExchA
variable {b b' : Board} {l reply resp : Str}

/-- `EBB3.command(cmd)` on an acknowledged request: one write, one read, `True`, nothing else changes -/
theorem gen_command (h : ExchA b l b' reply resp) (fuel : Nat) (c : Conv) (ls : List Str) (rest : List PyIO.Rd) :
    EBB3_command (fuel + 1) (.str l) (c.world (boardReads b (l :: ls) ++ rest)) =
      .val (.bool true) ((c.sent [l]).world (boardReads (boardAfter b [l]) ls ++ rest)) := by
  obtain ⟨ho, he⟩ := c.ready
  obtain ⟨c0, c1, tl, rfl, hc1, hsw⟩ := h.shape
  have hl0 : ((resp.length : Int) == 0) = false := by
    cases resp with
    | nil => simp [startsWith] at hsw
    | cons a b => simp; omega
  have hs := h.trimmed
  have hresp := h.resp_eq
  rw [← ebb3_strip_eq] at hs hresp
  rw [← ebb3_startsWith_eq] at hsw
  have herr : Ebb3.hasSub ['E', 'r', 'r', ':'] resp = false := (ebb3_hasSub_eq _ _).trans h.noErr
  have hlen : ¬ ((tl.length : Int) + 1 + 1 = 1) := by omega
  rw [h.after [], boardReads, h.recv, List.cons_append, boardAfter_nil]
  unfold EBB3_command EBB3_command_main
  simp only [PyObj.run, block_cons2, block_one]
  rw [seq_skip (by simp [pyobj, Conv.world, EBB3_command_if1, ho, he]),
    seq_skip (by simp [pyobj, meth_strip, hs]),
    seq_env (env' := ⟨.str (c0 :: c1 :: tl), .str [c0, c1], .unbound, .unbound, .unbound⟩) (by
      simp [pyobj, hlen, EBB3_command_if2, EBB3_command_if3, hc1]),
    seq_assign_pure (v := .str []) rfl,
    seq_norm (env' := ⟨.str (c0 :: c1 :: tl), .str [c0, c1], .str resp, .int 0, .unbound⟩)
      (w' := (c.sent [c0 :: c1 :: tl]).world (boardReads b' ls ++ rest)) (by
      unfold tryExcept EBB3_command_try1
      simp only [block_cons2, block_one]
      rw [seq_exchange _ _ c EBB3_command_Env.cmd _ _ rfl h.ascii h.asciiReply]
      simp [pyobj, seq, hresp, EBB3_command_loop1, while_, whileLoop, EBB3_command_test1, hl0, EBB3_command_if4,
        meth_startswith, hsw]),
    seq_skip (by simp [pyobj, Conv.world, EBB3_command_if7, herr])]
  simp [pyobj, Conv.world, Conv.sent, he]

/-- `EBB3.query(qry)` on an answered request whose reply is `XX,<seen>`: one write, one read, `seen` is returned -/
theorem gen_query {seen : Str} (h : ExchA b l b' reply resp) (hresp : resp = l.take 2 ++ ',' :: seen) (fuel : Nat)
    (c : Conv) (ls : List Str) (rest : List PyIO.Rd) :
    EBB3_query (fuel + 1) (.str l) (c.world (boardReads b (l :: ls) ++ rest)) =
      .val (.str seen) ((c.sent [l]).world (boardReads (boardAfter b [l]) ls ++ rest)) := by
  obtain ⟨ho, he⟩ := c.ready
  obtain ⟨c0, c1, tl, rfl, hc1, _⟩ := h.shape
  subst hresp
  have hs := h.trimmed
  have hresp : strip reply = c0 :: c1 :: ',' :: seen := h.resp_eq
  rw [← ebb3_strip_eq] at hs hresp
  have herr : Ebb3.hasSub ['E', 'r', 'r', ':'] (c0 :: c1 :: ',' :: seen) = false := (ebb3_hasSub_eq _ _).trans h.noErr
  have hlen : ¬ ((tl.length : Int) + 1 + 1 = 1) := by omega
  have hl0 : ((seen.length : Int) + 1 + 1 + 1 == 0) = false := by simp; omega
  have hl2 : (2 : Int) < (seen.length : Int) + 1 + 1 + 1 := by omega
  have hsw : Ebb3.startsWith [c0, c1] (c0 :: c1 :: ',' :: seen) = true := by simp [Ebb3.startsWith]
  rw [h.after [], boardReads, h.recv, List.cons_append, boardAfter_nil]
  unfold EBB3_query EBB3_query_main
  simp only [PyObj.run, block_cons2, block_one]
  rw [seq_skip (by simp [pyobj, Conv.world, EBB3_query_if1, ho, he]),
    seq_skip (by simp [pyobj, meth_strip, hs]),
    seq_env (env' := ⟨.str (c0 :: c1 :: tl), .str [c0, c1], .unbound, .unbound, .unbound, .unbound⟩) (by
      simp [pyobj, hlen, EBB3_query_if2, EBB3_query_if3, hc1]),
    seq_assign_pure (v := .str []) rfl,
    seq_norm
      (env' := ⟨.str (c0 :: c1 :: tl), .str [c0, c1], .str (c0 :: c1 :: ',' :: seen), .int 0, .unbound, .unbound⟩)
      (w' := (c.sent [c0 :: c1 :: tl]).world (boardReads b' ls ++ rest)) (by
      unfold tryExcept EBB3_query_try1
      simp only [block_cons2, block_one]
      rw [seq_exchange _ _ c EBB3_query_Env.qry _ _ rfl h.ascii h.asciiReply]
      simp [pyobj, seq, hresp, EBB3_query_loop1, while_, whileLoop, EBB3_query_test1, hl0]),
    seq_skip (by simp [pyobj, Conv.world, EBB3_query_if5, herr, meth_startswith, hsw]),
    seq_assign_pure (v := .int 2) (by simp [pyobj]),
    seq_env
      (env' := ⟨.str (c0 :: c1 :: tl), .str [c0, c1], .str (c0 :: c1 :: ',' :: seen), .int 0, .unbound, .int 3⟩) (by
      simp [pyobj, EBB3_query_if7, EBB3_query_if8, op_gt, ofOptBool, ltVal, hl2])]
  simp [pyobj]

end ExchA
end Plotink.C16
