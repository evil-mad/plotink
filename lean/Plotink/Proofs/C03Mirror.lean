import Plotink.Proofs.C03Model
import Mathlib.Algebra.Group.Int.Even
/-! # C03 — the mirror symmetry `(rate, accel, a0) ↦ (−rate, −accel, 2^31 − 1 − a0)`

Positions change sign, the steps taken are unchanged (`ltPos_mirror`, `ltTaken_mirror` in `Proofs/C03Basic.lean`);
the model is symmetric in the same way, so the branches with negative acceleration (at constant rate: negative
rate) follow from those with positive acceleration (positive rate). -/
namespace Plotink
namespace C03
open Fw

def mir (x : Int × Int × Int) : Int × Int × Int := (x.1, -x.2.1, two31 - 1 - x.2.2)

theorem mir_mir (x : Int × Int × Int) : mir (mir x) = x := by
  obtain ⟨a, b, c⟩ := x; simp [mir]

theorem isFirst_mirror (rate accel a0 n : Int) (T : Nat) :
    IsFirst (-rate) (-accel) (two31 - 1 - a0) n T ↔ IsFirst rate accel a0 n T := by
  unfold IsFirst; simp only [ltTaken_mirror]

theorem ctx_mirror (rate accel a0 n : Int) (T : Nat) (C : Ctx rate accel a0 n T) :
    Ctx (-rate) (-accel) (two31 - 1 - a0) n T := by
  obtain ⟨hn, h0, h1, hF, hR⟩ := C
  refine ⟨hn, by omega, by omega, (isFirst_mirror ..).mpr hF, ?_⟩
  intro k hk hk'
  have := hR k hk hk'
  rw [ltRate_neg]; omega

theorem target_mirror (rate accel a0 : Int) (T : Nat) :
    target (-rate) (-accel) (two31 - 1 - a0) T = mir (target rate accel a0 T) := by
  unfold target mir
  simp only [ltPos_mirror, ltTotal_mirror]
  refine Prod.ext rfl (Prod.ext (by simp; ring) ?_)
  simp only
  generalize ltTotal rate accel T a0 = x
  unfold two31; omega

theorem kk_neg (rate accel : Int) : kk (-rate) (-accel) = -kk rate accel := by
  unfold kk; rw [tdiv_neg]; ring

theorem r1_neg (rate accel : Int) : r1 (-rate) (-accel) = -r1 rate accel := by
  unfold r1; rw [tdiv_neg]; ring

theorem isNeg_neg (rate accel : Int) (hnz : ¬ (rate = 0 ∧ accel = 0)) :
    isNeg (-rate) (-accel) ↔ ¬ isNeg rate accel := by
  unfold isNeg r1; rw [tdiv_neg]
  -- the two differ only where the first rate and the acceleration are both zero
  have : accel = 0 → tdiv accel 2 = 0 := fun h => by subst h; rfl
  omega

theorem adjOf_neg (rate accel a0 : Int) (hnz : ¬ (rate = 0 ∧ accel = 0)) :
    adjOf (-rate) (-accel) (two31 - 1 - a0) = -adjOf rate accel a0 := by
  simp only [adjOf, isNeg_neg rate accel hnz]
  split_ifs <;> ring

theorem tRev_neg (rate accel : Int) : tRev (-rate) (-accel) = tRev rate accel := by
  unfold tRev
  by_cases h1 : 0 < accel ∧ rate < 0
  · rw [if_pos h1, if_neg (by omega), if_pos (by omega)]
    congr 1 <;> ring
  · rw [if_neg h1]
    by_cases h2 : accel < 0 ∧ 0 < rate
    · rw [if_pos h2, if_pos (by omega)]
      congr 1 <;> ring
    · rw [if_neg h2, if_neg (by omega), if_neg (by omega)]

theorem sRev2_neg (rate accel a0 : Int) (hnz : ¬ (rate = 0 ∧ accel = 0)) :
    sRev2 (-rate) (-accel) (two31 - 1 - a0) = -sRev2 rate accel a0 := by
  unfold sRev2; simp only [tRev_neg, kk_neg, adjOf_neg rate accel a0 hnz]; ring

theorem sRev_neg (rate accel a0 : Int) (hnz : ¬ (rate = 0 ∧ accel = 0)) :
    sRev (-rate) (-accel) (two31 - 1 - a0) = sRev rate accel a0 := by
  unfold sRev; rw [tRev_neg, sRev2_neg rate accel a0 hnz, Int.natAbs_neg]

theorem noRev_neg (n rate accel a0 : Int) (hnz : ¬ (rate = 0 ∧ accel = 0)) :
    noRev n (-rate) (-accel) (two31 - 1 - a0) ↔ noRev n rate accel a0 := by
  unfold noRev; rw [tRev_neg, r1_neg, sRev_neg rate accel a0 hnz]
  constructor <;> (rintro (h | h | h) <;> omega)

theorem accel_ne_zero_of_rev {n rate accel a0 : Int} (h : ¬ noRev n rate accel a0) : accel ≠ 0 := by
  rintro rfl; exact h (Or.inl (by simp [tRev]))

theorem tRevEff_neg (n rate accel a0 : Int) (hnz : ¬ (rate = 0 ∧ accel = 0)) :
    tRevEff n (-rate) (-accel) (two31 - 1 - a0) = tRevEff n rate accel a0 := by
  unfold tRevEff; simp only [noRev_neg n rate accel a0 hnz, tRev_neg]

theorem posFinal_neg (n rate accel a0 : Int) (hnz : ¬ (rate = 0 ∧ accel = 0)) :
    posFinal n (-rate) (-accel) (two31 - 1 - a0) = -posFinal n rate accel a0 := by
  unfold posFinal
  simp only [noRev_neg n rate accel a0 hnz, sRev_neg rate accel a0 hnz, isNeg_neg rate accel hnz]
  by_cases hnr : noRev n rate accel a0
  · simp only [hnr, if_true]; split_ifs <;> ring
  · have := accel_ne_zero_of_rev hnr
    simp only [hnr, if_false]; split_ifs <;> omega

theorem posAdj_neg (n rate accel a0 : Int) (hnz : ¬ (rate = 0 ∧ accel = 0)) :
    posAdj n (-rate) (-accel) (two31 - 1 - a0) = -posAdj n rate accel a0 := by
  unfold posAdj
  simp only [noRev_neg n rate accel a0 hnz, posFinal_neg n rate accel a0 hnz]
  by_cases hnr : noRev n rate accel a0
  · simp only [hnr, if_true]
  · have := accel_ne_zero_of_rev hnr
    simp only [hnr, if_false]; split_ifs <;> omega

theorem cFactor_neg (n rate accel a0 : Int) (hnz : ¬ (rate = 0 ∧ accel = 0)) :
    cFactor n (-rate) (-accel) (two31 - 1 - a0) = -cFactor n rate accel a0 := by
  unfold cFactor
  simp only [tRevEff_neg n rate accel a0 hnz, posAdj_neg n rate accel a0 hnz, adjOf_neg rate accel a0 hnz]
  by_cases hte : 0 < tRevEff n rate accel a0
  · have : accel ≠ 0 := accel_ne_zero_of_rev fun h => by rw [tRevEff, if_pos h] at hte; omega
    simp only [hte, if_true]; unfold two31; split_ifs <;> omega
  · simp only [hte, if_false]; ring

theorem linTime_neg (rate num : Int) (hr : rate ≠ 0) : linTime (-rate) (-num) = linTime rate num := by
  unfold linTime
  rcases lt_or_gt_of_ne hr with h | h
  · rw [if_pos (by omega), if_neg (by omega)]
  · rw [if_neg (by omega), if_pos h]; simp

theorem timeFinal_neg (n rate accel a0 : Int) (hnz : ¬ (rate = 0 ∧ accel = 0)) :
    timeFinal n (-rate) (-accel) (two31 - 1 - a0) = timeFinal n rate accel a0 := by
  unfold timeFinal
  by_cases ha : accel = 0
  · rw [if_pos (by omega), if_pos ha, posFinal_neg n rate accel a0 hnz, adjOf_neg rate accel a0 hnz]
    have hr : rate ≠ 0 := fun h => hnz ⟨h, ha⟩
    rw [← linTime_neg rate _ hr]
    congr 1; ring
  · rw [if_neg (by omega), if_neg ha, kk_neg, cFactor_neg n rate accel a0 hnz,
      tRevEff_neg n rate accel a0 hnz, quadTime_neg accel _ _ _ ha]

theorem kt_even (rate accel t : Int) :
    ∃ m, kk rate accel * t + accel * t * t = 2 * m := by
  obtain ⟨r, hr⟩ := Int.even_mul_succ_self t
  have e : accel * (t * (t + 1)) = accel * (r + r) := by rw [hr]
  exact ⟨(rate - tdiv accel 2) * t + accel * r, by unfold kk; linarith⟩

theorem accFinal_neg (rate accel a0 pos t : Int) :
    accFinal (-rate) (-accel) (two31 - 1 - a0) (-pos) t = two31 - 1 - accFinal rate accel a0 pos t := by
  unfold accFinal
  obtain ⟨m, hm⟩ := kt_even rate accel t
  have e : kk (-rate) (-accel) * t + -accel * t * t = 2 * (-m) := by
    rw [kk_neg]; linarith
  rw [e, hm, Int.mul_ediv_cancel_left _ (by decide : (2 : Int) ≠ 0),
    Int.mul_ediv_cancel_left _ (by decide : (2 : Int) ≠ 0)]
  ring

theorem lmPosA_neg (n rate accel a0 : Int) (hnz : ¬ (rate = 0 ∧ accel = 0)) :
    lmPosA n (-rate) (-accel) (two31 - 1 - a0) = mir (lmPosA n rate accel a0) := by
  unfold lmPosA mir
  simp only [timeFinal_neg n rate accel a0 hnz, posFinal_neg n rate accel a0 hnz, accFinal_neg]

theorem lmPosA_of_mirror (rate accel a0 n : Int) (T : Nat) (hnz : ¬ (rate = 0 ∧ accel = 0))
    (h : lmPosA n (-rate) (-accel) (two31 - 1 - a0) = target (-rate) (-accel) (two31 - 1 - a0) T) :
    lmPosA n rate accel a0 = target rate accel a0 T := by
  rw [lmPosA_neg n rate accel a0 hnz, target_mirror] at h
  have := congrArg mir h
  rwa [mir_mir, mir_mir] at this

/-- **C03, model level**: for a positive budget and a start accumulator in range, if `T` is the first tick
exhausting the budget and the rates up to `T` are in range, the model returns
`(T, pos_T − pos_0, tot_T mod 2^31)` — every branch. -/
theorem lmPosA_correct (rate accel a0 n : Int) (T : Nat) (hnz : ¬ (rate = 0 ∧ accel = 0))
    (C : Ctx rate accel a0 n T) : lmPosA n rate accel a0 = target rate accel a0 T := by
  have C' := ctx_mirror rate accel a0 n T C
  rcases lt_trichotomy accel 0 with ha | ha | ha
  · exact lmPosA_of_mirror rate accel a0 n T hnz (lmPosA_up _ _ _ n T (by omega) C')
  · rcases lt_trichotomy rate 0 with hr | hr | hr
    · exact lmPosA_of_mirror rate accel a0 n T hnz (lmPosA_const _ _ _ n T (by omega) (by omega) C')
    · exact absurd ⟨hr, ha⟩ hnz
    · exact lmPosA_const rate accel a0 n T ha hr C
  · exact lmPosA_up rate accel a0 n T ha C

end C03
end Plotink
