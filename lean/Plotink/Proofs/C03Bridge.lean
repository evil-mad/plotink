import Plotink.Proofs.C03BridgeStage
import Plotink.Proofs.C03Top
import Plotink.Proofs.C03BridgeNum
/-! # C03 numeric bridge: the generated `calculate_lm` computes the exact integer model

The stage lemmas evaluate each block of the staged composition `G.staged` (`Proofs/C03BridgeStage.lean`) under
the rounding contract; `bridge_pos` assembles them. An exact stage is proved by building, with the closure lemmas
of `Dy` (`Proofs/Contract.lean`), one fact per rounding site — its argument is dyadic and below `2^103` — so that
a single `simp only` removes every site and one ring identity is left. The step that ties `G.staged` to the regenerated text
(`Gen.calculate_lm … = G.staged …`, by `rfl`) is made inside `C03_bridge` and `C03_legacy_mirror` of `Props/C03.lean`, so
that a change of the source is attributed to those theorems. -/
namespace Plotink
namespace C03
open Py Py.Val Fw

theorem le_int_int (a b : Int) : Py.le (.int a) (.int b) = decide (a ≤ b) := Py.le_int_int a b

/-- a stage that returns a tuple is described by the component that is used later -/
theorem exists_snd {α β : Type} {p : α × β} {b : β} (h : p.2 = b) : ∃ a, p = (a, b) := ⟨p.1, Prod.ext rfl h⟩

theorem exists_fst {α β : Type} {p : α × β} {P : α → Prop} (h : P p.1) : ∃ a r, p = (a, r) ∧ P a :=
  ⟨p.1, p.2, rfl, h⟩

section
variable {R : Rounding} (hR : ContractExact R)
include hR

theorem st_rateEff (rate accel : Int) (hr : |rate| ≤ 2 ^ 32) (ha : |accel| ≤ 2 ^ 32) :
    G.rateEff R 103 (.int rate) (.int accel) = .mpf ((kk rate accel : Int) / 2 : Rat) := by
  have h2 : ((2 : Int) : Rat) ≠ 0 := by norm_num
  have d1 := Dy.int accel ha
  have d2 := d1.half
  have d3 := (Dy.int rate hr).lift.add d2
  have d4 := d3.sub (Dy.int (tdiv accel 2) ((tdiv2_bound accel).trans ha)).lift
  unfold G.rateEff
  simp only [mpf_int, div_mpf_int _ _ _ _ h2, div_int_int _ _ _ _ h2, int_flt, add_int_mpf, sub_mpf_int,
    Int.cast_ofNat, half_exact hR accel ha, intOfRat_half, d1.mp_eq hR, d2.mp_eq hR,
    d3.mp_eq hR, d4.mp_eq hR]
  congr 1; unfold kk; push_cast; ring

theorem st_tempRate (rate accel : Int) (ha : |accel| ≤ 2 ^ 32) :
    G.tempRate R 103 (.int rate) (.int accel) = .int (r1 rate accel) := by
  have h2 : ((2 : Int) : Rat) ≠ 0 := by norm_num
  unfold G.tempRate r1
  simp only [div_int_int _ _ _ _ h2, int_flt, Int.cast_ofNat, half_exact hR accel ha, intOfRat_half,
    sub_int_int, add_int_int]
end

theorem st_irn (rate accel : Int) :
    G.irn (.int (r1 rate accel)) (.int accel) = .bool_ (decide (isNeg rate accel)) := by
  unfold G.irn isNeg
  simp only [lt_int_int, eq_int_int]
  by_cases h1 : r1 rate accel < 0
  · simp [h1]
  · by_cases h2 : r1 rate accel = 0
    · by_cases h3 : accel < 0
      · simp [h2, h3]
      · simp [h2, h3]
    · simp [h1, h2]

/-- the accumulator argument as a Python value -/
def accArg : Option Int → Py.Val
  | some a => .int a
  | none => .str "clear"

theorem st_accum (rate accel : Int) (acc : Option Int) :
    G.accum (accArg acc) (.bool_ (decide (isNeg rate accel))) = .int (startAcc rate accel acc) := by
  unfold G.accum
  cases acc with
  | some a => simp [accArg, startAcc, eq_int_str, int_int]
  | none =>
    have hs : Py.eq (.str "clear") (.str "clear") = true := by decide
    simp only [accArg, startAcc, hs, if_true, Py.truthy]
    by_cases h : isNeg rate accel
    · simp [h, two31]
    · simp [h]

theorem st_accumAdj (R : Rounding) (rate accel a0 : Int) :
    G.accumAdj R 103 (.int a0) (.bool_ (decide (isNeg rate accel))) = .int (adjOf rate accel a0) := by
  unfold G.accumAdj adjOf
  simp only [Py.truthy]
  by_cases h : isNeg rate accel
  · simp [h, sub_int_int, two31]
  · simp [h]

theorem tRev_floor {R : Rounding} (hR : ContractBasic R) (rate accel : Int) (hr : |rate| ≤ 2 ^ 32)
    (ha : |accel| ≤ 2 ^ 32) (h : (0 < accel ∧ rate < 0) ∨ (accel < 0 ∧ 0 < rate)) :
    (R.f64 ((1 : Rat) / 2 - R.f64 ((rate : Rat) / (accel : Rat)))).floor = tRev rate accel := by
  rw [abs_le] at hr ha
  unfold tRev
  rcases h with h | h
  · rw [if_pos h, show (rate : Rat) / accel = -((-rate : Int) : Rat) / accel by push_cast; ring,
      trev_num hR (-rate) accel (by omega) (by omega) (by omega) (by omega)]
    congr 1; ring
  · rw [if_neg (by omega), if_pos h,
      show (rate : Rat) / accel = -(rate : Rat) / ((-accel : Int) : Rat) by push_cast; rw [neg_div_neg_eq],
      trev_num hR rate (-accel) (by omega) (by omega) (by omega) (by omega)]
    congr 1 <;> ring

theorem st_tRevPair {R : Rounding} (hR : ContractBasic R) (rate accel : Int) (hr : |rate| ≤ 2 ^ 32)
    (ha : |accel| ≤ 2 ^ 32) :
    ∃ ts, G.tRevPair R 103 (.int rate) (.int accel) = (ts, .int (tRev rate accel)) := by
  apply exists_snd
  have hc : (decide (accel ≠ 0) && decide (rate ≠ 0) && (decide (0 < accel) != decide (0 < rate))) = true ↔
      ((0 < accel ∧ rate < 0) ∨ (accel < 0 ∧ 0 < rate)) := by
    simp only [Bool.and_eq_true, decide_eq_true_eq, bne_iff_ne, ne_eq, decide_eq_decide]
    omega
  unfold G.tRevPair
  simp only [ne_int_int, gt_int_int]
  by_cases h : (0 < accel ∧ rate < 0) ∨ (accel < 0 ∧ 0 < rate)
  · have haq : (accel : Rat) ≠ 0 := by exact_mod_cast (by omega : accel ≠ 0)
    rw [if_pos (hc.mpr h)]
    simp only [div_int_int _ _ _ _ haq, sub_flt_flt, Py.math_floor, tRev_floor hR rate accel hr ha h]
  · rw [if_neg (mt hc.mp h)]
    unfold tRev
    rw [if_neg fun h' => h (Or.inl h'), if_neg fun h' => h (Or.inr h')]

theorem kk_bound (rate accel : Int) (hr : |rate| ≤ 2 ^ 32) (ha : |accel| ≤ 2 ^ 32) : |kk rate accel| ≤ 2 ^ 35 := by
  have hhb : |tdiv accel 2| ≤ 2 ^ 32 := le_trans (tdiv2_bound accel) ha
  unfold kk
  rw [abs_le] at *
  constructor <;> omega

theorem tRev_bound (rate accel : Int) (hr : |rate| ≤ 2 ^ 32) : tRev rate accel ≤ 2 ^ 33 := by
  rw [abs_le] at hr
  unfold tRev
  split_ifs with h1 h2
  · exact Int.ediv_le_of_le_mul (by omega) (by omega)
  · exact Int.ediv_le_of_le_mul (by omega) (by omega)
  · omega

theorem adjOf_bound (rate accel a0 : Int) (h0 : 0 ≤ a0) (h1 : a0 < 2 ^ 31) : |adjOf rate accel a0| < 2 ^ 31 := by
  unfold adjOf two31
  rw [abs_lt]
  split_ifs <;> constructor <;> omega

theorem st_sRevPair {R : Rounding} (hR : ContractExact R) (rate accel a0 : Int) (hr : |rate| ≤ 2 ^ 32)
    (ha : |accel| ≤ 2 ^ 32) (h0 : 0 ≤ a0) (h1 : a0 < 2 ^ 31) :
    ∃ ss, G.sRevPair R 103 (.mpf ((kk rate accel : Int) / 2 : Rat)) (.int accel) (.int (tRev rate accel))
        (.int (adjOf rate accel a0)) = (ss, .int (sRev rate accel a0)) := by
  apply exists_snd
  unfold G.sRevPair sRev
  simp only [gt_int_int]
  by_cases hτ : 0 < tRev rate accel
  · simp only [hτ, decide_true, if_true]
    have h31 : ((2147483648 : Int) : Rat) ≠ 0 := by norm_num
    have e31 : ((2147483648 : Int) : Rat) = 2 ^ 31 := by norm_num
    have dτ := Dy.int (tRev rate accel) (abs_le.mpr ⟨by omega, tRev_bound rate accel hr⟩)
    have d1 := (Dy.int _ (kk_bound rate accel hr ha)).half.mul dτ
    have d2 := Dy.one_half.mul (Dy.int accel ha)
    have d3 := d2.mul dτ
    have d4 := d3.mul dτ
    have d5 := d1.add d4
    have d6 := d5.add (Dy.int _ (adjOf_bound rate accel a0 h0 h1).le).lift
    have d7 := d6.div_pow 31
    simp only [mul_mpf_int, add_mpf_mpf, add_mpf_int, div_mpf_int _ _ _ _ h31, Py.mp_fabs, floor_mpf, int_mpf, e31,
      Dy.one_half.mp_eq hR, d1.mp_eq hR, d2.mp_eq hR,
      d3.mp_eq hR, d4.mp_eq hR, d5.mp_eq hR, d6.mp_eq hR,
      d7.mp_eq hR]
    have hX : ((kk rate accel : Int) : Rat) / 2 * (tRev rate accel : Int) + 1 / 2 * (accel : Rat) * (tRev rate accel : Int)
        * (tRev rate accel : Int) + (adjOf rate accel a0 : Int) = ((sRev2 rate accel a0 : Int) : Rat) / 2 := by
      simp only [sRev2]; push_cast; ring
    rw [hX, div_div, show (2 : Rat) * 2 ^ 31 = 2 ^ 32 by norm_num, floor_fabs, intOfRat_int]
    rfl
  · simp only [hτ, decide_false, if_false, Bool.false_eq_true]

theorem st_branch (R : Rounding) (n rate accel a0 : Int) :
    ∃ z : Py.Val × Py.Val,
      G.branch R 103 (.int n) (.int accel) (.int (r1 rate accel)) (.bool_ (decide (isNeg rate accel)))
        (.int (tRev rate accel)) (.int (sRev rate accel a0))
      = (.int (tRevEff n rate accel a0), .int (posFinal n rate accel a0), .int (posAdj n rate accel a0), z) := by
  have hc : (decide (tRev rate accel < 1) || decide (tRev rate accel = 1) && decide (r1 rate accel = 0) ||
      decide (n ≤ sRev rate accel a0)) = true ↔ noRev n rate accel a0 := by
    unfold noRev
    simp only [Bool.or_eq_true, Bool.and_eq_true, decide_eq_true_eq, or_assoc]
  unfold G.branch
  simp only [lt_int_int, eq_int_int, ge_int_int, gt_int_int, Py.truthy,
    sub_int_int, add_int_int, mul_int_int, Py.neg, hc, decide_eq_true_eq, tRevEff, posAdj, posFinal]
  by_cases hnr : noRev n rate accel a0
  · simp only [hnr, if_true]
    by_cases hneg : isNeg rate accel <;> simp only [hneg, if_true, if_false] <;> exact ⟨_, rfl⟩
  · simp only [hnr, if_false]
    -- the generated code computes `s_rev − (steps − s_rev)`
    have e : ∀ s : Int, s - (n - s) = 2 * s - n := fun s => by ring
    by_cases hs : sRev rate accel a0 = 0 <;> by_cases ha : 0 < accel <;>
      simp only [hs, ha, if_true, if_false, neg_one_mul, e] <;> exact ⟨_, rfl⟩

def IsIntVal (v : Py.Val) (z : Int) : Prop := v = .int z ∨ v = .mpf (z : Rat)

theorem IsIntVal.num {v : Py.Val} {z : Int} (h : IsIntVal v z) : Py.num v = (z : Rat) := by
  rcases h with rfl | rfl <;> rfl

theorem IsIntVal.gt0 {v : Py.Val} {z : Int} (h : IsIntVal v z) : Py.gt v (.int 0) = decide (0 < z) := by
  have e : Py.num (.int 0) = ((0 : Int) : Rat) := rfl
  rw [Py.gt, h.num, e]; simp

theorem IsIntVal.lt {v w : Py.Val} {z y : Int} (h : IsIntVal v z) (h' : IsIntVal w y) :
    Py.lt v w = decide (z < y) := by
  rw [Py.lt, h.num, h'.num]; simp

theorem IsIntVal.le_int {v : Py.Val} {z : Int} (h : IsIntVal v z) (t : Int) :
    Py.le v (.int t) = decide (z ≤ t) := by
  have e : Py.num (.int t) = (t : Rat) := rfl
  rw [Py.le, h.num, e]; simp

theorem IsIntVal.int_ {v : Py.Val} {z : Int} (h : IsIntVal v z) : Py.int_ v = .int z := by
  rcases h with rfl | rfl
  · rfl
  · simp [Py.int_, intOfRat_int]

theorem IsIntVal.ceil {v : Py.Val} {z : Int} (h : IsIntVal v z) : Py.int_ (Py.mp_ceil v) = .int z := by
  rcases h with rfl | rfl
  · simp [Py.mp_ceil, Py.int_, intOfRat_int]
  · simp [Py.mp_ceil, Py.int_, ceilRat_int, intOfRat_int]

section
variable {R : Rounding} (hR : ContractBasic R)
include hR

theorem st_timeLin (rate adj pf : Int) (hr0 : rate ≠ 0) (hr : |rate| ≤ 2 ^ 32) (hadj : |adj| < 2 ^ 31)
    (hpf : |pf| ≤ 2 ^ 31) :
    IsIntVal (Py.mp_ceil (G.timeLin R 103 (.int rate) (.int adj) (.int pf))) (linTime rate (two31 * pf - adj)) := by
  have hE := hR.toContractExact
  have e1 : R.mp 103 (adj : Rat) = adj := mp_int hE adj (lt_trans hadj (by norm_num))
  have e2 : R.mp 103 (rate : Rat) = rate := mp_int hE rate (lt_of_le_of_lt hr (by norm_num))
  have hrq : (rate : Rat) ≠ 0 := by exact_mod_cast hr0
  have bx : |two31 * pf - adj| ≤ 2 ^ 64 := by
    unfold two31
    rw [abs_lt] at hadj
    rw [abs_le] at *
    constructor <;> omega
  have e3 := mp_int_eq hE (((2147483648 * pf : Int) : Rat) - (adj : Rat)) (two31 * pf - adj)
    (by unfold two31; push_cast; ring) (bx.trans_lt (by norm_num))
  unfold G.timeLin
  simp only [mul_int_int, mpf_int, sub_int_mpf, e1, e2, e3, div_mpf_mpf _ _ _ _ hrq, ceil_mpf]
  right
  congr 2
  unfold linTime
  rcases lt_or_gt_of_ne hr0 with h | h
  · rw [if_neg (by omega)]
    have : ((two31 * pf - adj : Int) : Rat) / (rate : Rat) = ((-(two31 * pf - adj) : Int) : Rat) / ((-rate : Int) : Rat) := by
      push_cast; rw [neg_div_neg_eq]
    rw [this]
    rw [abs_le] at hr
    exact divCeilLin hR _ _ (by omega) (by omega) (by rwa [abs_neg])
  · rw [if_pos h]
    rw [abs_le] at hr
    exact divCeilLin hR _ _ h (by omega) bx

theorem st_cFactor0 (adj pa : Int) (hadj : |adj| < 2 ^ 31) (hpa : |pa| ≤ 2 ^ 31 + 1) :
    G.cFactor0 R 103 (.int adj) (.int pa) = .mpf ((adj - pa * two31 : Int) : Rat) := by
  have d1 := Dy.int pa hpa
  have d2 := d1.mul (Dy.int 2147483648 (le_of_eq (abs_of_nonneg (by norm_num))))
  have d3 := (Dy.int adj hadj.le).sub d2
  unfold G.cFactor0
  simp only [mpf_int, mul_mpf_int, sub_int_mpf, d1.mp_eq hR.toContractExact, d2.mp_eq hR.toContractExact,
    d3.mp_eq hR.toContractExact]
  congr 1; unfold two31; push_cast; rfl

/-- `c_factor` of the model, from `c0 = accum_adj − pos_f_adj·2^31` -/
def cOf (a τe c0 : Int) : Int := if 0 < τe then (if 0 < a then c0 - 1 else c0 + 1) else c0

theorem st_cFactor (a τe c0 : Int) (hc0 : |c0| ≤ 2 ^ 63) :
    G.cFactor R 103 (.int a) (.int τe) (.mpf (c0 : Rat)) = .mpf ((cOf a τe c0 : Int) : Rat) := by
  have hE := hR.toContractExact
  unfold G.cFactor cOf
  simp only [gt_int_int]
  rw [abs_le] at hc0
  by_cases h1 : 0 < τe
  · by_cases h2 : 0 < a
    · simp only [h1, h2, decide_true, if_true, add_mpf_int]
      rw [mp_int_eq hE _ (c0 - 1) (by push_cast; ring) (by rw [abs_lt]; constructor <;> omega)]
    · simp only [h1, h2, decide_true, decide_false, if_true, if_false, Bool.false_eq_true, add_mpf_int]
      rw [mp_int_eq hE _ (c0 + 1) (by push_cast; ring) (by rw [abs_lt]; constructor <;> omega)]
  · simp only [h1, decide_false, if_false, Bool.false_eq_true]

theorem st_disc (a K c : Int) (ha : |a| ≤ 2 ^ 32) (hK : |K| ≤ 2 ^ 35) (hc : |c| ≤ 2 ^ 63 + 1) :
    G.disc R 103 (.mpf ((K : Rat) / 2)) (.mpf (a : Rat)) (.mpf (c : Rat))
      = .mpf (((K * K - 8 * a * c : Int) : Rat) / 4) := by
  have dK := (Dy.int K hK).half
  have d1 := dK.mul dK
  have d2 := (Dy.int 2 (le_of_eq (abs_of_nonneg (by norm_num)))).mul (Dy.int a ha)
  have d3 := d2.mul (Dy.int c hc)
  have d4 := d1.sub d3.lift.lift
  unfold G.disc
  simp only [mul_mpf_mpf, mul_int_mpf, sub_mpf_mpf, d1.mp_eq hR.toContractExact, d2.mp_eq hR.toContractExact,
    d3.mp_eq hR.toContractExact, d4.mp_eq hR.toContractExact]
  congr 1; push_cast; ring

end

theorem c0_bound (adj pa : Int) (hadj : |adj| < 2 ^ 31) (hpa : |pa| ≤ 2 ^ 31 + 1) : |adj - pa * two31| ≤ 2 ^ 63 := by
  unfold two31
  rw [abs_lt] at hadj
  rw [abs_le] at hpa ⊢
  constructor <;> omega

theorem cOf_bound (a τe c0 : Int) (h : |c0| ≤ 2 ^ 63) : |cOf a τe c0| ≤ 2 ^ 63 + 1 := by
  unfold cOf
  rw [abs_le] at h ⊢
  split_ifs <;> constructor <;> omega

theorem disc_lt (a K c : Int) (ha : |a| ≤ 2 ^ 32) (hK : |K| ≤ 2 ^ 35) (hc : |c| ≤ 2 ^ 63 + 1) :
    K * K - 8 * a * c < 2 ^ 100 := by
  have b1 := abs_mul_le hK hK
  have b3 := abs_mul_le (abs_mul_le (by norm_num : |(8 : Int)| ≤ 8) ha) hc
  have := abs_sub (K * K) (8 * a * c)
  have := le_abs_self (K * K - 8 * a * c)
  have : (2 : Int) ^ 35 * 2 ^ 35 + 8 * 2 ^ 32 * (2 ^ 63 + 1) < 2 ^ 100 := by norm_num
  linarith

/-- the test that guards the square-root block -/
theorem rootsCond (D a : Int) (ha : a ≠ 0) :
    (Py.ge (.mpf ((D : Rat) / 4)) (.int 0) && Py.ne (.mpf (a : Rat)) (.int 0)) = decide (0 ≤ D) := by
  have h : (0 : Rat) ≤ (D : Rat) / 4 ↔ 0 ≤ D := by
    rw [le_div_iff₀ (by norm_num), zero_mul, Int.cast_nonneg_iff]
  simp [Py.ge, Py.ne, Py.eq, Py.num, ha, h]

theorem st_roots {R : Rounding} (hR : Contract R) (a K c τe : Int) (s n p : Py.Val)
    (ha0 : a ≠ 0) (ha : |a| ≤ 2 ^ 32) (hK : |K| ≤ 2 ^ 35)
    (hD0 : 0 ≤ K * K - 8 * a * c) (hDb : K * K - 8 * a * c < 2 ^ 100) :
    ∃ x nrV prV, G.rootsTriple R 103 (.mpf ((K : Rat) / 2)) (.mpf (a : Rat)) (.int τe)
        (.mpf (((K * K - 8 * a * c : Int) : Rat) / 4)) s n p = (x, nrV, prV) ∧
      IsIntVal nrV (discard τe (nr0Of a K (K * K - 8 * a * c))) ∧
      IsIntVal prV (discard τe (pr0Of a K (K * K - 8 * a * c))) := by
  have haq : (a : Rat) ≠ 0 := by exact_mod_cast ha0
  have hDq : (0 : Rat) ≤ ((K * K - 8 * a * c : Int) : Rat) / 4 :=
    div_nonneg (by exact_mod_cast hD0) (by norm_num)
  have hsq : Py.mp_sqrt R 103 (.mpf (((K * K - 8 * a * c : Int) : Rat) / 4))
      = .mpf (R.mpSqrt 103 (((K * K - 8 * a * c : Int) : Rat) / 4)) := by
    simp only [Py.mp_sqrt, Py.kind, Py.num, not_lt.mpr hDq, if_false]
  have l1 : ∀ z t : Int, Py.le (.mpf (z : Rat)) (.int t) = decide (z ≤ t) := fun z t =>
    IsIntVal.le_int (Or.inr rfl) t
  have hdis : ∀ x : Int, IsIntVal (if (decide (0 < τe) && decide (x ≤ τe)) = true then .int (-1) else .mpf (x : Rat))
      (discard τe x) := by
    intro x
    unfold discard
    by_cases h : 0 < τe ∧ x ≤ τe
    · rw [if_pos h, if_pos (by simpa using h)]; exact Or.inl rfl
    · rw [if_neg h, if_neg (by simpa using h)]; exact Or.inr rfl
  unfold G.rootsTriple
  rw [if_pos ((rootsCond _ a ha0).trans (decide_eq_true hD0))]
  simp only [hsq, Py.neg, sub_mpf_mpf, add_mpf_mpf, div_mpf_mpf _ _ _ _ haq, ceil_mpf, gt_int_int, l1,
    ceil_roots hR a K c ha0 ha hK hD0 hDb]
  exact ⟨_, _, _, rfl, hdis _, hdis _⟩

theorem st_pickTime (nrV prV : Py.Val) (nr pr : Int) (h1 : IsIntVal nrV nr) (h2 : IsIntVal prV pr) :
    IsIntVal (G.pickTime nrV prV (.int 0)) (pick nr pr) := by
  unfold G.pickTime pick
  simp only [h1.gt0, h2.gt0, h2.lt h1]
  by_cases a : 0 < pr <;> by_cases b : 0 < nr <;> by_cases c : pr < nr <;>
    simp [a, b, c, h1, h2] <;> first | exact h1 | exact h2 | exact Or.inl rfl

theorem linTime_bound (rate x : Int) (hr : rate ≠ 0) : |linTime rate x| ≤ |x| + 1 := by
  unfold linTime
  split_ifs with h
  · exact cdiv_abs_le x rate h
  · have := cdiv_abs_le (-x) (-rate) (by omega); rwa [abs_neg] at this

theorem env_of_small (a m : Int) (ha : |a| ≤ 2 ^ 32) (h1 : |m| ≤ 2 ^ 50) (h2 : |a * (m - 1)| ≤ 2 ^ 50) :
    |m| ≤ 2 ^ 64 ∧ |a * m * m| ≤ 2 ^ 102 := by
  refine ⟨le_trans h1 (by norm_num), ?_⟩
  have e : a * m * m = a * (m - 1) * m + (a * (m - 1) + a) := by ring
  rw [e]
  have b1 : |a * (m - 1) * m| ≤ 2 ^ 50 * 2 ^ 50 := abs_mul_le h2 h1
  have b2 := abs_add_le (a * (m - 1)) a
  have b3 := abs_add_le (a * (m - 1) * m) (a * (m - 1) + a)
  have : (2 : Int) ^ 50 * 2 ^ 50 + (2 ^ 50 + 2 ^ 32) ≤ 2 ^ 102 := by norm_num
  linarith

/-- the duration block; the duration comes with the range in which the last stage (`st_final`) is exact -/
theorem st_timeTuple {R : Rounding} (hC : Contract R) (rate a K adj τe pf pa t : Int)
    (ht : t = if a = 0 then linTime rate (two31 * pf - adj) else quadTime a K (cOf a τe (adj - pa * two31)) τe)
    (hnz : a = 0 → rate ≠ 0) (hr : |rate| ≤ 2 ^ 32) (ha : |a| ≤ 2 ^ 32) (hK : |K| ≤ 2 ^ 35)
    (hadj : |adj| < 2 ^ 31) (hpf : |pf| ≤ 2 ^ 31) (hpa : |pa| ≤ 2 ^ 31 + 1) :
    ∃ tfs rest, G.timeTuple R 103 (.int rate) (.int a) (.mpf ((K : Rat) / 2)) (.int adj) (.int τe)
        (.int pf) (.int pa) = (tfs, rest) ∧
      (Py.int_ (Py.mp_ceil tfs) = .int t ∧ |t| ≤ 2 ^ 64 ∧ |a * t * t| ≤ 2 ^ 102) := by
  apply exists_fst
  have hR := hC.toContractBasic
  have hE := hR.toContractExact
  unfold G.timeTuple
  simp only [eq_int_int]
  by_cases ha0 : a = 0
  · rw [if_pos ha0] at ht
    simp only [ha0, decide_true, if_true, zero_mul, abs_zero, ht]
    refine ⟨(st_timeLin hR rate adj pf (hnz ha0) hr hadj hpf).int_, ?_, by norm_num⟩
    have := linTime_bound rate (two31 * pf - adj) (hnz ha0)
    have bx : |two31 * pf - adj| ≤ 2 ^ 63 := by
      unfold two31
      rw [abs_lt] at hadj
      rw [abs_le] at hpf ⊢
      constructor <;> omega
    linarith
  · rw [if_neg ha0] at ht
    simp only [ha0, decide_false, if_false, Bool.false_eq_true, ht]
    have bc0 := c0_bound adj pa hadj hpa
    have bc := cOf_bound a τe _ bc0
    have bD := disc_lt a K _ ha hK bc
    simp only [mpf_int, mp_int hE a (ha.trans_lt (by norm_num)), st_cFactor0 hR adj pa hadj hpa, st_cFactor hR a τe _ bc0,
      st_disc hR a K _ ha hK bc]
    generalize cOf a τe (adj - pa * two31) = c at bD ⊢
    rw [quadTime_eq]
    by_cases hD : K * K - 8 * a * c < 0
    · rw [if_pos hD]
      unfold G.rootsTriple
      rw [if_neg (by rw [rootsCond _ a ha0, decide_eq_true_eq]; exact not_le.mpr hD)]
      exact ⟨(st_pickTime _ _ (-1) (-1) (Or.inl rfl) (Or.inl rfl)).ceil, by norm_num, by norm_num⟩
    · rw [if_neg hD]
      obtain ⟨x, nrV, prV, hrt, r1, r2⟩ :=
        st_roots hC a K c τe .err (.int (-1)) (.int (-1)) ha0 ha hK (by omega) bD
      rw [hrt]
      refine ⟨(st_pickTime nrV prV _ _ r1 r2).ceil, ?_⟩
      obtain ⟨⟨n1, n2⟩, ⟨p1, p2⟩⟩ := roots_bounds a K _ ha0 ha hK (by omega) bD
      rcases pick_cases (discard τe (nr0Of a K (K * K - 8 * a * c)))
          (discard τe (pr0Of a K (K * K - 8 * a * c))) with h | ⟨h, hp⟩ | ⟨h, hp⟩
      · rw [h]; norm_num
      · rw [h, discard_of_pos hp]; exact env_of_small a _ ha n1 n2
      · rw [h, discard_of_pos hp]; exact env_of_small a _ ha p1 p2

theorem st_final {R : Rounding} (hE : ContractExact R) (rate accel a0 pf t : Int) (tfs : Py.Val)
    (ht : Py.int_ (Py.mp_ceil tfs) = .int t)
    (hr : |rate| ≤ 2 ^ 32) (ha : |accel| ≤ 2 ^ 32) (h0 : 0 ≤ a0) (h1 : a0 < 2 ^ 31) (hpf : |pf| ≤ 2 ^ 31)
    (htb : |t| ≤ 2 ^ 64) (hatt : |accel * t * t| ≤ 2 ^ 102) :
    G.final R 103 (.int rate) (.int accel) (.mpf ((kk rate accel : Int) / 2 : Rat)) (.int a0) (.int pf) tfs
      = .tup [.int t, .int pf, .int (accFinal rate accel a0 pf t)] := by
  have h2 : ((2 : Int) : Rat) ≠ 0 := by norm_num
  have dt := Dy.int t htb
  have d0 := Dy.int a0 (abs_le.mpr ⟨by omega, h1.le⟩)
  have d1 := (Dy.int _ (kk_bound rate accel hr ha)).half.mul dt
  have d2 := d0.lift.add d1
  have d3 := Dy.int accel ha
  have d4 := d3.mul dt
  have d5 : Dy 0 ((accel : Rat) * t * t) (2 ^ 102) := by
    have := Dy.int _ hatt; rwa [Int.cast_mul, Int.cast_mul] at this
  have d6 := d5.half
  have d7 := d2.add d6
  have d8 := Dy.int pf hpf
  have d9 := (Dy.int 2147483648 (le_of_eq (abs_of_nonneg (by norm_num)))).mul d8
  rw [Int.cast_ofNat] at d9
  have d10 := d7.sub d9.lift
  -- numerators over 2: `2^99` (`K/2·t`), `2^102` (`accel·t²/2`), `2^63` (`2^31·pf`), `2^32` (`a0`): together below `2^103`
  unfold G.final
  simp only [ht, mpf_int, mul_mpf_int, add_mpf_mpf, div_mpf_int _ _ _ _ h2, sub_mpf_mpf, mul_int_mpf, Int.cast_ofNat,
    int_mpf, d0.mp_eq hE, d1.mp_eq hE, d2.mp_eq hE,
    d3.mp_eq hE, d4.mp_eq hE, d5.mp_eq hE, d6.mp_eq hE,
    d7.mp_eq hE, d8.mp_eq hE, d9.mp_eq hE, d10.mp_eq hE]
  obtain ⟨m, hm⟩ := kt_even rate accel t
  have hX : (a0 : Rat) + ((kk rate accel : Int) : Rat) / 2 * t + (accel : Rat) * t * t / 2 - 2147483648 * (pf : Rat)
      = ((accFinal rate accel a0 pf t : Int) : Rat) := by
    have hmq : ((kk rate accel : Int) : Rat) * t + accel * t * t = 2 * m := by exact_mod_cast hm
    unfold accFinal two31
    rw [hm, Int.mul_ediv_cancel_left _ (by decide : (2 : Int) ≠ 0)]
    push_cast; linear_combination (1 / 2 : Rat) * hmq
  rw [hX, intOfRat_int]

theorem sRev_nonneg (rate accel a0 : Int) : 0 ≤ sRev rate accel a0 := by
  unfold sRev two31
  split_ifs
  · exact Int.ediv_nonneg (Int.natCast_nonneg _) (by norm_num)
  · exact le_refl _

theorem posFinal_bound (n rate accel a0 : Int) (hn : 1 ≤ n) (hnb : n ≤ 2 ^ 31) :
    |posFinal n rate accel a0| ≤ 2 ^ 31 ∧ |posAdj n rate accel a0| ≤ 2 ^ 31 + 1 := by
  have hs := sRev_nonneg rate accel a0
  rw [abs_le, abs_le]
  unfold posAdj posFinal
  by_cases hnr : noRev n rate accel a0
  · simp only [hnr, if_true]
    split_ifs <;> omega
  · have hlt : sRev rate accel a0 < n := by unfold noRev at hnr; omega
    simp only [hnr, if_false]
    split_ifs <;> omega

theorem timeFinal_eq (n rate accel a0 : Int) :
    timeFinal n rate accel a0 = if accel = 0 then linTime rate (two31 * posFinal n rate accel a0 - adjOf rate accel a0)
      else quadTime accel (kk rate accel)
        (cOf accel (tRevEff n rate accel a0) (adjOf rate accel a0 - posAdj n rate accel a0 * two31))
        (tRevEff n rate accel a0) := rfl

/-- a result triple as the Python tuple the generated code returns -/
def tupOf (x : Int × Int × Int) : Py.Val := .tup [.int x.1, .int x.2.1, .int x.2.2]

/-- the magnitude envelope on which the bridge holds: rate and acceleration of magnitude at most `2^32`, a budget
of at most `2^31` steps, a given accumulator in `[0, 2^31)`. (No reachability or per-tick rate hypothesis is
needed: the generated code and the exact model agree on the whole envelope.) -/
structure BridgeDom (steps rate accel : Int) (acc : Option Int) : Prop where
  steps_le : |steps| ≤ 2 ^ 31
  rate_le : |rate| ≤ 2 ^ 32
  accel_le : |accel| ≤ 2 ^ 32
  acc_range : ∀ a, acc = some a → 0 ≤ a ∧ a < 2 ^ 31

theorem bridge_pos {R : Rounding} (hR : Contract R) (n rate accel : Int) (acc : Option Int)
    (hn : 1 ≤ n) (hnb : n ≤ 2 ^ 31) (hnz : ¬ (accel = 0 ∧ rate = 0)) (hr : |rate| ≤ 2 ^ 32)
    (ha : |accel| ≤ 2 ^ 32) (hacc : ∀ a, acc = some a → 0 ≤ a ∧ a < 2 ^ 31) :
    G.staged R (.int n) (.int rate) (.int accel) (accArg acc) = tupOf (lmPos n rate accel acc) := by
  have hB : ContractBasic R := hR.toContractBasic
  have hE : ContractExact R := hB.toContractExact
  obtain ⟨h0, h1⟩ := startAcc_range rate accel acc hacc
  set a0 := startAcc rate accel acc with ha0
  obtain ⟨bpf, bpa⟩ := posFinal_bound n rate accel a0 hn hnb
  have badj := adjOf_bound rate accel a0 h0 h1
  have bK := kk_bound rate accel hr ha
  unfold G.staged
  simp only [dpsToPrec_30, st_rateEff hE rate accel hr ha, st_tempRate hE rate accel ha, st_irn, st_accum,
    st_accumAdj]
  rw [← ha0]
  obtain ⟨ts, h6⟩ := st_tRevPair hB rate accel hr ha
  rw [h6]; simp only []
  obtain ⟨ss, h7⟩ := st_sRevPair hE rate accel a0 hr ha h0 h1
  rw [h7]; simp only []
  obtain ⟨z, h8⟩ := st_branch R n rate accel a0
  rw [h8]; simp only []
  obtain ⟨tfs, rest, h9, ht, htb⟩ := st_timeTuple hR rate accel (kk rate accel) (adjOf rate accel a0)
    (tRevEff n rate accel a0) (posFinal n rate accel a0) (posAdj n rate accel a0) _ (timeFinal_eq n rate accel a0)
    (fun h hr0 => hnz ⟨h, hr0⟩) hr ha bK badj bpf bpa
  rw [h9]; simp only []
  rw [st_final hE rate accel a0 (posFinal n rate accel a0) _ tfs ht hr ha h0 h1 bpf htb.1 htb.2]
  rfl

end C03
end Plotink
