import Plotink.Proofs.C16Link
import Plotink.Proofs.PyIOLemmas
/-! The conforming exchange, the one primitive of C16.

`Exch b l b' reply resp`: the board `b` answers the request line `l` (a line `command`/`query` send as it is) by the line
`reply` and becomes `b'`; `resp` is what the link makes of the reply.  One lemma per request family produces an exchange;
the link lemmas consume it, in `C16Methods` for the model and in `C16GenLink` for the regenerated code.  Neither a `World`
nor the regenerated code is spoken of here. -/
namespace Plotink.C16
open PyObj (isAscii_append_of)

/-- the board `b` answers the request line `l = c0 c1 …` by the line `reply` and becomes `b'`; `resp`, the reply as
`readline().decode().strip()` hands it on, starts with the two letters and reports no error -/
structure Exch (b : Board) (l : Str) (b' : Board) (reply resp : Str) : Prop where
  shape : ∃ c0 c1 tl, l = c0 :: c1 :: tl ∧ c1 ≠ ',' ∧ startsWith resp [c0, c1] = true
  trimmed : strip l = l
  recv : boardRecv b (l ++ ['\r']) = (b', reply)
  resp_eq : strip reply = resp
  noErr : isInfix sErr resp = false

/-- … in ASCII both ways: what the regenerated code needs besides (`encode('ascii')`, `decode('ascii')`) -/
structure ExchA (b : Board) (l : Str) (b' : Board) (reply resp : Str) : Prop extends Exch b l b' reply resp where
  ascii : PyIO.isAscii l = true
  asciiReply : PyIO.isAscii reply = true

namespace Exch
variable {b b' : Board} {l reply resp : Str}

theorem after (h : Exch b l b' reply resp) (ls : List Str) : boardAfter b (l :: ls) = boardAfter b' ls := by
  rw [boardAfter, h.recv]

theorem of_ack {c0 c1 : Char} {tl : Str} (hl : l = c0 :: c1 :: tl) (hsep : c1 ≠ ',') (htrim : strip l = l)
    (hname : strip [c0, c1, '\n'] = [c0, c1] ∧ isInfix sErr [c0, c1] = false)
    (hstep : boardStep b (parseReq l) = (b', .ack [c0, c1])) : Exch b l b' [c0, c1, '\n'] [c0, c1] :=
  ⟨⟨c0, c1, tl, hl, hsep, by simp [startsWith]⟩, htrim, by rw [boardRecv_line, hstep]; rfl, hname.1, hname.2⟩

theorem of_data {c0 c1 : Char} {tl payload seen : Str} (hl : l = c0 :: c1 :: tl) (hsep : c1 ≠ ',') (htrim : strip l = l)
    (hstep : boardStep b (parseReq l) = (b, .data [c0, c1] payload))
    (hseen : strip (c0 :: c1 :: ',' :: (payload ++ ['\n'])) = c0 :: c1 :: ',' :: seen)
    (herr : isInfix sErr (c0 :: c1 :: ',' :: seen) = false) :
    Exch b l b (c0 :: c1 :: ',' :: (payload ++ ['\n'])) (c0 :: c1 :: ',' :: seen) :=
  ⟨⟨c0, c1, tl, hl, hsep, by simp [startsWith]⟩, htrim, by rw [boardRecv_line, hstep]; rfl, hseen, herr⟩

end Exch

/-! the seven request families; their lines and replies are ASCII -/

theorem isAscii_showNat (n : Nat) : PyIO.isAscii (showNat n) = true :=
  PyObj.isAscii_of_digits _ fun _ => isDigit_of_mem_showNat

theorem isAscii_cons {c : Char} {a : Str} (hc : c.toNat < 128) (ha : PyIO.isAscii a = true) :
    PyIO.isAscii (c :: a) = true := by
  unfold PyIO.isAscii at *
  simp [hc, ha]

theorem isAscii_cons3 {a b c : Char} {s : Str} (h : PyIO.isAscii [a, b, c] = true) (hs : PyIO.isAscii s = true) :
    PyIO.isAscii (a :: b :: c :: s) = true :=
  isAscii_append_of h hs

theorem isAscii_of_printable {s : Str} (h : ∀ c ∈ s, Spec.printable c = true) : PyIO.isAscii s = true := by
  unfold PyIO.isAscii
  rw [List.all_eq_true]
  intro c hc
  have := h c hc
  simp only [Spec.printable, Bool.and_eq_true, decide_eq_true_eq] at this
  simp; omega

theorem exch_SL (b : Board) {v i : Nat} (hv : v ≤ 255) (hi : i ≤ 31) (hl : b.vars.length = 32) :
    ExchA b (lineSL v i) { b with vars := b.vars.set i v } (cSL ++ ['\n']) cSL :=
  ⟨.of_ack rfl (by decide) (strip_of_noEdge (noEdge_cmd2 'S' 'L' ',' v i (by decide))) (by decide) (step_SL b hv hi (by omega)),
    isAscii_cons3 rfl (isAscii_append_of (isAscii_showNat v) (isAscii_cons (by decide) (isAscii_showNat i))), by decide⟩

theorem exch_QL (b : Board) {i : Nat} (hi : i ≤ 31) (hl : b.vars.length = 32) :
    ExchA b (lineQL i) b (cQL ++ ',' :: (showNat (b.vars.getD i 0) ++ ['\n'])) (cQL ++ ',' :: showNat (b.vars.getD i 0)) :=
  ⟨.of_data rfl (by decide) (strip_of_noEdge (noEdge_cmd1 'Q' 'L' ',' i (by decide) (by decide))) (step_QL b hi (getD_of_lt (by omega)))
      (strip_data (name := cQL) (noEdge_cmd1 'Q' 'L' ',' _ (by decide) (by decide)))
      (no_err_of_no_colon (by simp [colon_not_mem_showNat])),
    isAscii_cons3 rfl (isAscii_showNat i), isAscii_cons3 rfl (isAscii_append_of (isAscii_showNat _) (by decide))⟩

theorem exch_ST (b : Board) {s : Str} (hs : NickOK s) :
    ExchA b (cST ++ ',' :: strip s) { b with name := strip s } (cST ++ ['\n']) cST :=
  ⟨.of_ack rfl (by decide) (strip_of_noEdge (noEdge_prefixed 'S' 'T' ',' (by decide) (by decide) (noEdge_strip s))) (by decide)
      (step_ST b hs.1),
    isAscii_cons3 rfl (isAscii_of_printable hs.2.1), by decide⟩

theorem exch_QT (b : Board) (herr : isInfix sErr b.name = false) :
    Exch b cQT b (cQT ++ ',' :: (b.name ++ ['\n'])) (cQT ++ ',' :: rstrip b.name) :=
  .of_data rfl (by decide) (by decide) (step_QT b) (qt_strip b.name) (qt_noErr b.name herr)

theorem exch_EM (b : Board) {a c : Int} (ha : 0 ≤ a ∧ a ≤ 5) (hc : 0 ≤ c ∧ c ≤ 5) :
    ExchA b (cmdEM a c) (emBoard b a c) (cEM ++ ['\n']) cEM := by
  obtain ⟨a, rfl⟩ := Int.eq_ofNat_of_zero_le ha.1
  obtain ⟨c, rfl⟩ := Int.eq_ofNat_of_zero_le hc.1
  have hl : cmdEM a c = 'E' :: 'M' :: ',' :: (showNat a ++ ',' :: showNat c) := by simp [cmdEM, cEM, showInt_ofNat]
  exact ⟨.of_ack hl (by decide) (hl ▸ strip_of_noEdge (noEdge_cmd2 'E' 'M' ',' a c (by decide))) (by decide)
      (hl ▸ step_EM b (by omega) (by omega)),
    hl ▸ isAscii_cons3 rfl (isAscii_append_of (isAscii_showNat a) (isAscii_cons (by decide) (isAscii_showNat c))), by decide⟩

theorem exch_QE (b : Board) : ExchA b cQE b (cQE ++ ',' :: (qePayload b ++ ['\n'])) (cQE ++ ',' :: qePayload b) :=
  ⟨.of_data rfl (by decide) (by decide) (step_QE b)
      (strip_data (name := cQE) (noEdge_cmd2 'Q' 'E' ',' _ _ (by decide)))
      (no_err_of_no_colon (by simp [qePayload, colon_not_mem_showNat])), by decide,
    isAscii_cons3 rfl (isAscii_append_of (isAscii_append_of (isAscii_showNat _) (isAscii_cons (by decide) (isAscii_showNat _)))
      (by decide))⟩

theorem exch_CU50 (b : Board) : ExchA b cmdCU50 { b with autoEnable := false } (cCU ++ ['\n']) cCU :=
  ⟨.of_ack rfl (by decide) (by decide) (by decide) (step_CU50 b), by decide, by decide⟩

end Plotink.C16
