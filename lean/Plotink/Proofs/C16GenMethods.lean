import Plotink.Proofs.C16GenLink
import Plotink.Proofs.C16Trace
import Plotink.Gen.EBB3_var_write
import Plotink.Gen.EBB3_var_read
import Plotink.Gen.EBB3_var_write_int32
import Plotink.Gen.EBB3_var_read_int32
import Plotink.Gen.EBB3_write_nickname
import Plotink.Gen.EBB3_query_nickname
import Plotink.Gen.EBBMotionWrap_motors_enable
import Plotink.Gen.EBBMotionWrap_motors_query_enabled
/-! C16 ↔ regenerated code: each of the eight regenerated methods evaluated on the board's own script: started on
`boardReads b reqs ++ rest` it writes exactly `reqs`, reads exactly the board's answers to them and leaves `rest` (direct
symbolic evaluation of the `Gen.*` definitions; every exchange is `ExchA.gen_command` / `ExchA.gen_query` on one of the
request families of `C16Exch.lean`).  `motors_enable` is walked statement by statement along `meReqs`, for `int`
arguments (that any argument `int()` converts behaves as that integer is `C16_gen_motors_requests` in Props/C16). -/
namespace Plotink.C16
open PyObj Gen

theorem gen_var_write (fuel : Nat) (c : Conv) {b : Board} (hwf : b.WF) {v i : Nat} (hv : v ≤ 255) (hi : i ≤ 31)
    (ls : List Str) (rest : List PyIO.Rd) :
    EBB3_var_write (fuel + 1) (.int v) (.int i) (c.world (boardReads b (lineSL v i :: ls) ++ rest)) =
      .val (.bool true) ((c.sent [lineSL v i]).world (boardReads (boardAfter b [lineSL v i]) ls ++ rest)) := by
  -- stated on `lineSL v i` letter by letter, as the generated f-string evaluates to it
  have hcmd : EBB3_command _ (.str ('S' :: 'L' :: ',' :: (showNat v ++ ',' :: showNat i))) _ = _ :=
    (exch_SL b hv hi hwf.len).gen_command fuel c ls rest
  unfold EBB3_var_write EBB3_var_write_main
  simp only [PyObj.run, block_cons2, block_one]
  rw [seq_norm (a := EBB3_var_write_if1) (guard_ready ..),
    seq_norm (expr_of (v := .bool true) (by simp [pyobj, ebb3_showInt_nat, hcmd]; rfl)),
    seq_norm (a := EBB3_var_write_if2) (noerr_ready ..)]
  rfl

theorem gen_var_read (fuel : Nat) (c : Conv) {b : Board} (hwf : b.WF) {i : Nat} (hi : i ≤ 31)
    (ls : List Str) (rest : List PyIO.Rd) :
    EBB3_var_read (fuel + 1) (.int i) (c.world (boardReads b (lineQL i :: ls) ++ rest)) =
      .val (.int (b.vars.getD i 0)) ((c.sent [lineQL i]).world (boardReads (boardAfter b [lineQL i]) ls ++ rest)) := by
  have hq : EBB3_query _ (.str ('Q' :: 'L' :: ',' :: showNat i)) _ = _ := (exch_QL b hi hwf.len).gen_query rfl fuel c ls rest
  unfold EBB3_var_read EBB3_var_read_main
  simp only [PyObj.run, block_cons2, block_one]
  rw [seq_norm (a := EBB3_var_read_if1) (guard_ready ..),
    seq_assign_of (v := .str (showNat (b.vars.getD i 0))) (by simp [pyobj, ebb3_showInt_nat, hq]; rfl),
    seq_norm (a := EBB3_var_read_if2) (noerr_ready ..)]
  simp [pyobj, b_int, ebb3_pyInt_showNat]

theorem ebb3_toBytes4_eq {v : Int} (hv : IsInt32 v) :
    Ebb3.toBytes4 v = .ok ((Spec.beByte v 0 : Int), (Spec.beByte v 1 : Int), (Spec.beByte v 2 : Int), (Spec.beByte v 3 : Int)) := by
  have h0 : 0 ≤ v % 4294967296 := Int.emod_nonneg _ (by decide)
  have h1 : v % 4294967296 < 4294967296 := Int.emod_lt_of_pos _ (by decide)
  have top : v % 4294967296 / 16777216 % 256 = v % 4294967296 / 16777216 := by omega
  simp only [Ebb3.toBytes4, if_pos (show _ ∧ _ from hv), beByte_cast, Nat.sub_zero, Nat.reduceSub, Int.reducePow,
    Int.pow_zero, Int.ediv_one, top]

theorem gen_w32_body (fuel : Nat) (c : Conv) {b : Board} (hwf : b.WF) (value bs : PyObj.Val) {x i : Nat} (hx : x ≤ 255)
    (hi : i ≤ 31) (ls : List Str) (rest : List PyIO.Rd) :
    EBB3_var_write_int32_fbody1 (fuel + 1) ⟨value, .int i, bs, .int x⟩ (c.world (boardReads b (lineSL x i :: ls) ++ rest)) =
      .norm ⟨value, .int ((i + 1 : Nat) : Int), bs, .int x⟩
        ((c.sent [lineSL x i]).world (boardReads (boardAfter b [lineSL x i]) ls ++ rest)) := by
  have h := gen_var_write fuel c hwf hx hi ls rest
  simp [pyobj, EBB3_var_write_int32_fbody1, block, seq, h]

theorem gen_var_write_int32 (fuel : Nat) (c : Conv) {b : Board} (hwf : b.WF) {v : Int} (hv : IsInt32 v) {i : Nat}
    (hi : i ≤ 28) (rest : List PyIO.Rd) :
    EBB3_var_write_int32 (fuel + 1) (.int v) (.int i) (c.world (boardReads b (w32Reqs v i) ++ rest)) =
      .val (.bool true) ((c.sent (w32Reqs v i)).world rest) := by
  have hb := fun k => PyFloat.toNat_ofNat_valid (.inl (Nat.lt_of_le_of_lt (beByte_le v k) (by decide)))
  have hw := fun (b : Board) (h : b.WF) r => boardAfter_wf h r
  unfold EBB3_var_write_int32 EBB3_var_write_int32_main
  simp only [PyObj.run, block_cons2, block_one]
  rw [seq_norm (a := EBB3_var_write_int32_if1) (guard_ready ..),
    seq_assign_pure
      (v := .bytes [Char.ofNat (Spec.beByte v 0), Char.ofNat (Spec.beByte v 1), Char.ofNat (Spec.beByte v 2),
        Char.ofNat (Spec.beByte v 3)]) (by
      simp [pyobj, meth_to_bytes4_big_signed, ebb3_toBytes4_eq hv])]
  unfold EBB3_var_write_int32_for1
  simp only [seq]
  rw [forIn_of (v := .bytes _) (by rfl) (by rfl)]
  simp only [List.map, hb]
  rw [w32Reqs, forLoop_cons_norm (gen_w32_body fuel c hwf _ _ (beByte_le v 0) (by omega) ..),
    forLoop_cons_norm (gen_w32_body fuel _ (hw _ hwf _) _ _ (beByte_le v 1) (by omega) ..),
    forLoop_cons_norm (gen_w32_body fuel _ (hw _ (hw _ hwf _) _) _ _ (beByte_le v 2) (by omega) ..),
    forLoop_cons_norm (gen_w32_body fuel _ (hw _ (hw _ (hw _ hwf _) _) _) _ _ (beByte_le v 3) (by omega) ..)]
  simp only [forLoop]
  rw [show EBB3_var_write_int32_if2 (fuel + 1) _ _ = _ from noerr_ready ..]
  simp [pyobj, Conv.sent_sent, Nat.add_assoc, boardReads]

theorem gen_r32_body (fuel : Nat) (c : Conv) {b : Board} (hwf : b.WF) (value : PyObj.Val) (l : List PyObj.Val)
    {i k : Nat} (hi : i + k ≤ 31) (ls : List Str) (rest : List PyIO.Rd) :
    EBB3_var_read_int32_fbody1 (fuel + 1) ⟨.int i, .list l, .int k, value⟩
        (c.world (boardReads b (lineQL (i + k) :: ls) ++ rest)) =
      .norm ⟨.int i, .list (l ++ [.int (b.vars.getD (i + k) 0)]), .int (k + 1), .int (b.vars.getD (i + k) 0)⟩
        ((c.sent [lineQL (i + k)]).world (boardReads (boardAfter b [lineQL (i + k)]) ls ++ rest)) := by
  have h := gen_var_read fuel c hwf hi ls rest
  have hc : ((i : Int) + (k : Int)) = ((i + k : Nat) : Int) := by omega
  unfold EBB3_var_read_int32_fbody1
  simp only [block_cons2, block_one]
  rw [seq_assign_of (v := .int (b.vars.getD (i + k) 0)) (by
      simp only [mcall1, app2, PyObj.bind, load, ok, ofP, op_add, intOf, hc, h, ofOut]; rfl),
    seq_assign_pure (v := .int (k + 1)) (by
      simp [pyobj]),
    assign_of (v := .list (l ++ [.int (b.vars.getD (i + k) 0)])) (by
      simp [pyobj, meth_append]; rfl)]

theorem ebb3_fromBytes4_nat {a b c d : Nat} (ha : a ≤ 255) (hb : b ≤ 255) (hc : c ≤ 255) (hd : d ≤ 255) :
    Ebb3.fromBytes4 (.int a) (.int b) (.int c) (.int d) = .ok (Spec.decode32 a b c d) := by
  have hr : ((0 ≤ (a : Int) ∧ (a : Int) < 256) ∧ (0 ≤ (b : Int) ∧ (b : Int) < 256) ∧ (0 ≤ (c : Int) ∧ (c : Int) < 256) ∧
      (0 ≤ (d : Int) ∧ (d : Int) < 256)) := by omega
  simp only [Ebb3.fromBytes4]
  rw [if_pos hr]
  rfl

theorem gen_var_read_int32 (fuel : Nat) (c : Conv) {b : Board} (hwf : b.WF) {i : Nat} (hi : i ≤ 28)
    (rest : List PyIO.Rd) :
    EBB3_var_read_int32 (fuel + 1) (.int i) (c.world (boardReads b (r32Reqs i) ++ rest)) =
      .val (.int (Spec.decode32 (b.vars.getD i 0) (b.vars.getD (i + 1) 0) (b.vars.getD (i + 2) 0) (b.vars.getD (i + 3) 0)))
        ((c.sent (r32Reqs i)).world rest) := by
  unfold EBB3_var_read_int32 EBB3_var_read_int32_main
  simp only [PyObj.run, block_cons2, block_one]
  rw [seq_norm (a := EBB3_var_read_int32_if1) (guard_ready ..), seq_assign_pure (v := .list []) rfl]
  unfold EBB3_var_read_int32_for1
  simp only [seq]
  rw [forIn_of (v := .list [.int 0, .int 1, .int 2, .int 3]) (by rfl) (by rfl), r32Reqs,
    forLoop_cons_norm (gen_r32_body fuel c hwf _ _ (k := 0) (by omega) ..)]
  simp only [after_QL, boardAfter_nil]
  rw [forLoop_cons_norm (gen_r32_body fuel _ hwf _ _ (k := 1) (by omega) ..)]
  simp only [after_QL, boardAfter_nil]
  rw [forLoop_cons_norm (gen_r32_body fuel _ hwf _ _ (k := 2) (by omega) ..)]
  simp only [after_QL, boardAfter_nil]
  rw [forLoop_cons_norm (gen_r32_body fuel _ hwf _ _ (k := 3) (by omega) ..)]
  simp only [forLoop]
  rw [show EBB3_var_read_int32_if2 (fuel + 1) _ _ = _ from noerr_ready ..]
  simp [-List.getD_eq_getElem?_getD, pyobj, Conv.sent_sent, b_from_bytes_big_signed, items, toEbb3Val, boardReads,
    ebb3_fromBytes4_nat (getD_byte hwf _) (getD_byte hwf _) (getD_byte hwf _) (getD_byte hwf _)]

/-- `if not nickname: nickname = ''` changes nothing -/
theorem write_nickname_if2 (fuel : Nat) (t : Str) (w : PyObj.World EBB3_Obj) :
    EBB3_write_nickname_if2 fuel ⟨.str t⟩ w = .norm ⟨.str t⟩ w := by
  cases t <;>
    simp [pyobj, EBB3_write_nickname_if2]

theorem gen_write_nickname (fuel : Nat) (c : Conv) (b : Board) (rest : List PyIO.Rd) {s : Str} (hs : NickOK s) :
    EBB3_write_nickname (fuel + 1) (.str s) (c.world (boardReads b [cST ++ ',' :: strip s] ++ rest)) =
      .val (.bool true) ⟨{ c.obj with name := .str (strip s) },
        ((c.sent [cST ++ ',' :: strip s]).world rest).port, c.ext⟩ := by
  have hcmd := (exch_ST b hs).gen_command fuel c [] rest
  unfold EBB3_write_nickname EBB3_write_nickname_main
  simp only [PyObj.run, block_cons2, block_one]
  rw [seq_skip (by
      simp [pyobj, Conv.world, EBB3_write_nickname_if1, c.ready.1, c.ready.2]),
    seq_assign_pure (v := .str (strip s)) (by
      simp [pyobj, meth_strip, ebb3_strip_eq]),
    seq_norm (write_nickname_if2 _ _ _)]
  simp only [cST, List.cons_append, List.nil_append, Conv.world] at hcmd ⊢
  simp [pyobj, tryExcept, EBB3_write_nickname_try1, block, seq, EBB3_write_nickname_if3, hcmd, Conv.sent]
  rfl

theorem gen_query_nickname (fuel : Nat) (c : Conv) (b : Board) (rest : List PyIO.Rd)
    (hasc : PyIO.isAscii b.name = true) (herr : isInfix sErr b.name = false) :
    EBB3_query_nickname (fuel + 1) (c.world (boardReads b [cQT] ++ rest)) =
      .val .none ⟨{ c.obj with name := .str (strip b.name) }, ((c.sent [cQT]).world rest).port, c.ext⟩ := by
  have hq := ExchA.gen_query ⟨exch_QT b herr, by decide, isAscii_cons3 rfl (isAscii_append_of hasc (by decide))⟩ rfl fuel c [] rest
  unfold EBB3_query_nickname EBB3_query_nickname_main
  simp only [PyObj.run, block_cons2, block_one]
  rw [seq_norm (a := EBB3_query_nickname_if1) (guard_ready ..),
    seq_assign_of (v := .str (rstrip b.name)) (by
      simp only [mcall1, PyObj.bind, ok]; exact congrArg (ofOut · _) hq)]
  simp [pyobj, Conv.world, Conv.sent, EBB3_query_nickname_if2, EBB3_query_nickname_if3, meth_isspace, ebb3_isSpaceStr_eq,
    isspace_of_last (rstrip_last b.name), b_str, meth_strip, ebb3_strip_eq, strip_rstrip]
  rfl

/-- the `res_map` dictionary of `motors_query_enabled` -/
def resDict : List (PyObj.Val × PyObj.Val) :=
  [(.int 16, .int 1), (.int 8, .int 2), (.int 4, .int 3), (.int 2, .int 4), (.int 1, .int 5), (.int 0, .int 0)]

theorem dictGet_resDict (z r : Int) (h : resMap z = .ok r) : dictGet resDict (.int z) = some (.int r) := by
  have hz : z = 16 ∨ z = 8 ∨ z = 4 ∨ z = 2 ∨ z = 1 ∨ z = 0 := by
    apply Classical.byContradiction
    intro hn
    simp only [not_or] at hn
    simp [resMap, hn] at h
  rcases hz with rfl | rfl | rfl | rfl | rfl | rfl <;> cases h <;> rfl

theorem gen_motors_query_enabled (fuel : Nat) (c : Conv) {b : Board} (hm : 1 ≤ b.mode ∧ b.mode ≤ 5) (ls : List Str)
    (rest : List PyIO.Rd) :
    EBBMotionWrap_motors_query_enabled (fuel + 1) (c.world (boardReads b (cQE :: ls) ++ rest)) =
      .val (.tuple [.int (qeRes b).1, .int (qeRes b).2]) ((c.sent [cQE]).world (boardReads (boardAfter b [cQE]) ls ++ rest)) := by
  have hq := (exch_QE b).gen_query rfl fuel c ls rest
  have hsplit := (ebb3_splitOn_eq ',' (qePayload b)).trans (splitOn_qePayload b)
  have hd1 := dictGet_resDict _ _ (resMap_qe hm b.m1)
  have hd2 := dictGet_resDict _ _ (resMap_qe hm b.m2)
  unfold EBBMotionWrap_motors_query_enabled EBBMotionWrap_motors_query_enabled_main
  simp only [PyObj.run, block_cons2, block_one]
  rw [seq_norm (a := EBBMotionWrap_motors_query_enabled_if1) (guard_ready ..),
    seq_assign_of (v := .str _) (by simp only [mcall1, PyObj.bind, ok]; exact congrArg (ofOut · _) hq),
    seq_skip (by simp [pyobj, EBBMotionWrap_motors_query_enabled_if2]),
    seq_assign_pure (v := .dict resDict) rfl,
    seq_assign_pure (v := .list [.str (showNat (if b.m1 = true then qeCode b.mode else 0)),
      .str (showNat (if b.m2 = true then qeCode b.mode else 0))]) (by simp [pyobj, meth_split_char, hsplit])]
  simp [pyobj, mkTuple, b_int, ebb3_pyInt_showNat, hd1, hd2, qeRes]

theorem minmax_clamp (r : Int) : min (max r 0) 5 = Spec.clamp r := by
  rw [← clamp05_eq]; rfl

abbrev MEnv := EBBMotionWrap_motors_enable_Env

theorem gen_me_unfold (fuel : Nat) (c : Conv) (reads : List PyIO.Rd) (r1 r2 : Int) :
    EBBMotionWrap_motors_enable fuel (.int r1) (.int r2) (c.world reads) =
      PyObj.run (seq EBBMotionWrap_motors_enable_if2 (seq EBBMotionWrap_motors_enable_if3
        (expr (fun fuel env => (mcall1 (EBB3_command fuel) (fstr [(ok (.str ['E', 'M', ','])), (load env.resolution_1), (ok (.str [','])), (load env.resolution_2)]))))))
        fuel ⟨.int (Spec.clamp r1), .int (Spec.clamp r2), .unbound, .unbound⟩ (c.world reads) := by
  unfold EBBMotionWrap_motors_enable EBBMotionWrap_motors_enable_main
  simp only [block_cons2, block_one]
  unfold PyObj.run
  rw [seq_norm (a := EBBMotionWrap_motors_enable_if1) (guard_ready ..),
    seq_assign_pure (v := .int (max r1 0)) (by simp [pyobj, b_int, b_max2_int]),
    seq_assign_pure (v := .int (Spec.clamp r1)) (by
      simp [pyobj, b_min2_int, minmax_clamp]),
    seq_assign_pure (v := .int (max r2 0)) (by simp [pyobj, b_int, b_max2_int]),
    seq_assign_pure (v := .int (Spec.clamp r2)) (by
      simp [pyobj, b_min2_int, minmax_clamp])]

theorem gen_me_if4 (fuel : Nat) (w : PyObj.World EBB3_Obj) (c1 c2 o : PyObj.Val) (a b : Int) :
    EBBMotionWrap_motors_enable_if4 fuel (⟨c1, c2, o, .tuple [.int a, .int b]⟩ : MEnv) w =
      .norm ⟨c1, c2, o, .tuple [.int a, .int b]⟩ w := by
  simp [pyobj, EBBMotionWrap_motors_enable_if4]

theorem gen_me_if5 (fuel : Nat) (w : PyObj.World EBB3_Obj) (c1 c2 : PyObj.Val) (a b : Int) :
    EBBMotionWrap_motors_enable_if5 fuel (⟨c1, c2, .int 0, .tuple [.int a, .int b]⟩ : MEnv) w =
      .norm ⟨c1, c2, .int (if b ≠ 0 then b else 0), .tuple [.int a, .int b]⟩ w := by
  by_cases hb0 : b = 0 <;>
    simp [pyobj, EBBMotionWrap_motors_enable_if5, hb0]

theorem gen_me_if6 (fuel : Nat) (w : PyObj.World EBB3_Obj) (c1 c2 : PyObj.Val) (a b x : Int) :
    EBBMotionWrap_motors_enable_if6 fuel (⟨c1, c2, .int x, .tuple [.int a, .int b]⟩ : MEnv) w =
      .norm ⟨c1, c2, .int (if a ≠ 0 then a else x), .tuple [.int a, .int b]⟩ w := by
  by_cases ha0 : a = 0 <;>
    simp [pyobj, EBBMotionWrap_motors_enable_if6, ha0]

theorem oldRes_eq (a b : Int) : (if a ≠ 0 then a else (if b ≠ 0 then b else 0)) = oldRes a b := rfl

/-- `self.command(f'EM,{a},{c}')` on a board that takes it -/
theorem gen_command_EM (fuel : Nat) (c : Conv) (b : Board) {a d : Int} (ha : 0 ≤ a ∧ a ≤ 5) (hd : 0 ≤ d ∧ d ≤ 5)
    (ls : List Str) (rest : List PyIO.Rd) :
    (mcall1 (EBB3_command (fuel + 1)) (fstr [ok (.str ['E', 'M', ',']), load (.int a), ok (.str [',']), load (.int d)]))
        (c.world (boardReads b (cmdEM a d :: ls) ++ rest)) =
      (.ok (.bool true), (c.sent [cmdEM a d]).world (boardReads (boardAfter b [cmdEM a d]) ls ++ rest)) := by
  have h := (exch_EM b ha hd).gen_command fuel c ls rest
  have hl : 'E' :: 'M' :: ',' :: (showInt a ++ ',' :: showInt d) = cmdEM a d := by simp [cmdEM, cEM]
  simp [pyobj, ebb3_showInt_nonneg ha.1, ebb3_showInt_nonneg hd.1, hl, h]

/-- `if (r1 != r2) and (r1 * r2 == 0): self.command('CU,50,0')` -/
theorem gen_me_if2 (fuel : Nat) (c : Conv) (b : Board) (c1 c2 : Int) (o m : PyObj.Val) (os : List Str)
    (hos : os = if c1 ≠ c2 ∧ c1 * c2 = 0 then [cmdCU50] else []) (ls : List Str) (rest : List PyIO.Rd) :
    EBBMotionWrap_motors_enable_if2 (fuel + 1) (⟨.int c1, .int c2, o, m⟩ : MEnv) (c.world (boardReads b (os ++ ls) ++ rest)) =
      .norm ⟨.int c1, .int c2, o, m⟩ ((c.sent os).world (boardReads (boardAfter b os) ls ++ rest)) := by
  subst hos
  split
  · next h =>
    have hcu : EBB3_command _ (.str ['C', 'U', ',', '5', '0', ',', '0']) _ = _ := (exch_CU50 b).gen_command fuel c ls rest
    simp [pyobj, EBBMotionWrap_motors_enable_if2, h.1, h.2, hcu]
  · next h =>
    rw [Conv.sent_nil, boardAfter_nil, List.nil_append]
    by_cases e : c1 = c2
    · simp [pyobj, EBBMotionWrap_motors_enable_if2, e]
    · have hm : ¬ (c1 * c2 = 0) := fun hm => h ⟨e, hm⟩
      simp [pyobj, EBBMotionWrap_motors_enable_if2, e, hm]

/-- `if (r1 == 0) and (r2 != 0):` `QE`, `old_res` from its answer, and `EM,r2,r2` if that is not `r2`.  What `QE` reports
is a variable `q`, so that the caller can take it from the board before the optional `CU,50,0`, as `meReqs` does
(`optCU_motors`). -/
theorem gen_me_if3 (fuel : Nat) (c : Conv) {b : Board} (hm : 1 ≤ b.mode ∧ b.mode ≤ 5) (c1 : Int) {c2 : Int} (h2 : 0 ≤ c2 ∧ c2 ≤ 5)
    (o m : PyObj.Val) (q : Int × Int) (hq : qeRes b = q) (os : List Str)
    (hos : os = if c1 = 0 ∧ c2 ≠ 0 then cQE :: (if oldRes q.1 q.2 ≠ c2 then [cmdEM c2 c2] else []) else [])
    (ls : List Str) (rest : List PyIO.Rd) :
    ∃ o' m', EBBMotionWrap_motors_enable_if3 (fuel + 1) (⟨.int c1, .int c2, o, m⟩ : MEnv)
        (c.world (boardReads b (os ++ ls) ++ rest)) =
      .norm ⟨.int c1, .int c2, o', m'⟩ ((c.sent os).world (boardReads (boardAfter b os) ls ++ rest)) := by
  subst hos hq
  split
  · next hB =>
    obtain ⟨rfl, z2⟩ := hB
    refine ⟨.int (oldRes (qeRes b).1 (qeRes b).2), .tuple [.int (qeRes b).1, .int (qeRes b).2], ?_⟩
    unfold EBBMotionWrap_motors_enable_if3
    rw [ifte_of (v := .bool true) (by simp [pyobj, z2]; rfl)]
    simp only [truthy_bool, ↓reduceIte, block_cons2, block_one]
    rw [seq_assign_pure (v := .int 0) rfl,
      seq_assign_of (v := .tuple [.int (qeRes b).1, .int (qeRes b).2]) (by
        simp only [mcall0, gen_motors_query_enabled fuel c hm, ofOut]; rfl),
      seq_norm (gen_me_if4 ..), seq_norm (gen_me_if5 ..), seq_norm (gen_me_if6 ..), oldRes_eq]
    by_cases hold : oldRes (qeRes b).1 (qeRes b).2 = c2
    · simp [pyobj, EBBMotionWrap_motors_enable_if7, hold]
    · have hem := gen_command_EM fuel (c.sent [cQE]) (boardAfter b [cQE]) h2 h2 ls rest
      simp [pyobj, EBBMotionWrap_motors_enable_if7, hold, Conv.sent_sent] at hem ⊢
      rw [hem]; rfl
  · next hB =>
    rw [Conv.sent_nil, boardAfter_nil, List.nil_append]
    refine ⟨o, m, ?_⟩
    by_cases e : c1 = 0
    · have : c2 = 0 := Classical.byContradiction fun h2 => hB ⟨e, h2⟩
      simp [pyobj, EBBMotionWrap_motors_enable_if3, e, this]
    · simp [pyobj, EBBMotionWrap_motors_enable_if3, e]

theorem gen_motors_enable (fuel : Nat) (c : Conv) {b : Board} (hm : 1 ≤ b.mode ∧ b.mode ≤ 5) (r1 r2 : Int)
    (rest : List PyIO.Rd) :
    EBBMotionWrap_motors_enable (fuel + 1) (.int r1) (.int r2)
        (c.world (boardReads b (meReqs b (Spec.clamp r1) (Spec.clamp r2)) ++ rest)) =
      .val .none ((c.sent (meReqs b (Spec.clamp r1) (Spec.clamp r2))).world rest) := by
  have h1 := clamp_range r1
  have h2 := clamp_range r2
  have hcu := optCU_motors b (Spec.clamp r1 ≠ Spec.clamp r2 ∧ Spec.clamp r1 * Spec.clamp r2 = 0)
  obtain ⟨o', m', h3⟩ := gen_me_if3 fuel (c.sent _) (hcu.2 ▸ hm) (Spec.clamp r1) h2 .unbound .unbound _ hcu.1 _ rfl
    [cmdEM (Spec.clamp r1) (Spec.clamp r2)] rest
  rw [gen_me_unfold]
  unfold PyObj.run meReqs
  rw [seq_norm (gen_me_if2 fuel c b _ _ _ _ _ rfl _ rest), seq_norm h3, expr_of (gen_command_EM fuel _ _ h1 h2 [] rest)]
  simp only [Conv.sent_sent, List.append_assoc]
  rfl

end Plotink.C16
