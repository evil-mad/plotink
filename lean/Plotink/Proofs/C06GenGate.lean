import Plotink.Proofs.C06GenLegacy
import Plotink.Gen.ebb_motion_servo_timeout
import Plotink.Gen.ebb_serial_min_version
import Plotink.Gen.ebb_serial_queryVersion
/-! # C06 over the regenerated code: the firmware-version gate of the legacy layer

Some features first call `ebb_serial.min_version(port, "<minimum>")`, which transmits the version query `V` and decides
from the reply.  The gate call and the two statement forms in which it stands in a feature (`gate_guard`, `gate_assign`)
are settled once, for any threshold, record of locals and rest of the body, with no hypothesis beyond `Dom`; a feature
proves only what it sends once the gate is passed (`Sent`, `C06GenLegacy`), and `Gated` says what it leaves either way.
The row of `C06.legacyEmit` is read off `Gated` with `fwOk` the gate's answer; C15 reads "returned `True`" in its model
(`C15GenLegacy`). -/
namespace Plotink
namespace C06Gen
open PyObj Gen

theorem lit_V : "V".toList = ['V'] := by decide

abbrev vq : List Char := (C06.Cmd.wire C06.versionQuery).toList

theorem vq_chars : vq = ['V', '\r'] := by
  simp only [vq, C06.versionQuery, wire_toList, lit_V, argChars, List.cons_append, List.nil_append]

theorem queryVersion_dom (fuel : Nat) (hf : 101 ≤ fuel) (w : World NoObj) (hd : Dom w.port) :
    ∃ reply w', ebb_serial_queryVersion fuel .port w = .val (.str reply) w' ∧
      w'.port.log = w.port.log ++ [vq] ∧ Dom w'.port := by
  obtain ⟨p', s, hl, hd', h⟩ := ioQuery_dom fuel hf ['V', '\r'] (by decide) (.bool true) w hd
  refine ⟨s, { w with port := p' }, ?_, by rw [vq_chars]; exact hl, hd'⟩
  unfold ebb_serial_queryVersion ebb_serial_queryVersion_main
  simp only [PyObj.run, return_, h]

/-- the decision layer of `min_version` does no I/O: the call ends in the world in which the version query returned -/
theorem gate_eval (fuel : Nat) (thr reply : List Char) (w w' : World NoObj)
    (hq : ebb_serial_queryVersion fuel .port w = .val (.str reply) w') :
    ebb_serial_min_version fuel .port (.str thr) w = .val .none w' ∨
    (∃ b, ebb_serial_min_version fuel .port (.str thr) w = .val (.bool b) w') ∨
    ebb_serial_min_version fuel .port (.str thr) w = .exc .invalidVersion w' := by
  rw [LegacyGen.min_version_eval fuel thr reply w w' hq]
  unfold LegacyGen.gateOut
  split
  · exact .inl rfl
  · split
    · exact .inr (.inl ⟨_, rfl⟩)
    · exact .inr (.inr rfl)

theorem gate_call (fuel : Nat) (hf : 101 ≤ fuel) (thr : List Char) (w : World NoObj) (hd : Dom w.port) :
    ∃ w1 r, (mcall2 (ebb_serial_min_version fuel) (ok .port) (ok (.str thr)) : Eff NoObj) w = (r, w1) ∧
      w1.port.log = w.port.log ++ [vq] ∧ Dom w1.port ∧
      ((r = .ok (.bool true) ∧ ebb_serial_min_version fuel .port (.str thr) w = .val (.bool true) w1) ∨
       (∃ v, r = .ok v ∧ truthy v = false) ∨ ∃ c, r = .exc c) := by
  obtain ⟨reply, w1, hq, hl, hd1⟩ := queryVersion_dom fuel hf w hd
  have key : ∀ o, ebb_serial_min_version fuel .port (.str thr) w = o →
      (mcall2 (ebb_serial_min_version fuel) (ok .port) (ok (.str thr)) : Eff NoObj) w = ofOut o (.fuelOut, w) :=
    fun o h => by rw [mcall2_ok_apply, h]
  rcases gate_eval fuel thr reply w w1 hq with h | ⟨b, h⟩ | h
  · exact ⟨w1, _, key _ h, hl, hd1, .inr (.inl ⟨_, rfl, rfl⟩)⟩
  · cases b
    · exact ⟨w1, _, key _ h, hl, hd1, .inr (.inl ⟨_, rfl, rfl⟩)⟩
    · exact ⟨w1, _, key _ h, hl, hd1, .inl ⟨rfl, h⟩⟩
  · exact ⟨w1, _, key _ h, hl, hd1, .inr (.inr ⟨_, rfl⟩)⟩

/-- what a gated feature leaves: the version query alone, or the version query and then `ts`, the latter only when the
gate call returned `True` -/
def Gated (fuel : Nat) (thr : List Char) (w w' : World NoObj) (ts : List (List Char)) : Prop :=
  w'.port.log = w.port.log ++ [vq] ∨
    (w'.port.log = w.port.log ++ vq :: ts ∧ ∃ w1, ebb_serial_min_version fuel .port (.str thr) w = .val (.bool true) w1)

theorem Gated.elim {fuel : Nat} {thr : List Char} {w w' : World NoObj} {ts : List (List Char)} {P : Prop}
    (hg : Gated fuel thr w w' ts) (refused : w'.port.log = w.port.log ++ [vq] → P)
    (passed : w'.port.log = w.port.log ++ vq :: ts →
      (∃ w1, ebb_serial_min_version fuel .port (.str thr) w = .val (.bool true) w1) → P) : P :=
  Or.elim hg refused fun h => passed h.1 h.2

theorem gate_then_pure {σ : Type} {a b : Stmt NoObj σ} {fuel : Nat} {env : σ} {w : World NoObj} {G : World NoObj → Prop}
    (hb : PureS b) (h : ∃ w', flowWorld (a fuel env w) = some w' ∧ G w') :
    ∃ w', flowWorld (seq a b fuel env w) = some w' ∧ G w' :=
  h.imp fun _ h => ⟨flowWorld_seq hb _ _ _ _ h.1, h.2⟩

/-- a feature that begins `if not min_version(port, thr): return X` -/
theorem gate_guard {σ : Type} {c : Expr NoObj σ} {rest : Stmt NoObj σ} {fuel : Nat} (hf : 101 ≤ fuel) (thr : List Char) (X : Val)
    {env : σ} {w : World NoObj} (hd : Dom w.port) {ts : List (List Char)}
    (hc : c fuel env = not_ (mcall2 (ebb_serial_min_version fuel) (ok .port) (ok (.str thr))))
    (hpass : ∀ w1, Dom w1.port → Sent (rest fuel env w1) w1 ts) :
    ∃ w', flowWorld (seq (ifte c (return_ fun _ _ => ok X) pass) rest fuel env w) = some w' ∧ Gated fuel thr w w' ts := by
  obtain ⟨w1, r, e, hl, hd1, hr⟩ := gate_call fuel hf thr w hd
  have hv : ∀ v, r = .ok v → c fuel env w = (.ok (.bool (!truthy v)), w1) := fun v h => by
    rw [hc, not_, bind_apply_ok (h ▸ e)]; rfl
  rcases hr with ⟨rfl, ht⟩ | ⟨v, rfl, hv'⟩ | ⟨cl, rfl⟩
  · obtain ⟨w2, h2, hl2, -⟩ := hpass w1 hd1
    exact ⟨w2, by rw [seq_norm (ifte_neg (hv _ rfl) rfl)]; exact h2, .inr ⟨by rw [hl2, hl]; simp, w1, ht⟩⟩
  · exact ⟨w1, by rw [seq_ret (ifte_pos (hv v rfl) (by rw [hv']; rfl))]; rfl, .inl hl⟩
  · exact ⟨w1, by rw [seq_exc (c := cl) (by rw [ifte, hc, not_, bind_apply_exc e])]; rfl, .inl hl⟩

/-- a feature that begins `x = min_version(port, thr)`, whose rest leaves the port alone when `x` is falsy -/
theorem gate_assign {σ : Type} {set : σ → Val → σ} {e : Expr NoObj σ} {rest : Stmt NoObj σ} {fuel : Nat} (hf : 101 ≤ fuel)
    (thr : List Char) {env : σ} {w : World NoObj} (hd : Dom w.port) {ts : List (List Char)}
    (he : e fuel env = mcall2 (ebb_serial_min_version fuel) (ok .port) (ok (.str thr)))
    (hpass : ∀ w1, Dom w1.port → Sent (rest fuel (set env (.bool true)) w1) w1 ts)
    (hstop : ∀ v w1, truthy v = false → flowWorld (rest fuel (set env v) w1) = some w1) :
    ∃ w', flowWorld (seq (assign set e) rest fuel env w) = some w' ∧ Gated fuel thr w w' ts := by
  obtain ⟨w1, r, e1, hl, hd1, hr⟩ := gate_call fuel hf thr w hd
  rw [← he] at e1
  rcases hr with ⟨rfl, ht⟩ | ⟨v, rfl, hv'⟩ | ⟨cl, rfl⟩
  · obtain ⟨w2, h2, hl2, -⟩ := hpass w1 hd1
    exact ⟨w2, by rw [seq_norm (assign_of e1)]; exact h2, .inr ⟨by rw [hl2, hl]; simp, w1, ht⟩⟩
  · exact ⟨w1, by rw [seq_norm (assign_of e1)]; exact hstop v w1 hv', .inl hl⟩
  · exact ⟨w1, by rw [seq_exc (assign_exc e1)]; rfl, .inl hl⟩

/-- how the row of `C06.legacyEmit` for a gated helper is read off `Gated`: `fwOk` is the gate's answer -/
theorem Gated.wrote {fuel : Nat} {thr : List Char} {w w' : World NoObj} {o : Out NoObj} {c : C06.Cmd} {r : C06.Req}
    (ho : outWorld o = some w') (hg : Gated fuel thr w w' [c.wire.toList])
    (hr : ∀ fwOk, C06.legacyEmit true fwOk r = some (C06.versionQuery :: (if fwOk then [c] else []))) :
    ∃ fwOk, Wrote o w (C06.legacyEmit true fwOk r) :=
  hg.elim (fun hl => ⟨false, w', ho, by rw [hl, hr]; rfl⟩) fun hl _ => ⟨true, w', ho, by rw [hl, hr]; rfl⟩

/-- the text `servo_timeout` formats: `SR,<ms>` or `SR,<ms>,<state>` -/
def srCmd (ms : Int) (st : Option Int) : C06.Cmd := ⟨"SR", ms :: st.toList⟩

theorem servo_if3 (fuel : Nat) (ms : Int) (st : Option Int) (vb so : Val) (w : World NoObj) :
    ebb_motion_servo_timeout_if3 fuel ⟨.port, .int ms, encOpt st, vb, so⟩ w
      = .norm ⟨.port, .int ms, encOpt st, vb, .str (srCmd ms st).wire.toList⟩ w := by
  unfold ebb_motion_servo_timeout_if3 srCmd
  cases st with
  | none => rw [ifte_pos rfl rfl, wire_cr]; rfl
  | some q => rw [ifte_neg rfl rfl, wire_cr]; rfl

theorem legacyEmit_servo (fwOk : Bool) (ms : Int) (st : Option Int) :
    C06.legacyEmit true fwOk (.servoTimeout ms st) = some (C06.versionQuery :: (if fwOk then [srCmd ms st] else [])) := by
  cases st <;> cases fwOk <;> simp [C06.legacyEmit, C06.legacyEmitWith, srCmd]

/-- `servo_timeout`: behind the gate `2.6.0`, `SR,<ms>[,<state>]` -/
theorem servo_timeout_gated (fuel : Nat) (hf : 101 ≤ fuel) (ms : Int) (st : Option Int) (vb : Val) (w : World NoObj)
    (hd : Dom w.port) :
    ∃ w', outWorld (ebb_motion_servo_timeout fuel .port (.int ms) (encOpt st) vb w) = some w' ∧
      Gated fuel ['2', '.', '6', '.', '0'] w w' [(srCmd ms st).wire.toList] := by
  rw [ebb_motion_servo_timeout, outWorld_run, ebb_motion_servo_timeout_main, ebb_motion_servo_timeout_if1, ifte_pos rfl rfl,
    block_cons2, block_cons2, block_one, ebb_motion_servo_timeout_if2]
  refine gate_guard hf _ .none hd rfl fun w1 d1 => ?_
  -- `Sent.after` concludes `ts₁ ++ ts₂`: the formatting statement sends `[]`, the `command` statement the text
  rw [← List.nil_append [_]]
  exact (Sent.command hf (isAscii_wire "SR" _ (by decide)) d1 rfl).after (servo_if3 fuel ms st vb .unbound w1) (List.append_nil _).symm

theorem servo_timeout_bridge (fuel : Nat) (hf : 101 ≤ fuel) (ms : Int) (st : Option Int) (vb : Val) (w : World NoObj)
    (hd : Dom w.port) :
    ∃ fwOk, Wrote (ebb_motion_servo_timeout fuel .port (.int ms) (encOpt st) vb w) w
      (C06.legacyEmit true fwOk (.servoTimeout ms st)) :=
  (servo_timeout_gated fuel hf ms st vb w hd).elim fun _ h => h.2.wrote h.1 fun fwOk => legacyEmit_servo fwOk ms st

end C06Gen
end Plotink
