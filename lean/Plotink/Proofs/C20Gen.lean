import Plotink.Gen.xml_escape
import Plotink.Gen.format_hms
import Plotink.Proofs.PySeq
import Plotink.Proofs.PyEnc
import Plotink.Proofs.C20Xml
import Plotink.Proofs.C20Hms

/-! # C20 — the source-regenerated `xml_escape` / `format_hms` against the hand models

`Gen.xml_escape` and `Gen.format_hms` are regenerated from `plotink/text_utils.py` on every run. A Python `str`
is `Py.Val.str` over Lean `String`; the hand models are over `List Char`; the two are related by
`String.toList` / `String.ofList`.  The runtime's `replace` on a one-character pattern is the model's `replaceChar`
(`str_replace_single`), its renderers for `str(int)`, `{:02}` and `{:.3f}` are the model's `intDigits`, `pad2` and
`fixed3` (`intDigits_eq`, `zeroPad_two`, `fixedDigits_three`); with them `format_hms` on seconds is `formatHms`
(`format_hms_sec`). -/

namespace Plotink
namespace C20
open Py Py.Val

theorem replaceGo_single (c : Char) (r : List Char) (s : List Char) :
    Py.replaceGo [c] r 0 s = replaceChar c r s := by
  induction s with
  | nil => rfl
  | cons x xs ih =>
    rw [Py.replaceGo, replaceChar_cons, ← ih]
    by_cases h : x = c
    · subst h; simp [List.isPrefixOf]
    · have h' : ¬ c = x := fun e => h e.symm
      simp [List.isPrefixOf, h, h']

theorem replaceL_single (c : Char) (r s : List Char) : Py.replaceL [c] r s = replaceChar c r s := by
  unfold Py.replaceL
  rw [if_neg (by simp)]
  exact replaceGo_single c r s

theorem str_replace_single (s : String) (c : Char) (r : String) :
    Py.str_replace (.str s) (.str (String.ofList [c])) (.str r) = .str (String.ofList (replaceChar c r.toList s.toList)) := by
  show Py.ofL _ = _
  rw [String.toList_ofList, replaceL_single]
  rfl

theorem digitChar_eq (d : Nat) : Py.digitChar d = digitChar d := rfl

theorem natDigits_eq (n : Nat) : Py.natDigits n = natDigits n := by
  induction n using Nat.strong_induction_on with
  | _ n ih =>
    rw [Py.natDigits]
    by_cases h : n < 10
    · rw [if_pos h, natDigits_lt n h]; rfl
    · rw [if_neg h, natDigits_ge n h, ih (n / 10) (by omega)]; rfl

theorem intDigits_eq (z : Int) : Py.intDigits z = intDigits z := by
  unfold Py.intDigits intDigits
  simp only [natDigits_eq]

theorem natDigits_length_pos (n : Nat) : 1 ≤ (natDigits n).length := by
  by_cases h : n < 10
  · rw [natDigits_lt n h]; simp
  · rw [natDigits_ge n h]; simp

theorem zeroPad_two (z : Int) : Py.zeroPad 2 z = pad2 z := by
  unfold Py.zeroPad pad2 intDigits
  simp only [natDigits_eq]
  have hl := natDigits_length_pos z.natAbs
  by_cases hz : z < 0
  · simp only [hz, if_true]
    have : 2 - 1 - (natDigits z.natAbs).length = 0 := by omega
    rw [this]
    simp only [List.replicate_zero, List.nil_append, List.length_cons]
    rw [if_neg (by omega)]
  · simp only [hz, if_false]
    have e : z.natAbs = z.toNat := by omega
    rw [e] at hl ⊢
    by_cases h2 : (natDigits z.toNat).length < 2
    · rw [if_pos h2]
      have : 2 - (natDigits z.toNat).length = 1 := by omega
      rw [this]; rfl
    · rw [if_neg h2]
      have : 2 - (natDigits z.toNat).length = 0 := by omega
      rw [this]; rfl

theorem fixedDigits_three (q : Rat) (h : 0 ≤ q ∨ roundHE (1000 * q) ≠ 0) :
    Py.fixedDigits 3 q = fixed3 (roundHE (1000 * q)) := by
  unfold Py.fixedDigits fixed3
  have e : q * ((10 ^ 3 : Nat) : Rat) = 1000 * q := by norm_num [mul_comm]
  simp only [e, natDigits_eq]
  -- the runtime takes the sign from `q`, `fixed3` from the rounded thousandths; they differ only on a negative `q` that
  -- rounds to zero (`-0.000`), which `h` excludes
  have hsign : (q < 0) ↔ (roundHE (1000 * q) < 0) := by
    constructor
    · intro hq
      have hle : roundHE (1000 * q) ≤ 0 := roundHE_le_of_le 0 _ (by push_cast; linarith)
      rcases h with h | h
      · exact absurd hq (not_lt.mpr h)
      · omega
    · intro hn
      by_contra hq
      have : (0 : Int) ≤ roundHE (1000 * q) := le_roundHE_of_le 0 _ (by push_cast; linarith [not_lt.mp hq])
      omega
  by_cases hq : q < 0
  · simp [hq, hsign.mp hq, List.range, List.range.loop, digitChar_eq]
  · have hn : ¬ roundHE (1000 * q) < 0 := fun h => hq (hsign.mpr h)
    simp [hq, hn, List.range, List.range.loop, digitChar_eq]

theorem format_flt_3f (q : Rat) : Py.format_ (.flt q) ".3f" = Py.ofL (Py.fixedDigits 3 q) := rfl
theorem format_int_3f (z : Int) : Py.format_ (.int z) ".3f" = Py.ofL (Py.fixedDigits 3 (z : Rat)) := rfl
theorem format_int_02 (z : Int) : Py.format_ (.int z) "02" = Py.ofL (Py.zeroPad 2 z) := rfl
theorem format_int_plain (z : Int) : Py.format_ (.int z) "" = Py.ofL (Py.intDigits z) := rfl
theorem fjoin_go_nil : Py.fjoin.go [] = some [] := rfl
theorem fjoin_go_str (x : String) (r : List Val) : Py.fjoin.go (.str x :: r) = (Py.fjoin.go r).map (x.toList ++ ·) := rfl
theorem fjoin_go_ofL (l : List Char) (r : List Val) : Py.fjoin.go (Py.ofL l :: r) = (Py.fjoin.go r).map (l ++ ·) := by
  unfold Py.ofL; rw [fjoin_go_str, String.toList_ofList]
theorem add_str_str (R : Rounding) (p : Nat) (a b : String) : Py.add R p (.str a) (.str b) = .str (a ++ b) := rfl
theorem add_ofL_str (R : Rounding) (p : Nat) (l : List Char) (b : String) :
    Py.add R p (Py.ofL l) (.str b) = Py.ofL (l ++ b.toList) := by
  unfold Py.ofL; rw [add_str_str]; congr 1
  rw [String.ext_iff, String.toList_append, String.toList_ofList, String.toList_ofList]
theorem divmod_60 (R : Rounding) (p : Nat) (z : Int) :
    Py.divmod_ R p (.int z) (.int 60) = .tup [.int (z / 60), .int (z % 60)] := by
  have h1 : Int.fdiv z 60 = z / 60 := Int.fdiv_eq_ediv_of_nonneg z (by decide)
  have h2 : Int.fmod z 60 = z % 60 := Int.fmod_eq_emod_of_nonneg z (by decide)
  simp [Py.divmod_, Py.floordiv, Py.mod, h1, h2]
theorem lt_flt_int (q : Rat) (z : Int) : Py.lt (.flt q) (.int z) = decide (q < (z : Rat)) := rfl
theorem lt_int_int_rat (a z : Int) : Py.lt (.int a) (.int z) = decide ((a : Rat) < (z : Rat)) := rfl

theorem sSeconds_def : sSeconds = " Seconds".toList := rfl
theorem sMinSec_def : sMinSec = " (Minutes, seconds)".toList := rfl
theorem sHrMinSec_def : sHrMinSec = " (Hours, minutes, seconds)".toList := rfl
theorem colon_toList : (":" : String).toList = [':'] := by decide +kernel

theorem format_num_3f {v : Val} {q : Rat} (hv : IsNum v q) : Py.format_ v ".3f" = Py.ofL (Py.fixedDigits 3 q) := by
  rcases hv with rfl | ⟨a, rfl, rfl⟩ <;> rfl
theorem round_num {v : Val} {q : Rat} (hv : IsNum v q) : Py.int_ (Py.round_ v) = .int (roundHE q) := by
  rcases hv with rfl | ⟨a, rfl, rfl⟩
  · rfl
  · rw [roundHE_int]; rfl

theorem format_hms_sec (R : Rounding) (amb : Nat) (v : Val) (q : Rat) (hv : IsNum v q)
    (h : 0 ≤ q ∨ roundHE (1000 * q) ≠ 0) :
    Gen.format_hms R amb v (.bool_ false) = Py.ofL (formatHms R.f64 q false) := by
  rw [formatHms_seconds]
  unfold Gen.format_hms
  simp only [Py.truthy, Bool.false_eq_true, if_false, enc_isNum.lt_int hv, format_num_3f hv, round_num hv, Py.round_int, Py.int_int,
    Py.lt_int_int, divmod_60, Py.unpackN_tup2, Py.getItem_cons_zero, Py.getItem_cons_succ, format_int_02,
    format_int_plain, Py.fjoin, fjoin_go_ofL, fjoin_go_str, fjoin_go_nil, Option.map_some, add_ofL_str,
    decide_eq_true_eq, intDigits_eq, zeroPad_two, Int.cast_ofNat, fixedDigits_three q h]
  rw [sSeconds_def, sMinSec_def, sHrMinSec_def]
  simp only [apply_ite Py.ofL, colon_toList, List.append_nil, List.append_assoc, List.cons_append, List.nil_append]
theorem truediv_num_1000 (R : Rounding) (p : Nat) {v : Val} {q : Rat} (hv : IsNum v q) :
    Py.truediv R p v (.flt (1000 : Rat)) = .flt (R.f64 (q / 1000)) := by
  rcases hv with rfl | ⟨z, rfl, rfl⟩ <;> simp [Py.truediv, Py.num, Py.join, Py.kind, Py.pack]

end C20
end Plotink
