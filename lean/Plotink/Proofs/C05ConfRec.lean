import Plotink.Proofs.C05Replay
import Plotink.Proofs.C05Conf
/-!
# The conforming device with a recorder, and the script it produces

`recDev (confDev reply)` is a conforming device that logs what it serves.  `confScript reply k ts` is the closed form
of what a conforming device produces for the texts `ts` (the first being its `k`-th request): for each text, the
empty reads and then the one reply line.  `confRecSound`: the recorded conforming device is `Sound`
with an invariant that, besides `ConfInv`, says that the log of served reads *is* `confScript` of the texts written so
far — every line produced has been read, by the exchange that caused it.  What holds of the recorded device holds of
`confDev reply` itself (`conf_hist`): the recorder changes nothing (`proj_hist`).  Core Lean only.
-/
namespace Plotink
namespace Ebb3

variable (reply : Nat → Str → Nat × Str)

def confSeg (k : Nat) (t : Str) : List ReadEv :=
  List.replicate (reply k t).1 (ReadEv.line []) ++ [ReadEv.line (reply k t).2]

def confScript : Nat → List Str → List ReadEv
  | _, [] => []
  | k, t :: ts => confSeg reply k t ++ confScript (k + 1) ts

theorem confScript_append : ∀ (k : Nat) (ts : List Str) (t : Str),
    confScript reply k (ts ++ [t]) = confScript reply k ts ++ confSeg reply (k + ts.length) t
  | k, [], t => by simp [confScript]
  | k, a :: ts, t => by
    simp only [List.cons_append, confScript, List.length_cons, confScript_append (k + 1) ts t, List.append_assoc]
    have : k + 1 + ts.length = k + (ts.length + 1) := by omega
    rw [this]

/-- between calls on the recorded conforming device, the recording having started with empty logs when the device had
received `k0` requests and `out0` had been written: no error; while connected, nothing unread, and the log of served
reads is the conforming script of the texts written since (all writes succeeded) -/
def ConfInvR (k0 : Nat) (out0 : List Str) (w : World (Rec ConfSt)) : Prop :=
  w.st.err = Option.none ∧
  (w.st.port = true → w.dev.inner.queue = [] ∧ ∃ ts, w.out = out0 ++ ts ∧ w.dev.inner.count = k0 + ts.length ∧
    w.dev.rd = confScript reply k0 ts ∧ w.dev.wr = ts.map (fun _ => WriteEv.ok))

theorem readLoop_confR : ∀ (d n : Nat), d < n → ∀ (l : Str), (strip l).isEmpty = false →
    ∀ (st : St) (k : Nat) (rd : List ReadEv) (wr : List WriteEv) (out : List Str) (nr : Nat),
    readLoop (recDev (confDev reply)) n
        ⟨st, ⟨⟨List.replicate d (ReadEv.line []) ++ [ReadEv.line l], k⟩, rd, wr⟩, out, nr⟩ =
      (.ok (some (strip l)),
        ⟨st, ⟨⟨[], k⟩, rd ++ (List.replicate d (ReadEv.line []) ++ [ReadEv.line l]), wr⟩, out, nr + d + 1⟩)
  | 0, n + 1, _, l, hl, st, k, rd, wr, out, nr => by
    have hr : portRead (recDev (confDev reply)) ⟨st, ⟨⟨[ReadEv.line l], k⟩, rd, wr⟩, out, nr⟩ =
        (.ok (some l), ⟨st, ⟨⟨[], k⟩, rd ++ [ReadEv.line l], wr⟩, out, nr + 1⟩) := rfl
    simp only [List.replicate, List.nil_append]
    rw [readLoop, bind_ok hr]
    simp [hl]
  | d + 1, n + 1, hd, l, hl, st, k, rd, wr, out, nr => by
    have hr : portRead (recDev (confDev reply))
        ⟨st, ⟨⟨List.replicate (d + 1) (ReadEv.line []) ++ [ReadEv.line l], k⟩, rd, wr⟩, out, nr⟩ =
        (.ok (some []), ⟨st, ⟨⟨List.replicate d (ReadEv.line []) ++ [ReadEv.line l], k⟩, rd ++ [ReadEv.line []], wr⟩,
          out, nr + 1⟩) := rfl
    rw [readLoop, bind_ok hr]
    have he : (strip ([] : Str)).isEmpty = true := by decide
    simp only [he, if_true]
    rw [readLoop_confR d n (by omega) l hl st k (rd ++ [ReadEv.line []]) wr out (nr + 1)]
    have : nr + 1 + d + 1 = nr + (d + 1) + 1 := by omega
    rw [this]
    simp [List.replicate_succ, List.append_assoc]

theorem exchange_confR (retry : Nat) (req : Str) (st : St) (k : Nat) (rd : List ReadEv) (wr : List WriteEv)
    (out : List Str) (nr : Nat) (name : Str) (hne : name ≠ [])
    (hd : (reply k (req ++ ['\r'])).1 ≤ retry)
    (hp : startsWith name (strip (reply k (req ++ ['\r'])).2) = true) :
    exchange (recDev (confDev reply)) retry req ⟨st, ⟨⟨[], k⟩, rd, wr⟩, out, nr⟩ =
      (.ok (some (strip (reply k (req ++ ['\r'])).2)),
       ⟨st, ⟨⟨[], k + 1⟩, rd ++ confSeg reply k (req ++ ['\r']), wr ++ [WriteEv.ok]⟩, out ++ [req ++ ['\r']],
        nr + (reply k (req ++ ['\r'])).1 + 1⟩) := by
  have hw : portWrite (recDev (confDev reply)) (req ++ ['\r']) ⟨st, ⟨⟨[], k⟩, rd, wr⟩, out, nr⟩ =
      (.ok true, ⟨st, ⟨⟨List.replicate (reply k (req ++ ['\r'])).1 (ReadEv.line []) ++
        [ReadEv.line (reply k (req ++ ['\r'])).2], k + 1⟩, rd, wr ++ [WriteEv.ok]⟩, out ++ [req ++ ['\r']], nr⟩) := by
    simp [portWrite, confDev, recDev]
  unfold exchange
  rw [bind_ok hw]
  simp only [if_true]
  exact readLoop_confR reply _ (retry + 1) (by omega) _ (startsWith_nonempty hne hp) st (k + 1) rd _ _ nr

theorem confInvR_step (k0 : Nat) (out0 : List Str) (st : St) (k : Nat) (rd : List ReadEv)
    (wr : List WriteEv) (out : List Str) (nr nr' : Nat) (t : Str)
    (h : ConfInvR reply k0 out0 ⟨st, ⟨⟨[], k⟩, rd, wr⟩, out, nr⟩) (hp : st.port = true) :
    ConfInvR reply k0 out0 ⟨st, ⟨⟨[], k + 1⟩, rd ++ confSeg reply k t, wr ++ [WriteEv.ok]⟩, out ++ [t], nr'⟩ := by
  obtain ⟨-, ts, h1, h2, h3, h4⟩ := h.2 hp
  simp only at h1 h2 h3 h4
  refine ⟨h.1, fun _ => ⟨rfl, ts ++ [t], ?_, ?_, ?_, ?_⟩⟩
  · simp only [h1, List.append_assoc]
  · simp only [h2, List.length_append, List.length_cons, List.length_nil]; omega
  · simp only [h3, confScript_append, h2]
  · simp only [h4, List.map_append, List.map_cons, List.map_nil]

theorem confRecSound (P : Params) (hc : Conforming P reply) (k0 : Nat) (out0 : List Str) :
    Sound P (recDev (confDev reply)) (ConfInvR reply k0 out0) where
  congr := fun w f hf h => ⟨by rw [(hf w.st).1]; exact h.1, fun hp => h.2 (by rw [← (hf w.st).2]; exact hp)⟩
  xch := by
    intro retry req name w hx hn htrim hI hb
    obtain ⟨st, ⟨⟨queue, k⟩, rd, wr⟩, out, nr⟩ := w
    have hb' := blocked_false_iff.mp hb
    obtain rfl : queue = [] := (hI.2 hb'.1).1
    obtain ⟨hd1, hd2, hd0, hp, he, hgood⟩ := hc k req name htrim hn
    -- the reply comes within the reads this exchange makes
    have hd : (reply k (req ++ ['\r'])).1 ≤ retry := by
      rcases hx with rfl | rfl | ⟨rfl, hq⟩
      · exact hd1
      · exact hd2
      · exact Nat.le_of_eq (hd0 hq)
    refine ⟨_, _, exchange_confR reply retry req st k rd wr out nr name (cmdName_ne hn) hd hp, ?_, fun v hv => ?_⟩
    · intro t ht _ _ hpn
      obtain rfl := Option.some.inj ht
      exact hgood name hpn rfl
    · rw [hv ⟨hp, he⟩]
      exact confInvR_step reply k0 out0 st k rd wr out nr _ _ hI hb'.1
  raw := by
    intro text w hI hb
    obtain ⟨st, ⟨⟨queue, k⟩, rd, wr⟩, out, nr⟩ := w
    have hb' := blocked_false_iff.mp hb
    refine ⟨.bool true, ⟨{ st with port := false },
      ((recDev (confDev reply)).write ⟨⟨queue, k⟩, rd, wr⟩ text).2, out ++ [text], nr⟩, ?_, ?_⟩
    · simp [rawCloseBody, portWrite, confDev, recDev, bind_apply, disconnectM]
    · exact ⟨hb'.2, fun h => by cases h⟩

/-- **attribution** along any history of in-domain request calls against a conforming device: run it with a recorder
(which changes nothing, `proj_hist`) and forget the log part of the invariant -/
theorem conf_hist (P : Params) (hc : Conforming P reply) (cs : List Call)
    (hcs : ∀ c ∈ cs, c.method.isRequest = true ∧ c.InDomain) (w : World ConfSt) (hw : ConfInv w) :
    ∀ o ∈ runCalls P (confDev reply) cs w, (∃ v, o.res = .ok v) ∧ ConfInv o.world := by
  intro o ho
  have hR : ConfInvR reply w.dev.count w.out ⟨w.st, ⟨w.dev, [], []⟩, w.out, w.nreads⟩ :=
    ⟨hw.1, fun hp => ⟨hw.2 hp, [], (List.append_nil _).symm, rfl, rfl, rfl⟩⟩
  have ho' : o ∈ runCalls P (confDev reply) cs (projW ⟨w.st, ⟨w.dev, [], []⟩, w.out, w.nreads⟩) := ho
  rw [(proj_hist P (confDev reply) cs _).2] at ho'
  obtain ⟨oR, hoR, rfl⟩ := List.mem_map.mp ho'
  obtain ⟨hok, hinv⟩ := (Total.hist P (recDev (confDev reply)) cs
    (fun c hc' => total_of_sound (confRecSound reply P hc _ _) c (hcs c hc').1 (hcs c hc').2) _ hR).2 oR hoR
  exact ⟨hok, hinv.1, fun hp => (hinv.2 hp).1⟩

def recStart (st0 : St) (k0 : Nat) (out0 : List Str) (nr0 : Nat) : World (Rec ConfSt) :=
  ⟨st0, ⟨⟨[], k0⟩, [], []⟩, out0, nr0⟩

/-- **the script a conforming device produces for the requests the history `cs` sends**: the outcomes the recorded
conforming device hands out while `cs` runs against it -/
def confTranscript (P : Params) (cs : List Call) (st0 : St) (k0 : Nat) (out0 : List Str) (nr0 : Nat) : Script :=
  ⟨(finalWorld P (recDev (confDev reply)) cs (recStart st0 k0 out0 nr0)).dev.rd,
   (finalWorld P (recDev (confDev reply)) cs (recStart st0 k0 out0 nr0)).dev.wr⟩

/-- attribution along a history on the recorded conforming device (as `C05_attribution`, with the stronger invariant) -/
theorem confRec_hist (P : Params) (hc : Conforming P reply) (cs : List Call)
    (hcs : ∀ c ∈ cs, c.method.isRequest = true ∧ c.InDomain) (st0 : St) (h0 : st0.err = Option.none)
    (k0 : Nat) (out0 : List Str) (nr0 : Nat) :
    ConfInvR reply k0 out0 (finalWorld P (recDev (confDev reply)) cs (recStart st0 k0 out0 nr0)) ∧
    ∀ o ∈ runCalls P (recDev (confDev reply)) cs (recStart st0 k0 out0 nr0),
      (∃ v, o.res = .ok v) ∧ ConfInvR reply k0 out0 o.world :=
  Total.hist P (recDev (confDev reply)) cs
    (fun c hc' => total_of_sound (confRecSound reply P hc _ _) c (hcs c hc').1 (hcs c hc').2) _
    ⟨h0, fun _ => ⟨rfl, [], (List.append_nil _).symm, rfl, rfl, rfl⟩⟩

end Ebb3
end Plotink
