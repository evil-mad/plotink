import Plotink.Proofs.C13Adj
import Plotink.Proofs.C13Scan

/-! C13: what the two scanned lists of `nearest` contain, under the invariant. -/
namespace Plotink
namespace C13

theorem binClamp_range {bins : Nat} (hb : 0 < bins) (lo size x : Rat) :
    0 ≤ binClamp bins lo size x ∧ binClamp bins lo size x < bins := by
  unfold binClamp binHi
  omega

def colN (G : Geo) (p : Pt) : Nat := (binClamp G.bins G.xmin G.bx p.1).toNat
def rowN (G : Geo) (p : Pt) : Nat := (binClamp G.bins G.ymin G.by_ p.2).toNat

theorem colN_lt {G : Geo} (hb : 0 < G.bins) (p : Pt) : colN G p < G.bins := by
  have := binClamp_range hb G.xmin G.bx p.1
  unfold colN; omega

theorem rowN_lt {G : Geo} (hb : 0 < G.bins) (p : Pt) : rowN G p < G.bins := by
  have := binClamp_range hb G.ymin G.by_ p.2
  unfold rowN; omega

theorem cellIdx_eq {G : Geo} (hb : 0 < G.bins) (p : Pt) : cellIdx G p = colN G p + rowN G p * G.bins := by
  have h1 := binClamp_range hb G.xmin G.bx p.1
  have h2 := binClamp_range hb G.ymin G.by_ p.2
  unfold cellIdx colN rowN
  generalize binClamp G.bins G.xmin G.bx p.1 = a at *
  generalize binClamp G.bins G.ymin G.by_ p.2 = b at *
  obtain ⟨a', rfl⟩ := Int.eq_ofNat_of_zero_le h1.1
  obtain ⟨b', rfl⟩ := Int.eq_ofNat_of_zero_le h2.1
  have : ((a' : Int) + (G.bins : Int) * (b' : Int)) = ((a' + b' * G.bins : Nat) : Int) := by
    rw [Int.mul_comm]; norm_cast
  rw [this]
  exact Int.toNat_natCast _

theorem cellIdx_lt {G : Geo} (hb : 0 < G.bins) (p : Pt) : cellIdx G p < G.bins * G.bins := by
  rw [cellIdx_eq hb]
  exact idx_lt (colN_lt hb p) (rowN_lt hb p)

theorem toNat_le_succ {a b : Int} (ha : 0 ≤ a) (hb : 0 ≤ b) : a.toNat ≤ b.toNat + 1 ↔ a ≤ b + 1 := by omega

theorem near_iff {G : Geo} (hb : 0 < G.bins) (q p : Pt) :
    Near (cellOf G q) (cellOf G p) ↔
      colN G p ≤ colN G q + 1 ∧ colN G q ≤ colN G p + 1 ∧ rowN G p ≤ rowN G q + 1 ∧ rowN G q ≤ rowN G p + 1 := by
  have h1 := (binClamp_range hb G.xmin G.bx p.1).1
  have h2 := (binClamp_range hb G.ymin G.by_ p.2).1
  have h3 := (binClamp_range hb G.xmin G.bx q.1).1
  have h4 := (binClamp_range hb G.ymin G.by_ q.2).1
  unfold Near cellOf colN rowN
  rw [toNat_le_succ h1 h3, toNat_le_succ h3 h1, toNat_le_succ h2 h4, toNat_le_succ h4 h2]
  exact ⟨fun ⟨a, b, c, d⟩ => ⟨b, a, d, c⟩, fun ⟨a, b, c, d⟩ => ⟨b, a, d, c⟩⟩

theorem mem_nbCells_iff {g : Grid} (hb : 0 < g.bins) (q p : Pt) :
    cellIdx g.toGeo p ∈ nbCells g q ↔ Near (cellOf g.toGeo q) (cellOf g.toGeo p) := by
  have hqx := colN_lt (G := g.toGeo) hb q
  have hqy := rowN_lt (G := g.toGeo) hb q
  have hpx := colN_lt (G := g.toGeo) hb p
  have hpy := rowN_lt (G := g.toGeo) hb p
  unfold nbCells
  rw [cellIdx_eq hb q, adjacents_getD hqx hqy, mem_adjOf hqx hqy, near_iff hb, cellIdx_eq hb p]
  constructor
  · rintro ⟨x', y', hx', hy', hc, h1, h2, h3, h4⟩
    obtain ⟨rfl, rfl⟩ := idx_inj hpx hx' hc
    exact ⟨h1, h2, h3, h4⟩
  · rintro ⟨h1, h2, h3, h4⟩
    exact ⟨_, _, hpx, hpy, rfl, h1, h2, h3, h4⟩

theorem adjacents_cellIdx {g : Grid} (hb : 0 < g.bins) (q : Pt) :
    (adjacents g.bins)[cellIdx g.toGeo q]? = some (nbCells g q) := by
  have hlt : cellIdx g.toGeo q < (adjacents g.bins).length := by rw [adjacents_length]; exact cellIdx_lt hb q
  rw [nbCells, List.getD_eq_getElem?_getD, List.getElem?_eq_getElem hlt]
  rfl

theorem nbCells_lt {g : Grid} (hb : 0 < g.bins) (q : Pt) {c : Nat} (hc : c ∈ nbCells g q) : c < g.bins * g.bins := by
  have hx := colN_lt (G := g.toGeo) hb q
  have hy := rowN_lt (G := g.toGeo) hb q
  unfold nbCells at hc
  rw [cellIdx_eq hb, adjacents_getD hx hy] at hc
  obtain ⟨x', y', hx', hy', rfl, _⟩ := (mem_adjOf hx hy c).mp hc
  exact idx_lt hx' hy'

/-- `id` names an end of a path that has not been removed -/
def LiveId (g : Grid) (live : List Nat) (id : Nat) : Prop := ValidId g id ∧ pathOf g.n id ∈ live

variable {g : Grid} {live : List Nat}

theorem LiveId.cases {r : Nat} (h : LiveId g live r) :
    (r < g.n ∧ r ∈ live) ∨ (g.rev = true ∧ g.n ≤ r ∧ r < 2 * g.n ∧ r - g.n ∈ live) := by
  obtain ⟨hv | ⟨hrev, h1, h2⟩, hl⟩ := h
  · exact .inl ⟨hv, by simpa [pathOf, hv] using hl⟩
  · exact .inr ⟨hrev, h1, h2, by simpa [pathOf, Nat.not_lt.mpr h1] using hl⟩

theorem LiveId.of_mem (h : Inv g live) {k : Nat} (hk : k ∈ live) : LiveId g live k :=
  have hkn := h.live_lt k hk
  ⟨Or.inl hkn, by rwa [pathOf, if_pos hkn]⟩

theorem Inv.mem_cells (h : Inv g live) (cs : List Nat) (id : Nat) :
    id ∈ cs.flatMap (cellAt g) ↔ LiveId g live id ∧ cellIdx g.toGeo (endPt g id) ∈ cs := by
  rw [List.mem_flatMap]
  constructor
  · rintro ⟨c, hc, hm⟩
    obtain ⟨hv, hl, hk⟩ := (h.mem_iff c id).mp hm
    rw [h.lookup_eq id hv] at hk
    exact ⟨⟨hv, hl⟩, Option.some.inj hk ▸ hc⟩
  · rintro ⟨⟨hv, hl⟩, hc⟩
    exact ⟨_, hc, (h.mem_iff _ id).mpr ⟨hv, hl, h.lookup_eq id hv⟩⟩

theorem mem_nbIds_iff (h : Inv g live) (q : Pt) (id : Nat) :
    id ∈ nbIds g q ↔ LiveId g live id ∧ Near (cellOf g.toGeo q) (cellOf g.toGeo (endPt g id)) := by
  rw [nbIds, h.mem_cells, mem_nbCells_iff h.bins_pos]

theorem mem_allIds_iff (h : Inv g live) (q : Pt) (id : Nat) :
    id ∈ nbIds g q ++ restIds g q ↔ LiveId g live id := by
  rw [nbIds, restIds, ← List.flatMap_append, h.mem_cells, and_iff_left_iff_imp]
  intro _
  by_cases hc : cellIdx g.toGeo (endPt g id) ∈ nbCells g q
  · exact List.mem_append_left _ hc
  · exact List.mem_append_right _ (List.mem_filter.mpr
      ⟨List.mem_range.mpr (adjacents_length _ ▸ cellIdx_lt h.bins_pos _), by simpa using hc⟩)

theorem endPoint_some_iff (hn : g.verts.length = g.n) (id : Nat) (p : Pt) :
    endPoint g.verts g.rev id = some p ↔ ValidId g id ∧ endPt g id = p := by
  unfold endPoint ValidId endPt endPtV
  rw [hn]
  by_cases h1 : id < g.n
  · have h1' : ¬ id ≥ g.n := by omega
    have hlt : id < g.verts.length := by omega
    simp [h1, h1', List.getD_eq_getElem?_getD, List.getElem?_eq_getElem hlt]
  · have h1' : id ≥ g.n := by omega
    cases hr : g.rev with
    | false => simp [h1, h1']
    | true =>
      by_cases h2 : id < 2 * g.n
      · have hlt : id - g.n < g.verts.length := by omega
        simp [h1, h1', h2, List.getD_eq_getElem?_getD, List.getElem?_eq_getElem hlt]
      · have hge : g.verts.length ≤ id - g.n := by omega
        simp [h1, h1', h2, List.getElem?_eq_none hge]

theorem liveEnd_iff (h : Inv g live) (id : Nat) (p : Pt) :
    LiveEnd g.verts g.rev live id p ↔ LiveId g live id ∧ endPt g id = p := by
  rw [LiveEnd, endPoint_some_iff h.nverts, h.nverts, LiveId, and_right_comm]

theorem nearest_eq_none_iff (h : Inv g live) (q : Pt) :
    nearest g q = none ↔ live = [] := by
  rw [nearest_none_iff, List.eq_nil_iff_forall_not_mem, List.eq_nil_iff_forall_not_mem]
  exact ⟨fun he k hk => he k ((mem_allIds_iff h q k).mpr (.of_mem h hk)),
    fun he id hid => he _ ((mem_allIds_iff h q id).mp hid).2⟩

theorem exists_nearest (h : Inv g live) (hne : live ≠ []) (q : Pt) :
    ∃ r, nearest g q = some r :=
  Option.ne_none_iff_exists'.mp (mt (nearest_eq_none_iff h q).mp hne)

end C13
end Plotink
