import Plotink.Proofs.C06GenBase
import Plotink.Proofs.C06GenPure
import Plotink.Gen.ebb_motion_sendEnableMotors
import Plotink.Gen.ebb_motion_doLowLevelMove
import Plotink.Gen.ebb_motion_PBOutConfig
import Plotink.Gen.ebb_motion_doTimedPause
/-! # C06 over the regenerated code: the legacy helpers (`plotink/ebb_motion.py`)

A helper whose run comes down to one `command` statement wrote that command (`run_send`).  For a helper with more in it,
`Sent` says what a statement sent while staying in the domain; it is closed under statements that do no I/O
(`C06GenPure`), sequencing and `try`, and has one rule per way a `command` or `query` call stands in a helper.  Proved
here: `sendEnableMotors` (clamp), `doLowLevelMove` (suppression test), `PBOutConfig` (two commands), `doTimedPause` (a
loop); the helpers that are a guard, at most one formatted assignment and the `command` statement are rows of the table
in `C06GenTop`. -/
namespace Plotink
namespace C06Gen
open PyObj Gen

/-- the call ended (value or escaping exception, never out of fuel) and the write log grew by exactly the wire texts
of `cs` -/
def Wrote (o : Out NoObj) (w : World NoObj) (cs : Option (List C06.Cmd)) : Prop :=
  ∃ w', outWorld o = some w' ∧ w'.port.log = w.port.log ++ (cs.getD []).map (fun c => c.wire.toList)

theorem wrote_nothing {o : Out NoObj} {w : World NoObj} (h : outWorld o = some w) : Wrote o w (some []) :=
  ⟨w, h, (List.append_nil _).symm⟩

theorem run_congr {σ : Type} {s s' : Stmt NoObj σ} {fuel : Nat} {env env' : σ} {w w' : World NoObj}
    (h : s fuel env w = s' fuel env' w') : run s fuel env w = run s' fuel env' w' := by
  unfold run; rw [h]

/-- a helper whose run comes down to one `ebb_serial.command(port, text, verbose)` statement, `text` being the rendered
request `n,l…\r` -/
theorem run_send {σ : Type} (fuel : Nat) (hf : 101 ≤ fuel) (main : Stmt NoObj σ) (env : σ) (w : World NoObj)
    (n : String) (l : List Int) (hn : PyIO.isAscii n.toList = true) (vb : Val) (hio : C07Gen.IoScript w.port)
    (hmain : ∃ (e : Expr NoObj σ) (env1 : σ), main fuel env w = expr e fuel env1 w ∧
      e fuel env1 = ioCall3 (ebb_serial_command fuel) (ok .port) (ok (.str (n.toList ++ argsCR l))) (ok vb)) :
    Wrote (run main fuel env w) w (some [⟨n, l⟩]) := by
  obtain ⟨e, env1, hmain, he⟩ := hmain
  rw [← wire_cr] at he
  obtain ⟨p', hl, hrun⟩ := ioCommand_io fuel hf (C06.Cmd.wire ⟨n, l⟩).toList (isAscii_wire n l hn) vb w hio
  refine ⟨{ w with port := p' }, ?_, hl⟩
  rcases hrun with h | ⟨cl, h⟩
  · rw [run, hmain, expr_of (he ▸ h)]; rfl
  · rw [run, hmain, expr_exc (he ▸ h)]; rfl

/-- `res = max(res, 0); res = min(res, 5)` -/
theorem clamp_stmts {σ : Type} (set : σ → Val → σ) (get : σ → Val) (hgs : ∀ env v, get (set env v) = v)
    (rest : Stmt NoObj σ) (fuel : Nat) (env : σ) (r : Int) (hr : get env = .int r) (w : World NoObj) :
    seq (assign set fun _ env => app2 b_max2 (load (get env)) (ok (.int 0)))
      (seq (assign set fun _ env => app2 b_min2 (load (get env)) (ok (.int 5))) rest) fuel env w
      = rest fuel (set (set env (.int (max r 0))) (.int (min (max r 0) 5))) w := by
  rw [seq_norm (assign_of (v := .int (max r 0)) (w' := w) (by rw [hr, load_int, app2_ok, b_max2_int]; rfl)),
    seq_norm (assign_of (v := .int (min (max r 0) 5)) (w' := w) (by rw [hgs, load_int, app2_ok, b_min2_int]; rfl))]

/-- `sendEnableMotors`: `EM,<c>,<c>` with `c = min(max(res, 0), 5)` -/
theorem sendEnableMotors_bridge (fuel : Nat) (hf : 101 ≤ fuel) (present : Bool) (r : Int) (vb : Val)
    (w : World NoObj) (hio : C07Gen.IoScript w.port) :
    Wrote (ebb_motion_sendEnableMotors fuel (encPort present) (.int r) vb w) w
      (C06.legacyEmit present true (.enable r r)) := by
  simp only [C06.legacyEmit, C06.legacyEmitWith, ↓reduceIte, C06.clampRes]
  rw [ebb_motion_sendEnableMotors, ebb_motion_sendEnableMotors_main, block_cons2, block_cons2, block_one,
    run_congr (clamp_stmts _ ebb_motion_sendEnableMotors_Env.res (fun _ _ => rfl) _ _ _ r rfl _), ebb_motion_sendEnableMotors_if1]
  cases present
  · exact wrote_nothing rfl
  · refine run_send fuel hf _ _ w "EM" [min (max r 0) 5, min (max r 0) 5] (by decide) vb hio ?_
    exact ⟨_, _, ifte_pos rfl rfl, by rfl⟩

theorem eq_int0 (x : Int) : (app2 op_eq (ok (.int x)) (ok (.int 0)) : Eff NoObj) = ok (.bool (decide (x = 0))) := by
  simp only [app2_ok, op_eq, ofP_ok, pyEq]
  rfl

/-- the suppression test of `doLowLevelMove` evaluates to the Boolean of the condition in the source -/
theorem lm_test (r1 s1 a1 r2 s2 a2 : Int) :
    (and_ (or_ (and_ (app2 op_eq (ok (.int r1)) (ok (.int 0))) (app2 op_eq (ok (.int a1)) (ok (.int 0))))
              (app2 op_eq (ok (.int s1)) (ok (.int 0))))
          (or_ (and_ (app2 op_eq (ok (.int r2)) (ok (.int 0))) (app2 op_eq (ok (.int a2)) (ok (.int 0))))
              (app2 op_eq (ok (.int s2)) (ok (.int 0)))) : Eff NoObj)
      = ok (.bool (decide (((r1 = 0 ∧ a1 = 0) ∨ s1 = 0) ∧ ((r2 = 0 ∧ a2 = 0) ∨ s2 = 0)))) := by
  simp only [eq_int0, and_bool, or_bool, Bool.decide_and, Bool.decide_or]

/-- `doLowLevelMove`: nothing when neither axis can move, else `LM,<r1>,<s1>,<a1>,<r2>,<s2>,<a2>[,<clear>]` -/
theorem doLowLevelMove_bridge (fuel : Nat) (hf : 101 ≤ fuel) (r1 s1 a1 r2 s2 a2 : Int)
    (clear : Option Int) (vb : Val) (w : World NoObj) (hio : C07Gen.IoScript w.port) :
    Wrote (ebb_motion_doLowLevelMove fuel .port (.int r1) (.int s1) (.int a1) (.int r2) (.int s2) (.int a2)
        (encOpt clear) vb w) w
      (C06.legacyEmit true true (.lowLevel r1 s1 a1 r2 s2 a2 clear)) := by
  simp only [C06.legacyEmit, C06.legacyEmitWith, ↓reduceIte]
  by_cases hc : ((r1 = 0 ∧ a1 = 0) ∨ s1 = 0) ∧ ((r2 = 0 ∧ a2 = 0) ∨ s2 = 0)
  · rw [if_pos hc]
    refine wrote_nothing ?_
    rw [ebb_motion_doLowLevelMove, ebb_motion_doLowLevelMove_main, ebb_motion_doLowLevelMove_if1, run, ifte_pos rfl rfl,
      block_cons2, ebb_motion_doLowLevelMove_if2,
      seq_ret ((ifte_pos (v := .bool _) (congrFun (lm_test r1 s1 a1 r2 s2 a2) w) (decide_eq_true hc)).trans rfl)]
    rfl
  · rw [if_neg hc]
    have hgo : ∀ po co so, ebb_motion_doLowLevelMove_if2 fuel
        ⟨po, .int r1, .int s1, .int a1, .int r2, .int s2, .int a2, co, vb, so⟩ w
        = .norm ⟨po, .int r1, .int s1, .int a1, .int r2, .int s2, .int a2, co, vb, so⟩ w := fun _ _ _ =>
      ifte_neg (congrFun (lm_test r1 s1 a1 r2 s2 a2) w) (decide_eq_false hc)
    rcases clear with _ | c
    · refine run_send fuel hf _ _ w "LM" [r1, s1, a1, r2, s2, a2] (by decide) vb hio ?_
      exact ⟨_, _, by
        rw [ebb_motion_doLowLevelMove_main, ebb_motion_doLowLevelMove_if1, ifte_pos rfl rfl, block_cons2, block_cons2,
          block_one, seq_norm (hgo _ _ _), ebb_motion_doLowLevelMove_if3,
          seq_norm ((ifte_neg rfl rfl).trans (assign_of rfl))], by rfl⟩
    · refine run_send fuel hf _ _ w "LM" [r1, s1, a1, r2, s2, a2, c] (by decide) vb hio ?_
      exact ⟨_, _, by
        rw [ebb_motion_doLowLevelMove_main, ebb_motion_doLowLevelMove_if1, ifte_pos rfl rfl, block_cons2, block_cons2,
          block_one, seq_norm (hgo _ _ _), ebb_motion_doLowLevelMove_if3,
          seq_norm ((ifte_pos rfl rfl).trans (assign_of rfl))], by rfl⟩

theorem outWorld_run {σ : Type} (s : Stmt NoObj σ) (fuel : Nat) (env : σ) (w : World NoObj) :
    outWorld (run s fuel env w) = flowWorld (s fuel env w) := by
  unfold run
  cases s fuel env w <;> rfl

/-- the flow ended (not out of fuel) in a world whose port is again in the domain, the write log having grown by `ts` -/
def Sent {σ : Type} (fl : Flow NoObj σ) (w : World NoObj) (ts : List (List Char)) : Prop :=
  ∃ w', flowWorld fl = some w' ∧ w'.port.log = w.port.log ++ ts ∧ Dom w'.port

theorem Sent.pure {σ : Type} {s : Stmt NoObj σ} (hs : PureS s) (fuel : Nat) (env : σ) {w : World NoObj} (hd : Dom w.port) :
    Sent (s fuel env w) w [] :=
  ⟨w, hs fuel env w, (List.append_nil _).symm, hd⟩

theorem Sent.then_pure {σ : Type} {a b : Stmt NoObj σ} {fuel : Nat} {env : σ} {w : World NoObj} {ts : List (List Char)}
    (hb : PureS b) : Sent (a fuel env w) w ts → Sent (seq a b fuel env w) w ts
  | ⟨w', h, r⟩ => ⟨w', flowWorld_seq hb fuel env w w' h, r⟩

theorem Sent.after {σ : Type} {a b : Stmt NoObj σ} {fuel : Nat} {env env' : σ} {w w' : World NoObj} {ts₁ ts₂ : List (List Char)}
    (ha : a fuel env w = .norm env' w') (hl : w'.port.log = w.port.log ++ ts₁) :
    Sent (b fuel env' w') w' ts₂ → Sent (seq a b fuel env w) w (ts₁ ++ ts₂)
  | ⟨w2, h, hl2, hd2⟩ => ⟨w2, by rw [seq_norm ha]; exact h, by rw [hl2, hl, List.append_assoc], hd2⟩

theorem Sent.command {σ : Type} {fuel : Nat} (hf : 101 ≤ fuel) {e : Expr NoObj σ} {env : σ} {w : World NoObj} {t : List Char}
    {vb : Val} (ht : PyIO.isAscii t = true) (hd : Dom w.port)
    (he : e fuel env = ioCall3 (ebb_serial_command fuel) (ok .port) (ok (.str t)) (ok vb)) :
    Sent (expr e fuel env w) w [t] := by
  obtain ⟨p', hl, hd', h⟩ := ioCommand_dom fuel hf t ht vb w hd
  exact ⟨{ w with port := p' }, by rw [expr_of (he ▸ h)]; rfl, hl, hd'⟩

theorem Sent.command_then {σ : Type} {fuel : Nat} (hf : 101 ≤ fuel) {e : Expr NoObj σ} {rest : Stmt NoObj σ} {env : σ}
    {w : World NoObj} {t : List Char} {vb : Val} {ts : List (List Char)} (ht : PyIO.isAscii t = true) (hd : Dom w.port)
    (he : e fuel env = ioCall3 (ebb_serial_command fuel) (ok .port) (ok (.str t)) (ok vb))
    (hrest : ∀ w1, Dom w1.port → Sent (rest fuel env w1) w1 ts) :
    Sent (seq (expr e) rest fuel env w) w (t :: ts) := by
  obtain ⟨p', hl, hd', h⟩ := ioCommand_dom fuel hf t ht vb w hd
  exact Sent.after (ts₁ := [t]) (expr_of (he ▸ h)) hl (hrest _ hd')

theorem Sent.query_then_pure {σ : Type} {fuel : Nat} (hf : 101 ≤ fuel) {set : σ → Val → σ} {e : Expr NoObj σ} {rest : Stmt NoObj σ}
    {env : σ} {w : World NoObj} {t : List Char} {vb : Val} (ht : PyIO.isAscii t = true) (hd : Dom w.port)
    (he : e fuel env = ioCall3 (ebb_serial_query fuel) (ok .port) (ok (.str t)) (ok vb)) (hr : PureS rest) :
    Sent (seq (assign set e) rest fuel env w) w [t] := by
  obtain ⟨p', s, hl, hd', h⟩ := ioQuery_dom fuel hf t ht vb w hd
  exact (Sent.pure hr fuel _ hd').after (assign_of (he ▸ h)) hl

theorem Sent.query_return {σ : Type} {fuel : Nat} (hf : 101 ≤ fuel) {e : Expr NoObj σ} {env : σ} {w : World NoObj} {t : List Char}
    {vb : Val} (ht : PyIO.isAscii t = true) (hd : Dom w.port)
    (he : e fuel env = ioCall3 (ebb_serial_query fuel) (ok .port) (ok (.str t)) (ok vb)) :
    Sent (return_ e fuel env w) w [t] := by
  obtain ⟨p', s, hl, hd', h⟩ := ioQuery_dom fuel hf t ht vb w hd
  exact ⟨{ w with port := p' }, by rw [return_of (he ▸ h)]; rfl, hl, hd'⟩

theorem Sent.try_ {σ : Type} {body : Stmt NoObj σ} {hs : List (Handler NoObj σ)} {fuel : Nat} {env : σ} {w : World NoObj}
    {ts : List (List Char)} (hh : ∀ h ∈ hs, PureS h.body) : Sent (body fuel env w) w ts → Sent (tryExcept body hs fuel env w) w ts
  | ⟨w', h, r⟩ => ⟨w', flowWorld_try hh fuel env w w' h, r⟩

/-- the row of the table from what the body of the helper sent -/
theorem Sent.wrote {σ : Type} {s : Stmt NoObj σ} {fuel : Nat} {env : σ} {w : World NoObj} {ts : List (List Char)}
    (cs : List C06.Cmd) (hts : ts = cs.map fun c => c.wire.toList) (h : Sent (s fuel env w) w ts) :
    Wrote (run s fuel env w) w (some cs) :=
  h.elim fun w' h => ⟨w', (outWorld_run ..).trans h.1, hts ▸ h.2.1⟩

/-- `PBOutConfig`: `PO,B,<pin>,<state>` then `PD,B,<pin>,0` -/
theorem PBOutConfig_bridge (fuel : Nat) (hf : 101 ≤ fuel) (pin state : Int) (vb : Val)
    (w : World NoObj) (hd : Dom w.port) :
    Wrote (ebb_motion_PBOutConfig fuel .port (.int pin) (.int state) vb w) w
      (C06.legacyEmit true true (.pbConfig pin state 0)) := by
  refine Sent.wrote [_, _] rfl ?_
  rw [ebb_motion_PBOutConfig_main, ebb_motion_PBOutConfig_if1, ifte_pos rfl rfl, block_cons2, block_cons2, block_cons2,
    block_one, seq_norm (assign_of rfl)]
  refine Sent.command_then hf (isAscii_wire "PO,B" [pin, state] (by decide)) hd (by simp only [wire_cr]; rfl) fun w1 d1 => ?_
  rw [seq_norm (assign_of rfl)]
  exact Sent.command hf (isAscii_wire "PD,B" [pin, 0] (by decide)) d1 (by simp only [wire_cr]; rfl)

/-- the chunk the source uses — read off the regenerated `if n_pause > 750: time_delay = 750` -/
theorem pauseChunk_src : C06.pauseChunk = 750 := rfl

theorem gt_int (a b : Int) : (app2 op_gt (ok (.int a)) (ok (.int b)) : Eff NoObj) = ok (.bool (decide (b < a))) := by
  simp only [app2_ok, op_gt, ltVal, intOf, ofOptBool, ofP_ok]
theorem lt_int (a b : Int) : (app2 op_lt (ok (.int a)) (ok (.int b)) : Eff NoObj) = ok (.bool (decide (a < b))) := by
  simp only [app2_ok, op_lt, ltVal, intOf, ofOptBool, ofP_ok]
theorem sub_int (a b : Int) : (app2 op_sub (ok (.int a)) (ok (.int b)) : Eff NoObj) = ok (.int (a - b)) := by
  simp only [app2_ok, op_sub, intOf, ofP_ok]

/-- the duration one pass of the loop chooses -/
def pauseStep (n : Int) : Int := if n > 750 then 750 else (if n < 1 then 1 else n)

/-- `if n_pause > 750: time_delay = 750 else: time_delay = n_pause; if time_delay < 1: time_delay = 1` -/
theorem pause_if2 (fuel : Nat) (n : Int) (vb td : Val) (w : World NoObj) :
    ebb_motion_doTimedPause_if2 fuel ⟨.port, .int n, vb, td⟩ w = .norm ⟨.port, .int n, vb, .int (pauseStep n)⟩ w := by
  rw [ebb_motion_doTimedPause_if2, pauseStep]
  by_cases h : n > 750
  · rw [if_pos h]
    exact (ifte_pos (v := .bool _) (congrFun (gt_int n 750) w) (decide_eq_true h)).trans (assign_of rfl)
  · rw [if_neg h, ifte_neg (v := .bool _) (congrFun (gt_int n 750) w) (decide_eq_false h), block_cons2, block_one, seq_norm (assign_of rfl),
      ebb_motion_doTimedPause_if3]
    by_cases h1 : n < 1
    · rw [if_pos h1]
      exact (ifte_pos (v := .bool _) (congrFun (lt_int n 1) w) (decide_eq_true h1)).trans (assign_of rfl)
    · rw [if_neg h1]
      exact ifte_neg (v := .bool _) (congrFun (lt_int n 1) w) (decide_eq_false h1)

/-- the `while n_pause > 0` loop against the model's `legacyPauseLoop` (`m` = fuel of the model, `k` = passes left) -/
theorem pause_loop (fuel : Nat) (hf : 101 ≤ fuel) (vb : Val) :
    ∀ (m k : Nat) (n : Int) (td : Val) (w : World NoObj), n.toNat ≤ m → m + 1 ≤ k → Dom w.port →
      ∃ n' td' w', whileLoop ebb_motion_doTimedPause_test1 ebb_motion_doTimedPause_body1 fuel k ⟨.port, .int n, vb, td⟩ w
          = .norm ⟨.port, .int n', vb, td'⟩ w' ∧
        w'.port.log = w.port.log ++ (C06.legacyPauseLoop 750 m n).map (fun d => (C06.Cmd.wire ⟨"SM", [d, 0, 0]⟩).toList) ∧
        Dom w'.port := by
  intro m
  induction m with
  | zero =>
    intro k n td w hn hk hd
    obtain ⟨k', rfl⟩ : ∃ k', k = k' + 1 := ⟨k - 1, by omega⟩
    have h0 : ¬ (0 < n) := by omega
    refine ⟨n, td, w, ?_, by simp [C06.legacyPauseLoop], hd⟩
    simp only [whileLoop, ebb_motion_doTimedPause_test1, load_int, gt_int, ok_apply, truthy_bool, decide_eq_false h0,
      Bool.false_eq_true, ↓reduceIte]
  | succ m ih =>
    intro k n td w hn hk hd
    obtain ⟨k', rfl⟩ : ∃ k', k = k' + 1 := ⟨k - 1, by omega⟩
    by_cases hpos : n > 0
    · have hstep : C06.legacyPauseLoop 750 (m + 1) n = pauseStep n :: C06.legacyPauseLoop 750 m (n - pauseStep n) := by
        simp only [C06.legacyPauseLoop, hpos, ↓reduceIte, pauseStep]
      have hd1 : 1 ≤ pauseStep n := (C06.pauseStep_bounds (chunk := 750) (by decide) hpos).1
      obtain ⟨p1, l1, d1, h1⟩ := ioCommand_dom fuel hf (C06.Cmd.wire ⟨"SM", [pauseStep n, 0, 0]⟩).toList
        (isAscii_wire "SM" _ (by decide)) vb w hd
      rw [wire_cr] at h1
      have hbody : ebb_motion_doTimedPause_body1 fuel ⟨.port, .int n, vb, td⟩ w
          = .norm ⟨.port, .int (n - pauseStep n), vb, .int (pauseStep n)⟩ { w with port := p1 } := by
        rw [ebb_motion_doTimedPause_body1, block_cons2, block_cons2, block_one, seq_norm (pause_if2 fuel n vb td w),
          seq_norm (expr_of h1)]
        exact assign_of (congrFun (sub_int n (pauseStep n)) _)
      obtain ⟨n', td', w', e, l, d⟩ := ih k' (n - pauseStep n) (.int (pauseStep n)) { w with port := p1 } (by omega) (by omega) d1
      refine ⟨n', td', w', ?_, ?_, d⟩
      · simp only [whileLoop, ebb_motion_doTimedPause_test1, load_int, gt_int, ok_apply, truthy_bool, decide_eq_true hpos,
          ↓reduceIte, hbody, e]
      · rw [l, l1, hstep]
        simp
    · refine ⟨n, td, w, ?_, by simp [C06.legacyPauseLoop, hpos], hd⟩
      simp only [whileLoop, ebb_motion_doTimedPause_test1, load_int, gt_int, ok_apply, truthy_bool, decide_eq_false hpos,
        Bool.false_eq_true, ↓reduceIte]

/-- `doTimedPause`: the zero-moves `SM,<d>,0,0` of the model's chunking loop (fuel must cover the passes); the call
returns a value and the rest of the script is in the domain again -/
theorem doTimedPause_bridge (fuel : Nat) (hf : 101 ≤ fuel) (n : Int) (hn : n.toNat + 1 ≤ fuel) (vb : Val)
    (w : World NoObj) (hd : Dom w.port) :
    ∃ w' v, ebb_motion_doTimedPause fuel .port (.int n) vb w = .val v w' ∧
      w'.port.log = w.port.log ++
        ((C06.legacyEmit true true (.timedPause n)).getD []).map (fun c => c.wire.toList) ∧ Dom w'.port := by
  unfold ebb_motion_doTimedPause ebb_motion_doTimedPause_main ebb_motion_doTimedPause_if1 ebb_motion_doTimedPause_loop1
  obtain ⟨n', td', w', e, l, d⟩ := pause_loop fuel hf vb n.toNat fuel n .unbound w (Nat.le_refl _) hn hd
  refine ⟨w', .none, ?_, ?_, d⟩
  · simp only [PyObj.run, ifte, ↓reduceIte, app1_ok, op_is_not_none, isNone, ofP_ok, ok_apply, truthy_bool, Bool.not_false,
      while_, e]
  · rw [l]
    simp [C06.legacyEmit, C06.legacyEmitWith, pauseChunk_src, List.map_map, Function.comp_def]

end C06Gen
end Plotink
