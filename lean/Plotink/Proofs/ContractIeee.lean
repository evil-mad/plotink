import Plotink.Ieee
import Plotink.Proofs.NumExact
import Plotink.Proofs.ContractT3

/-! # `Rounding.ieee` meets the exactness contract and the basic contract

`roundBits p` (round to nearest, ties to even, `p` significant bits, unbounded exponent) is the rounding the driver
uses, so the hypotheses `ContractExact R` / `ContractBasic R` of the calculator theorems, and with them `T3.Contract R` of
C02/C17 (`T3.contract_ieee`), are not vacuous for the very instance the correspondence run executes. -/

namespace Plotink

theorem pow2_eq_zpow (e : Int) : pow2 e = (2 : Rat) ^ e := by
  unfold pow2
  split
  · rename_i h
    conv_rhs => rw [← Int.toNat_of_nonneg h]
    rw [zpow_natCast]
  · rename_i h
    have h' : 0 ≤ -e := by omega
    have : e = -((-e).toNat : Int) := by rw [Int.toNat_of_nonneg h']; ring
    conv_rhs => rw [this]
    rw [zpow_neg, zpow_natCast, one_div]

theorem natAbs_num_div_den (a : Rat) (ha : 0 < a) : ((a.num.natAbs : Nat) : Rat) / (a.den : Rat) = a := by
  rw [Nat.cast_natAbs, abs_of_pos (Rat.num_pos.mpr ha)]; exact Rat.num_div_den a

/-- the quotient of numerator and denominator lies within a factor 2 of `2^(log2 num − log2 den)`, and the definition
corrects by one where needed -/
theorem ilog2_spec (a : Rat) (ha : 0 < a) : (2 : Rat) ^ (ilog2 a) ≤ a ∧ a < (2 : Rat) ^ (ilog2 a + 1) := by
  have hn0 : a.num.natAbs ≠ 0 := by have := Rat.num_pos.mpr ha; omega
  have hA := natAbs_num_div_den a ha
  have n1 : (2 : Rat) ^ (Nat.log2 a.num.natAbs) ≤ (a.num.natAbs : Rat) := by exact_mod_cast Nat.log2_self_le hn0
  have n2 : (a.num.natAbs : Rat) < (2 : Rat) ^ (Nat.log2 a.num.natAbs + 1) := by exact_mod_cast Nat.lt_log2_self
  have d1 : (2 : Rat) ^ (Nat.log2 a.den) ≤ (a.den : Rat) := by exact_mod_cast Nat.log2_self_le a.den_nz
  have d2 : (a.den : Rat) < (2 : Rat) ^ (Nat.log2 a.den + 1) := by exact_mod_cast Nat.lt_log2_self
  have hdpos : (0 : Rat) < a.den := lt_of_lt_of_le (by positivity) d1
  have hlo : (2 : Rat) ^ ((Nat.log2 a.num.natAbs : Int) - (Nat.log2 a.den : Int) - 1) ≤ a := by
    rw [show ((Nat.log2 a.num.natAbs : Int) - (Nat.log2 a.den : Int) - 1)
        = ((Nat.log2 a.num.natAbs : Nat) : Int) - ((Nat.log2 a.den + 1 : Nat) : Int) by push_cast; ring,
      zpow_sub₀ (by norm_num), zpow_natCast, zpow_natCast]
    conv_rhs => rw [← hA]
    rw [div_le_div_iff₀ (by positivity) hdpos]
    exact mul_le_mul n1 d2.le hdpos.le (by positivity)
  have hup : a < (2 : Rat) ^ ((Nat.log2 a.num.natAbs : Int) - (Nat.log2 a.den : Int) + 1) := by
    rw [show ((Nat.log2 a.num.natAbs : Int) - (Nat.log2 a.den : Int) + 1)
        = ((Nat.log2 a.num.natAbs + 1 : Nat) : Int) - ((Nat.log2 a.den : Nat) : Int) by push_cast; ring,
      zpow_sub₀ (by norm_num), zpow_natCast, zpow_natCast]
    conv_lhs => rw [← hA]
    rw [div_lt_div_iff₀ hdpos (by positivity)]
    exact mul_lt_mul n2 d1 (by positivity) (by positivity)
  unfold ilog2
  simp only [pow2_eq_zpow, hA]
  split_ifs with h1 h2
  · exact ⟨h1, lt_of_lt_of_le hup (zpow_le_zpow_right₀ (by norm_num) (by omega))⟩
  · exact ⟨h2, not_le.mp h1⟩
  · exact ⟨hlo, by rw [sub_add_cancel]; exact not_le.mp h2⟩

theorem pow_ilog2_le (a : Rat) (ha : 0 < a) : (2 : Rat) ^ (ilog2 a) ≤ a := (ilog2_spec a ha).1

theorem lt_pow_ilog2 (a : Rat) (ha : 0 < a) : a < (2 : Rat) ^ (ilog2 a + 1) := (ilog2_spec a ha).2

theorem ilog2_mono {a b : Rat} (ha : 0 < a) (hab : a ≤ b) : ilog2 a ≤ ilog2 b := by
  have : (2 : Rat) ^ ilog2 a < (2 : Rat) ^ (ilog2 b + 1) :=
    lt_of_le_of_lt (pow_ilog2_le a ha) (lt_of_le_of_lt hab (lt_pow_ilog2 b (lt_of_lt_of_le ha hab)))
  have := (zpow_lt_zpow_iff_right₀ (by norm_num : (1 : Rat) < 2)).mp this
  omega

/-- `roundBits` on a positive number: `e = ilog2 a − (p − 1)` scales `a` into `[2^(p-1), 2^p)` -/
def rmag (p : Nat) (a : Rat) : Rat :=
  ((Py.roundHE (a / pow2 (ilog2 a - ((p : Int) - 1))) : Int) : Rat) * pow2 (ilog2 a - ((p : Int) - 1))

theorem roundBits_pos (p : Nat) (x : Rat) (hx : 0 < x) : roundBits p x = rmag p x := by
  unfold roundBits rmag
  have hnlt : ¬ (x < 0) := not_lt.mpr hx.le
  simp only [hx.ne', hnlt, if_false]

theorem roundBits_neg (p : Nat) (x : Rat) (hx : x < 0) : roundBits p x = -rmag p (-x) := by
  unfold roundBits rmag
  simp only [hx.ne, hx, if_true, if_false]

theorem roundBits_zero (p : Nat) : roundBits p 0 = 0 := by simp [roundBits]

private theorem zpow_split (p : Nat) (L e : Int) (he : e = L - ((p : Int) - 1)) :
    (2 : Rat) ^ (L + 1) = (2 : Rat) ^ p * (2 : Rat) ^ e := by
  rw [← zpow_natCast, ← zpow_add₀ (by norm_num)]; congr 1; omega

theorem rmag_le_pow (p : Nat) (a : Rat) (ha : 0 < a) : rmag p a ≤ (2 : Rat) ^ (ilog2 a + 1) := by
  unfold rmag
  rw [pow2_eq_zpow, zpow_split p _ _ rfl]
  have pe : (0 : Rat) < (2 : Rat) ^ (ilog2 a - ((p : Int) - 1)) := by positivity
  refine mul_le_mul_of_nonneg_right ?_ pe.le
  have hq : a / (2 : Rat) ^ (ilog2 a - ((p : Int) - 1)) ≤ (((2 : Int) ^ p : Int) : Rat) := by
    rw [div_le_iff₀ pe, Int.cast_pow, Int.cast_ofNat, ← zpow_split p _ _ rfl]
    exact (lt_pow_ilog2 a ha).le
  have := roundHE_mono hq
  rw [roundHE_int] at this
  exact_mod_cast this

theorem pow_le_rmag (p : Nat) (a : Rat) (ha : 0 < a) : (2 : Rat) ^ (ilog2 a) ≤ rmag (p + 1) a := by
  unfold rmag
  rw [pow2_eq_zpow]
  have pe : (0 : Rat) < (2 : Rat) ^ (ilog2 a - (((p + 1 : Nat) : Int) - 1)) := by positivity
  have e : (2 : Rat) ^ (ilog2 a) = (2 : Rat) ^ p * (2 : Rat) ^ (ilog2 a - (((p + 1 : Nat) : Int) - 1)) := by
    rw [← zpow_natCast, ← zpow_add₀ (by norm_num)]; congr 1; push_cast; omega
  rw [e]
  refine mul_le_mul_of_nonneg_right ?_ pe.le
  have hq : (((2 : Int) ^ p : Int) : Rat) ≤ a / (2 : Rat) ^ (ilog2 a - (((p + 1 : Nat) : Int) - 1)) := by
    rw [le_div_iff₀ pe, Int.cast_pow, Int.cast_ofNat, ← e]
    exact pow_ilog2_le a ha
  have := roundHE_mono hq
  rw [roundHE_int] at this
  exact_mod_cast this

theorem rmag_nonneg (p : Nat) (a : Rat) (ha : 0 < a) : 0 ≤ rmag p a := by
  unfold rmag
  rw [pow2_eq_zpow]
  have h0 := roundHE_mono (show (0 : Rat) ≤ a / (2 : Rat) ^ (ilog2 a - ((p : Int) - 1)) by positivity)
  rw [show (0 : Rat) = ((0 : Int) : Rat) by simp, roundHE_int] at h0
  have : (0 : Rat) ≤ ((Py.roundHE (a / (2 : Rat) ^ (ilog2 a - ((p : Int) - 1))) : Int) : Rat) := by exact_mod_cast h0
  positivity

theorem rmag_exact (p : Nat) (M : Int) (E : Int) (hM0 : 0 < M) (hM : M < 2 ^ p) :
    rmag p ((M : Rat) * (2 : Rat) ^ E) = (M : Rat) * (2 : Rat) ^ E := by
  set a : Rat := (M : Rat) * (2 : Rat) ^ E with ha'
  have ha : 0 < a := by positivity
  have hl := pow_ilog2_le a ha
  unfold rmag
  set L := ilog2 a with hL
  have hlt : L < (p : Int) + E := by
    have h1 : a < (2 : Rat) ^ ((p : Int) + E) := by
      have : (M : Rat) < (2 : Rat) ^ p := by exact_mod_cast hM
      rw [zpow_add₀ (by norm_num), zpow_natCast]
      exact mul_lt_mul_of_pos_right this (by positivity)
    exact (zpow_lt_zpow_iff_right₀ (by norm_num : (1 : Rat) < 2)).mp (lt_of_le_of_lt hl h1)
  set e := L - ((p : Int) - 1) with he
  have hee : 0 ≤ E - e := by omega
  rw [pow2_eq_zpow]
  have hpe : (2 : Rat) ^ e ≠ 0 := by positivity
  have hq : a / (2 : Rat) ^ e = ((M * 2 ^ (E - e).toNat : Int) : Rat) := by
    have : (2 : Rat) ^ E = (2 : Rat) ^ (E - e).toNat * (2 : Rat) ^ e := by
      rw [← zpow_natCast, Int.toNat_of_nonneg hee, ← zpow_add₀ (by norm_num)]; congr 1; ring
    push_cast
    rw [ha', this, ← mul_assoc, mul_div_cancel_right₀ _ hpe]
  rw [hq, roundHE_int, ← hq, div_mul_cancel₀ _ hpe]

theorem rmag_err (p : Nat) (a : Rat) (ha : 0 < a) : |rmag p a - a| ≤ a / 2 ^ p := by
  have hl := pow_ilog2_le a ha
  unfold rmag
  set L := ilog2 a with hL
  set e := L - ((p : Int) - 1) with he
  rw [pow2_eq_zpow]
  have hpe : (0 : Rat) < (2 : Rat) ^ e := by positivity
  have herr := roundHE_err (a / (2 : Rat) ^ e)
  set m := Py.roundHE (a / (2 : Rat) ^ e) with hm
  have e1 : (m : Rat) * (2 : Rat) ^ e - a = ((m : Rat) - a / (2 : Rat) ^ e) * (2 : Rat) ^ e := by
    rw [sub_mul, div_mul_cancel₀ _ hpe.ne']
  rw [e1, abs_mul, abs_of_pos hpe]
  have e2 : (2 : Rat) ^ e = 2 * ((2 : Rat) ^ L / 2 ^ p) := by
    have : e = L - (p : Int) + 1 := by omega
    rw [this, zpow_add₀ (by norm_num), zpow_sub₀ (by norm_num), zpow_natCast, zpow_one]; ring
  calc |(m : Rat) - a / (2 : Rat) ^ e| * (2 : Rat) ^ e ≤ 1 / 2 * (2 : Rat) ^ e :=
        mul_le_mul_of_nonneg_right herr hpe.le
    _ = (2 : Rat) ^ L / 2 ^ p := by rw [e2]; ring
    _ ≤ a / 2 ^ p := by
        apply div_le_div_of_nonneg_right hl; positivity

theorem rmag_mono (p : Nat) (hp : 1 ≤ p) (x y : Rat) (hx : 0 < x) (hxy : x ≤ y) : rmag p x ≤ rmag p y := by
  have hy : 0 < y := lt_of_lt_of_le hx hxy
  rcases Int.lt_or_eq_of_le (ilog2_mono hx hxy) with hlt | heq
  · -- different binades: `rmag x ≤ 2^(Lx+1) ≤ 2^Ly ≤ rmag y`
    obtain ⟨p', rfl⟩ : ∃ p', p = p' + 1 := ⟨p - 1, by omega⟩
    exact le_trans (rmag_le_pow _ x hx)
      (le_trans (zpow_le_zpow_right₀ (by norm_num) (by omega)) (pow_le_rmag p' y hy))
  · -- same binade: same grid
    unfold rmag
    simp only [pow2_eq_zpow, heq]
    have pe : (0 : Rat) < (2 : Rat) ^ (ilog2 y - ((p : Int) - 1)) := by positivity
    have hm := roundHE_mono (div_le_div_of_nonneg_right hxy pe.le)
    exact mul_le_mul_of_nonneg_right (by exact_mod_cast hm) pe.le

theorem roundBits_exact (p : Nat) (x : Rat) (h : Rep p x) : roundBits p x = x := by
  obtain ⟨m, E, rfl, hm⟩ := h
  have hp2 : (0 : Rat) < (2 : Rat) ^ E := by positivity
  rcases lt_trichotomy m 0 with hneg | rfl | hpos
  · have hx : (m : Rat) * (2 : Rat) ^ E < 0 := mul_neg_of_neg_of_pos (by exact_mod_cast hneg) hp2
    rw [roundBits_neg p _ hx, show -((m : Rat) * (2 : Rat) ^ E) = ((-m : Int) : Rat) * (2 : Rat) ^ E by push_cast; ring,
      rmag_exact p (-m) E (by omega) (by rwa [abs_of_neg hneg] at hm)]
    push_cast; ring
  · rw [Int.cast_zero, zero_mul, roundBits_zero]
  · have hx : 0 < (m : Rat) * (2 : Rat) ^ E := mul_pos (by exact_mod_cast hpos) hp2
    rw [roundBits_pos p _ hx, rmag_exact p m E hpos (by rwa [abs_of_pos hpos] at hm)]

theorem contractExact_ieee : ContractExact Rounding.ieee where
  f64_exact := fun x h => roundBits_exact 53 x h
  mp_exact := fun p x h => roundBits_exact p x h

theorem roundBits_err (p : Nat) (x : Rat) : |roundBits p x - x| ≤ |x| / 2 ^ p := by
  rcases lt_trichotomy x 0 with hneg | rfl | hpos
  · rw [roundBits_neg p x hneg, abs_of_neg hneg, ← abs_neg, neg_sub, sub_neg_eq_add, add_comm]
    have := rmag_err p (-x) (neg_pos.mpr hneg)
    rwa [sub_neg_eq_add] at this
  · rw [roundBits_zero, sub_self, abs_zero, zero_div]
  · rw [roundBits_pos p x hpos, abs_of_pos hpos]; exact rmag_err p x hpos

theorem roundBits_mono (p : Nat) (hp : 1 ≤ p) (x y : Rat) (hxy : x ≤ y) : roundBits p x ≤ roundBits p y := by
  have hz := roundBits_zero p
  rcases lt_trichotomy x 0 with hx | rfl | hx
  · rcases lt_trichotomy y 0 with hy | rfl | hy
    · rw [roundBits_neg p x hx, roundBits_neg p y hy]
      exact neg_le_neg (rmag_mono p hp (-y) (-x) (neg_pos.mpr hy) (neg_le_neg hxy))
    · rw [roundBits_neg p x hx, hz]
      exact neg_nonpos.mpr (rmag_nonneg p (-x) (neg_pos.mpr hx))
    · rw [roundBits_neg p x hx, roundBits_pos p y hy]
      exact (neg_nonpos.mpr (rmag_nonneg p (-x) (neg_pos.mpr hx))).trans (rmag_nonneg p y hy)
  · rcases lt_or_eq_of_le hxy with hy | rfl
    · rw [hz, roundBits_pos p y hy]; exact rmag_nonneg p y hy
    · exact le_refl _
  · have hy : 0 < y := lt_of_lt_of_le hx hxy
    rw [roundBits_pos p x hx, roundBits_pos p y hy]
    exact rmag_mono p hp x y hx hxy

/-- beyond `2^p` steps of the grid `2^-k` a `(p+1)`-bit number is a whole number of steps, so none lies strictly inside
a cell -/
theorem rep_not_in_cell (p t k : Nat) (ht : 2 ^ p ≤ t) (g : Rat) (hr : Rep (p + 1) g)
    (h1 : (t : Rat) / 2 ^ k < g) (h2 : g < ((t : Rat) + 1) / 2 ^ k) : False := by
  obtain ⟨m, e, rfl, hm⟩ := hr
  have htq : ((2 : Rat) ^ p) ≤ t := by exact_mod_cast ht
  rw [div_lt_iff₀ (by positivity), mul_assoc, ← zpow_natCast, ← zpow_add₀ (by norm_num : (2 : Rat) ≠ 0)] at h1
  rw [lt_div_iff₀ (by positivity), mul_assoc, ← zpow_natCast, ← zpow_add₀ (by norm_num : (2 : Rat) ≠ 0)] at h2
  rcases le_or_gt 0 (e + (k : Int)) with he | he
  · -- an integer strictly between `t` and `t + 1`
    obtain ⟨j, hj⟩ := Int.eq_ofNat_of_zero_le he
    rw [hj, zpow_natCast] at h1 h2
    have a : ((t : Int) : Rat) < ((m * 2 ^ j : Int) : Rat) := by push_cast; exact h1
    have b : ((m * 2 ^ j : Int) : Rat) < (((t : Int) + 1 : Int) : Rat) := by push_cast; exact h2
    have := Int.cast_lt.mp a
    have := Int.cast_lt.mp b
    omega
  · -- at most `|m|/2 < 2^p ≤ t`
    have hlt : (2 : Rat) ^ (e + (k : Int)) ≤ 1 / 2 := by
      rw [one_div, ← zpow_neg_one]; exact zpow_le_zpow_right₀ one_le_two (by omega)
    have hm' : |(m : Rat)| < 2 ^ (p + 1) := by exact_mod_cast hm
    have := (mul_le_mul_of_nonneg_right (le_abs_self (m : Rat)) (zpow_nonneg zero_le_two _)).trans
      (mul_le_mul_of_nonneg_left hlt (abs_nonneg _))
    rw [pow_succ] at hm'
    linarith only [this, hm', htq, h1]

/-- the witness is a power of two if the binades differ, else the midpoint `(2m+1)·2^(e−1)` of two neighbouring
significands -/
theorem roundBits_break (p : Nat) (a b : Rat) (ha : 0 < a) (hab : a ≤ b) (hne : roundBits p a ≠ roundBits p b) :
    ∃ h : Rat, Rep (p + 1) h ∧ a ≤ h ∧ h ≤ b := by
  have hb : 0 < b := lt_of_lt_of_le ha hab
  rcases (ilog2_mono ha hab).lt_or_eq with hlt | hL
  · exact ⟨(2 : Rat) ^ ilog2 b, ⟨1, ilog2 b, by rw [Int.cast_one, one_mul],
        by rw [abs_one]; exact one_lt_pow₀ (by norm_num) (by omega)⟩,
      (lt_pow_ilog2 a ha).le.trans (zpow_le_zpow_right₀ (by norm_num) (by omega)), pow_ilog2_le b hb⟩
  · rw [roundBits_pos p a ha, roundBits_pos p b hb, rmag, rmag, hL] at hne
    simp only [pow2_eq_zpow] at hne
    set e := ilog2 b - ((p : Int) - 1) with he
    have pe : (0 : Rat) < (2 : Rat) ^ e := by positivity
    have hlt : Py.roundHE (a / (2 : Rat) ^ e) < Py.roundHE (b / (2 : Rat) ^ e) :=
      lt_of_le_of_ne (roundHE_mono (div_le_div_of_nonneg_right hab pe.le)) fun h => hne (by rw [h])
    obtain ⟨l, u⟩ := roundHE_break hlt
    set ma := Py.roundHE (a / (2 : Rat) ^ e)
    -- `0 ≤ ma < mb ≤ 2^p`
    have hmb : Py.roundHE (b / (2 : Rat) ^ e) ≤ 2 ^ p := by
      have hq' : b / (2 : Rat) ^ e ≤ (((2 : Int) ^ p : Int) : Rat) := by
        rw [div_le_iff₀ pe, Int.cast_pow, Int.cast_ofNat, ← zpow_natCast, ← zpow_add₀ (by norm_num)]
        exact (lt_pow_ilog2 b hb).le.trans_eq (by congr 1; omega)
      have := roundHE_mono hq'
      rwa [roundHE_int] at this
    have hma : 0 ≤ ma := by
      have := roundHE_mono (show ((0 : Int) : Rat) ≤ a / (2 : Rat) ^ e by rw [Int.cast_zero]; positivity)
      rwa [roundHE_int] at this
    refine ⟨((2 * ma + 1 : Int) : Rat) * (2 : Rat) ^ (e - 1), ⟨_, _, rfl, ?_⟩, ?_, ?_⟩
    · rw [abs_of_nonneg (by omega), pow_succ]; omega
    all_goals
      rw [zpow_sub_one₀ (by norm_num : (2 : Rat) ≠ 0)]
      push_cast
    · linarith only [(div_le_iff₀ pe).mp l]
    · linarith only [(le_div_iff₀ pe).mp u]

theorem contractBasic_ieee : ContractBasic Rounding.ieee where
  f64_exact := fun x h => roundBits_exact 53 x h
  mp_exact := fun p x h => roundBits_exact p x h
  f64_err := fun x => roundBits_err 53 x
  mp_err := fun p x => roundBits_err p x
  f64_mono := fun x y h => roundBits_mono 53 (by norm_num) x y h
  mp_mono := fun p hp x y h => roundBits_mono p hp x y h

theorem T3.contract_ieee : T3.Contract Rounding.ieee := T3.contract_of_basic contractBasic_ieee

end Plotink
