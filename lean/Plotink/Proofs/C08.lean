import Plotink.Model.C08
import Mathlib.Tactic.Linarith
import Mathlib.Tactic.Ring
import Mathlib.Tactic.SplitIfs
import Mathlib.Tactic.Push
import Mathlib.Algebra.Order.Field.Basic
import Mathlib.Algebra.Order.Field.Rat

/-! # C08 — lemmas for the clipping proofs

A bit of the outcode says that the point is strictly outside one of the four boundary lines (`Out`, by the signed
distance `sdist`), and `sdist` is affine along a segment: that gives every convexity fact. A pass of the loop replaces
the segment by a part of itself that still holds everything inside the rectangle (`Sub`) and leaves one boundary line
fewer unresolved (`unres`), so the loop returns through trivial accept or reject within five passes (`loop_spec`).
`Represents`: an optional parameter interval stands for a set of parameters; the result of the loop and the
Liang–Barsky interval `specInterval` both represent the parameters of the points inside. -/

namespace Plotink
namespace C08

/-- `clip_code` as a function of the four comparison outcomes -/
def codeOf (a b c d : Bool) : Nat :=
  let code := 0
  let code := if a then 1 else code
  let code := if b then code ||| 2 else code
  let code := if c then code ||| 4 else code
  let code := if d then code ||| 8 else code
  code

theorem clipCode_eq (x y : Rat) (r : Rect) :
    clipCode x y r = codeOf (decide (x < r.xmin)) (decide (x > r.xmax)) (decide (y < r.ymin)) (decide (y > r.ymax)) := by
  unfold clipCode codeOf
  simp only [decide_eq_true_eq]

theorem codeOf_bits : ∀ a b c d, (codeOf a b c d &&& 1 ≠ 0 ↔ a = true) ∧ (codeOf a b c d &&& 2 ≠ 0 ↔ b = true) ∧
    (codeOf a b c d &&& 4 ≠ 0 ↔ c = true) ∧ (codeOf a b c d &&& 8 ≠ 0 ↔ d = true) := by decide
theorem codeOf_zero : ∀ a b c d, (codeOf a b c d = 0) ↔ (a = false ∧ b = false ∧ c = false ∧ d = false) := by decide
theorem codeOf_and : ∀ a b c d a' b' c' d', (codeOf a b c d &&& codeOf a' b' c' d' ≠ 0) ↔
    ((a = true ∧ a' = true) ∨ (b = true ∧ b' = true) ∨ (c = true ∧ c' = true) ∨ (d = true ∧ d' = true)) := by decide

inductive Side | L | R | T | B
  deriving DecidableEq

/-- signed distance by which `p` is outside boundary line `sd` (positive = strictly outside) -/
def sdist (r : Rect) : Side → Pt → Rat
  | .L, p => r.xmin - p.x
  | .R, p => p.x - r.xmax
  | .T, p => r.ymin - p.y
  | .B, p => p.y - r.ymax

def Out (r : Rect) (sd : Side) (p : Pt) : Prop := 0 < sdist r sd p

def code (r : Rect) (p : Pt) : Nat := clipCode p.x p.y r

theorem code_bits (r : Rect) (p : Pt) : (code r p &&& 1 ≠ 0 ↔ Out r .L p) ∧ (code r p &&& 2 ≠ 0 ↔ Out r .R p) ∧
    (code r p &&& 4 ≠ 0 ↔ Out r .T p) ∧ (code r p &&& 8 ≠ 0 ↔ Out r .B p) := by
  simp only [code, clipCode_eq, codeOf_bits, decide_eq_true_eq, Out, sdist, sub_pos, gt_iff_lt, and_self]

theorem inside_iff (r : Rect) (p : Pt) : Inside r p ↔ ∀ sd, ¬ Out r sd p := by
  constructor
  · rintro ⟨h1, h2, h3, h4⟩ sd
    cases sd <;> simp only [Out, sdist, sub_pos, not_lt] <;> assumption
  · intro h
    have h1 := h .L; have h2 := h .R; have h3 := h .T; have h4 := h .B
    simp only [Out, sdist, sub_pos, not_lt] at h1 h2 h3 h4
    exact ⟨h1, h2, h3, h4⟩

theorem code_zero (r : Rect) (p : Pt) : code r p = 0 ↔ Inside r p := by
  simp only [code, clipCode_eq, codeOf_zero, decide_eq_false_iff_not, Inside, not_lt, gt_iff_lt]

theorem code_and (r : Rect) (p q : Pt) : code r p &&& code r q ≠ 0 ↔ ∃ sd, Out r sd p ∧ Out r sd q := by
  simp only [code, clipCode_eq, codeOf_and, decide_eq_true_eq, gt_iff_lt]
  constructor
  · rintro (h | h | h | h)
    exacts [⟨.L, sub_pos.2 h.1, sub_pos.2 h.2⟩, ⟨.R, sub_pos.2 h.1, sub_pos.2 h.2⟩,
      ⟨.T, sub_pos.2 h.1, sub_pos.2 h.2⟩, ⟨.B, sub_pos.2 h.1, sub_pos.2 h.2⟩]
  · rintro ⟨sd, h1, h2⟩
    cases sd
    exacts [.inl ⟨sub_pos.1 h1, sub_pos.1 h2⟩, .inr (.inl ⟨sub_pos.1 h1, sub_pos.1 h2⟩),
      .inr (.inr (.inl ⟨sub_pos.1 h1, sub_pos.1 h2⟩)), .inr (.inr (.inr ⟨sub_pos.1 h1, sub_pos.1 h2⟩))]

@[ext] theorem Pt.ext' {p q : Pt} (hx : p.x = q.x) (hy : p.y = q.y) : p = q := by
  cases p; cases q; cases hx; cases hy; rfl

theorem sdist_on (r : Rect) (sd : Side) (s : Seg) (t : Rat) :
    sdist r sd (On s t) = sdist r sd s.a + t * (sdist r sd s.b - sdist r sd s.a) := by
  cases sd <;> simp only [sdist, On] <;> ring

theorem on_zero (s : Seg) : On s 0 = s.a := by
  apply Pt.ext' <;> simp [On]
theorem on_one (s : Seg) : On s 1 = s.b := by
  apply Pt.ext' <;> simp [On]

theorem on_on (s : Seg) (u v t : Rat) : On ⟨On s u, On s v⟩ t = On s (u + t * (v - u)) := by
  apply Pt.ext' <;> simp only [On] <;> ring

/-- `f1`, `f2`: the signed distances of the two endpoints from the chosen line -/
theorem w_zero (f1 f2 : Rat) (hd : f1 - f2 ≠ 0) : f1 + f1 / (f1 - f2) * (f2 - f1) = 0 := by
  rw [← neg_sub f1 f2, mul_neg, div_mul_cancel₀ _ hd, add_neg_cancel]

theorem w_first (f1 f2 : Rat) (h1 : 0 < f1) (h2 : f2 ≤ 0) :
    0 < f1 / (f1 - f2) ∧ f1 / (f1 - f2) ≤ 1 ∧ f1 + f1 / (f1 - f2) * (f2 - f1) = 0 ∧
    ∀ t, t < f1 / (f1 - f2) → 0 < f1 + t * (f2 - f1) := by
  have hd : 0 < f1 - f2 := by linarith
  refine ⟨div_pos h1 hd, by rw [div_le_one hd]; linarith, w_zero f1 f2 hd.ne', fun t ht => ?_⟩
  rw [lt_div_iff₀ hd] at ht
  linarith

theorem w_second (f1 f2 : Rat) (h1 : f1 ≤ 0) (h2 : 0 < f2) :
    0 ≤ f1 / (f1 - f2) ∧ f1 / (f1 - f2) < 1 ∧ f1 + f1 / (f1 - f2) * (f2 - f1) = 0 ∧
    ∀ t, f1 / (f1 - f2) < t → 0 < f1 + t * (f2 - f1) := by
  have hd : f1 - f2 < 0 := by linarith
  refine ⟨div_nonneg_of_nonpos h1 hd.le, by rw [div_lt_one_of_neg hd]; linarith, w_zero f1 f2 hd.ne, fun t ht => ?_⟩
  rw [div_lt_iff_of_neg hd] at ht
  linarith

/-- The `slope` formulas of `clip_segment` are the point of parameter `f₁ / (f₁ - f₂)`, for signed distances `f₁`, `f₂`
of the endpoints from the line `x = m` in either orientation (`h`: they are proportional to `m - x`). -/
theorem on_cut_x (s : Seg) (m f1 f2 : Rat) (h : f1 * (s.b.x - s.a.x) = (m - s.a.x) * (f1 - f2))
    (hd : s.b.x - s.a.x ≠ 0) (hf : f1 - f2 ≠ 0) :
    On s (f1 / (f1 - f2)) = ⟨m, (s.b.y - s.a.y) / (s.b.x - s.a.x) * (m - s.a.x) + s.a.y⟩ := by
  rw [(div_eq_div_iff hf hd).mpr h]
  apply Pt.ext' <;> simp only [On]
  · rw [div_mul_cancel₀ _ hd]; ring
  · ring

theorem on_cut_y (s : Seg) (m f1 f2 : Rat) (h : f1 * (s.b.y - s.a.y) = (m - s.a.y) * (f1 - f2))
    (hd : s.b.y - s.a.y ≠ 0) (hf : f1 - f2 ≠ 0) :
    On s (f1 / (f1 - f2)) = ⟨(s.b.x - s.a.x) / (s.b.y - s.a.y) * (m - s.a.y) + s.a.x, m⟩ := by
  rw [(div_eq_div_iff hf hd).mpr h]
  apply Pt.ext' <;> simp only [On]
  · ring
  · rw [div_mul_cancel₀ _ hd]; ring

/-- the boundary chosen by the `if code & 1 … elif …` cascade is a line the coded point is strictly
outside of, and the computed point is the point of the current segment on that line -/
theorem newPoint_spec (r : Rect) (s : Seg) (p : Pt) (hne : code r p ≠ 0) :
    ∃ sd, Out r sd p ∧ (sdist r sd s.a ≠ sdist r sd s.b →
      newPoint (code r p) s r = .ok (On s (sdist r sd s.a / (sdist r sd s.a - sdist r sd s.b)))) := by
  unfold newPoint
  obtain ⟨n1, n2, n4, n8⟩ := code_bits r p
  by_cases hL : Out r .L p
  · refine ⟨.L, hL, fun hd => ?_⟩
    have hd' : s.b.x - s.a.x ≠ 0 := fun h => hd (by simp only [sdist]; linarith)
    rw [if_pos (n1.2 hL), if_neg hd']
    exact congrArg Except.ok (on_cut_x s _ _ _ (by simp only [sdist]; ring) hd' (sub_ne_zero.2 hd)).symm
  rw [if_neg (fun h => hL (n1.1 h))]
  by_cases hR : Out r .R p
  · refine ⟨.R, hR, fun hd => ?_⟩
    have hd' : s.b.x - s.a.x ≠ 0 := fun h => hd (by simp only [sdist]; linarith)
    rw [if_pos (n2.2 hR), if_neg hd']
    exact congrArg Except.ok (on_cut_x s _ _ _ (by simp only [sdist]; ring) hd' (sub_ne_zero.2 hd)).symm
  rw [if_neg (fun h => hR (n2.1 h))]
  by_cases hT : Out r .T p
  · refine ⟨.T, hT, fun hd => ?_⟩
    have hd' : s.b.y - s.a.y ≠ 0 := fun h => hd (by simp only [sdist]; linarith)
    rw [if_pos (n4.2 hT), if_neg hd']
    exact congrArg Except.ok (on_cut_y s _ _ _ (by simp only [sdist]; ring) hd' (sub_ne_zero.2 hd)).symm
  rw [if_neg (fun h => hT (n4.1 h))]
  by_cases hB : Out r .B p
  · refine ⟨.B, hB, fun hd => ?_⟩
    have hd' : s.b.y - s.a.y ≠ 0 := fun h => hd (by simp only [sdist]; linarith)
    rw [if_pos (n8.2 hB), if_neg hd']
    exact congrArg Except.ok (on_cut_y s _ _ _ (by simp only [sdist]; ring) hd' (sub_ne_zero.2 hd)).symm
  exfalso
  apply hne
  rw [code_zero, inside_iff]
  intro sd; cases sd <;> assumption

theorem lin_pos (a d u v t : Rat) (hu : u ≤ t) (hv : t ≤ v) (h1 : 0 < a + u * d) (h2 : 0 < a + v * d) :
    0 < a + t * d := by
  rcases le_total 0 d with hd | hd
  · linarith [mul_le_mul_of_nonneg_right hu hd]
  · linarith [mul_le_mul_of_nonpos_right hv hd]

theorem lin_nonpos (a d u v t : Rat) (hu : u ≤ t) (hv : t ≤ v) (h1 : a + u * d ≤ 0) (h2 : a + v * d ≤ 0) :
    a + t * d ≤ 0 := by
  rcases le_total 0 d with hd | hd
  · linarith [mul_le_mul_of_nonneg_right hv hd]
  · linarith [mul_le_mul_of_nonpos_right hu hd]

theorem out_between (r : Rect) (sd : Side) (s : Seg) (u v t : Rat) (hu : u ≤ t) (hv : t ≤ v)
    (h1 : Out r sd (On s u)) (h2 : Out r sd (On s v)) : Out r sd (On s t) := by
  simp only [Out, sdist_on] at *
  exact lin_pos _ _ u v t hu hv h1 h2

theorem notout_between (r : Rect) (sd : Side) (s : Seg) (u v t : Rat) (hu : u ≤ t) (hv : t ≤ v)
    (h1 : ¬ Out r sd (On s u)) (h2 : ¬ Out r sd (On s v)) : ¬ Out r sd (On s t) := by
  simp only [Out, sdist_on, not_lt] at *
  exact lin_nonpos _ _ u v t hu hv h1 h2

theorem inside_between (r : Rect) (s : Seg) (u v t : Rat) (hu : u ≤ t) (hv : t ≤ v)
    (h1 : Inside r (On s u)) (h2 : Inside r (On s v)) : Inside r (On s t) := by
  rw [inside_iff] at *
  intro sd
  exact notout_between r sd s u v t hu hv (h1 sd) (h2 sd)

def Sub (r : Rect) (s s' : Seg) : Prop :=
  ∃ u v, 0 ≤ u ∧ u ≤ v ∧ v ≤ 1 ∧ s'.a = On s u ∧ s'.b = On s v ∧
    ∀ t, 0 ≤ t → t ≤ 1 → Inside r (On s t) → u ≤ t ∧ t ≤ v

theorem Sub.refl (r : Rect) (s : Seg) : Sub r s s :=
  ⟨0, 1, le_refl _, zero_le_one, le_refl _, (on_zero s).symm, (on_one s).symm, fun _ h0 h1 _ => ⟨h0, h1⟩⟩

theorem Sub.trans {r : Rect} {s s' s'' : Seg} (h1 : Sub r s s') (h2 : Sub r s' s'') : Sub r s s'' := by
  obtain ⟨u, v, hu0, huv, hv1, ha, hb, hin⟩ := h1
  obtain ⟨u', v', hu0', huv', hv1', ha', hb', hin'⟩ := h2
  have hs' : s' = ⟨On s u, On s v⟩ := by cases s'; cases ha; cases hb; rfl
  subst hs'
  have hd : 0 ≤ v - u := sub_nonneg.2 huv
  refine ⟨u + u' * (v - u), u + v' * (v - u), add_nonneg hu0 (mul_nonneg hu0' hd),
    by linarith [mul_le_mul_of_nonneg_right huv' hd], by linarith [mul_le_of_le_one_left hd hv1'],
    by rw [ha', on_on], by rw [hb', on_on], ?_⟩
  intro t ht0 ht1 hins
  obtain ⟨h3, h4⟩ := hin t ht0 ht1 hins
  rcases hd.eq_or_lt with he | hpos
  · rw [← he]; constructor <;> linarith
  · -- `t` has parameter `(t - u) / (v - u)` on `s'`
    have key : On ⟨On s u, On s v⟩ ((t - u) / (v - u)) = On s t := by
      rw [on_on, div_mul_cancel₀ _ hpos.ne', add_sub_cancel]
    obtain ⟨h7, h8⟩ := hin' _ (div_nonneg (sub_nonneg.2 h3) hd) ((div_le_one hpos).2 (by linarith))
      (by rw [key]; exact hins)
    rw [le_div_iff₀ hpos] at h7
    rw [div_le_iff₀ hpos] at h8
    constructor <;> linarith

def Unresolved (r : Rect) (sd : Side) (s : Seg) : Prop := Out r sd s.a ∨ Out r sd s.b

open Classical in
noncomputable def ind (p : Prop) : Nat := if p then 1 else 0

theorem ind_le_one (p : Prop) : ind p ≤ 1 := by unfold ind; split_ifs <;> omega
theorem ind_mono {p q : Prop} (h : p → q) : ind p ≤ ind q := by
  unfold ind; split_ifs <;> first | omega | (exfalso; tauto)
theorem ind_lt {p q : Prop} (hq : q) (hp : ¬ p) : ind p < ind q := by
  unfold ind; rw [if_pos hq, if_neg hp]; omega
theorem ind_zero {p : Prop} (h : ind p = 0) : ¬ p := by
  intro hp; unfold ind at h; rw [if_pos hp] at h; omega

noncomputable def unres (r : Rect) (s : Seg) : Nat :=
  ind (Unresolved r .L s) + ind (Unresolved r .R s) + ind (Unresolved r .T s) + ind (Unresolved r .B s)

theorem unres_le (r : Rect) (s : Seg) : unres r s ≤ 4 := by
  have := ind_le_one (Unresolved r .L s); have := ind_le_one (Unresolved r .R s)
  have := ind_le_one (Unresolved r .T s); have := ind_le_one (Unresolved r .B s)
  unfold unres; omega

theorem unres_lt {r : Rect} {s s' : Seg} (hmono : ∀ sd, Unresolved r sd s' → Unresolved r sd s)
    (sd : Side) (h1 : Unresolved r sd s) (h2 : ¬ Unresolved r sd s') : unres r s' < unres r s := by
  have mL := ind_mono (hmono .L); have mR := ind_mono (hmono .R)
  have mT := ind_mono (hmono .T); have mB := ind_mono (hmono .B)
  have hlt := ind_lt h1 h2
  unfold unres
  cases sd <;> omega

theorem unres_zero {r : Rect} {s : Seg} (h : unres r s = 0) : Inside r s.a ∧ Inside r s.b := by
  unfold unres at h
  have hU : ∀ sd, ¬ Unresolved r sd s := by
    intro sd; cases sd <;> exact ind_zero (by omega)
  rw [inside_iff, inside_iff]
  exact ⟨fun sd h => hU sd (Or.inl h), fun sd h => hU sd (Or.inr h)⟩

theorem out_on (r : Rect) (sd : Side) (s : Seg) (w : Rat) (h0 : 0 ≤ w) (h1 : w ≤ 1)
    (h : Out r sd (On s w)) : Out r sd s.a ∨ Out r sd s.b := by
  by_contra hc
  push Not at hc
  have := notout_between r sd s 0 1 w h0 h1 (by rw [on_zero]; exact hc.1) (by rw [on_one]; exact hc.2)
  exact this h

theorem part_spec (r : Rect) (s : Seg) (sd : Side) (u v : Rat) (hu : 0 ≤ u) (huv : u ≤ v) (hv : v ≤ 1)
    (hout : ∀ t, 0 ≤ t → t ≤ 1 → t < u ∨ v < t → Out r sd (On s t))
    (h1 : ¬ Out r sd (On s u)) (h2 : ¬ Out r sd (On s v)) (hwas : Unresolved r sd s) :
    Sub r s ⟨On s u, On s v⟩ ∧ unres r ⟨On s u, On s v⟩ < unres r s := by
  constructor
  · refine ⟨u, v, hu, huv, hv, rfl, rfl, fun t ht0 ht1 hins => ?_⟩
    by_contra hc
    refine (inside_iff r _).1 hins sd (hout t ht0 ht1 ?_)
    rcases not_and_or.1 hc with h | h
    · exact Or.inl (not_le.1 h)
    · exact Or.inr (not_le.1 h)
  · refine unres_lt (fun sd' hu' => ?_) sd hwas (fun h => h.elim h1 h2)
    rcases hu' with h | h
    · exact out_on r sd' s u hu (huv.trans hv) h
    · exact out_on r sd' s v (hu.trans huv) hv h

/-- the outcode a pass works on: that of endpoint 1 unless it is inside (`if code_1 != 0: code = code_1 else: …`) -/
def pick (r : Rect) (s : Seg) : Nat := if code r s.a ≠ 0 then code r s.a else code r s.b

/-- the segment after the pass: the endpoint whose outcode was picked is replaced by `p` (`if code == code_1`) -/
def moved (r : Rect) (s : Seg) (p : Pt) : Seg := if pick r s = code r s.a then ⟨p, s.b⟩ else ⟨s.a, p⟩

theorem step_spec (r : Rect) (s : Seg)
    (hacc : ¬ (code r s.a = 0 ∧ code r s.b = 0)) (hrej : ¬ (code r s.a &&& code r s.b ≠ 0)) :
    ∃ p, newPoint (pick r s) s r = .ok p ∧ Sub r s (moved r s p) ∧ unres r (moved r s p) < unres r s := by
  unfold moved pick
  rw [code_and] at hrej
  push Not at hrej
  by_cases h1 : code r s.a ≠ 0
  · -- endpoint 1 is clipped: the part `[w, 1]` remains
    rw [if_pos h1]
    obtain ⟨sd, hout, hnp⟩ := newPoint_spec r s s.a h1
    have hb : ¬ Out r sd s.b := hrej sd hout
    have f1 : 0 < sdist r sd s.a := hout
    obtain ⟨w0, w1, wz, wout⟩ := w_first _ _ f1 (not_lt.1 hb)
    -- no division by zero: the two distances from the line differ, one being positive and the other not
    refine ⟨_, hnp (fun h => hb (by rw [Out, ← h]; exact f1)), ?_⟩
    rw [if_pos rfl]
    have := part_spec r s sd _ 1 w0.le w1 le_rfl
      (fun t _ ht1 h => h.elim (fun h => by simp only [Out, sdist_on]; exact wout t h) (fun h => absurd ht1 (not_le.2 h)))
      (by simp only [Out, sdist_on, wz, lt_irrefl, not_false_eq_true]) (by rw [on_one]; exact hb) (Or.inl hout)
    rwa [on_one] at this
  · -- endpoint 2 is clipped: the part `[0, w]` remains
    rw [if_neg h1]
    push Not at h1
    have h2 : code r s.b ≠ 0 := fun h => hacc ⟨h1, h⟩
    have hne : ¬ (code r s.b = code r s.a) := by rw [h1]; exact h2
    obtain ⟨sd, hout, hnp⟩ := newPoint_spec r s s.b h2
    have ha : ¬ Out r sd s.a := by
      rw [code_zero, inside_iff] at h1; exact h1 sd
    have f2 : 0 < sdist r sd s.b := hout
    obtain ⟨w0, w1, wz, wout⟩ := w_second _ _ (not_lt.1 ha) f2
    refine ⟨_, hnp (fun h => ha (by rw [Out, h]; exact f2)), ?_⟩
    rw [if_neg hne]
    have := part_spec r s sd 0 _ le_rfl w0 w1.le
      (fun t ht0 _ h => h.elim (fun h => absurd ht0 (not_le.2 h)) (fun h => by simp only [Out, sdist_on]; exact wout t h))
      (by rw [on_zero]; exact ha) (by simp only [Out, sdist_on, wz, lt_irrefl, not_false_eq_true]) (Or.inr hout)
    rwa [on_zero] at this

/-- what a `return` of the loop guarantees about `(accept, segment)` relative to the segment `s` the
loop was entered with -/
def Post (r : Rect) (s : Seg) (acc : Bool) (s' : Seg) : Prop :=
  Sub r s s' ∧ (acc = true → Inside r s'.a ∧ Inside r s'.b) ∧
    (acc = false → ∃ sd, Out r sd s'.a ∧ Out r sd s'.b)

theorem clipLoop_succ (r : Rect) (fuel iters : Nat) (s : Seg) :
    clipLoop r (fuel + 1) iters s =
      if code r s.a = 0 ∧ code r s.b = 0 then .ok (some (true, s))
      else if code r s.a &&& code r s.b ≠ 0 then .ok (some (false, s))
      else if iters > 3 then .ok none
      else match newPoint (pick r s) s r with
        | Except.error e => Except.error e
        | Except.ok p => clipLoop r fuel (iters + 1) (moved r s p) := rfl

theorem clipLoop_mono_le (r : Rect) : ∀ (f1 f2 it : Nat) (s : Seg) (x : Bool × Seg), f1 ≤ f2 →
    clipLoop r f1 it s = .ok (some x) → clipLoop r f2 it s = .ok (some x) := by
  intro f1
  induction f1 with
  | zero => intro f2 it s x _ h; cases h
  | succ n ih =>
    intro f2 it s x hle h
    obtain ⟨f2, rfl⟩ : ∃ k, f2 = k + 1 := ⟨f2 - 1, by omega⟩
    rw [clipLoop_succ] at h ⊢
    by_cases h1 : code r s.a = 0 ∧ code r s.b = 0
    · rw [if_pos h1] at h ⊢; exact h
    rw [if_neg h1] at h ⊢
    by_cases h2 : code r s.a &&& code r s.b ≠ 0
    · rw [if_pos h2] at h ⊢; exact h
    rw [if_neg h2] at h ⊢
    by_cases h3 : it > 3
    · rw [if_pos h3] at h; cases h
    rw [if_neg h3] at h ⊢
    cases hnp : newPoint (pick r s) s r with
    | error e => rw [hnp] at h; cases h
    | ok p => rw [hnp] at h; exact ih _ _ _ _ (by omega) h

/-- the loop returns through trivial accept / trivial reject — never an exception, never the failsafe —
provided the passes already made plus the unresolved lines do not exceed four -/
theorem loop_spec (r : Rect) : ∀ (fuel iters : Nat) (s : Seg), iters + unres r s ≤ 4 → fuel + iters = 5 →
    ∃ acc s', clipLoop r fuel iters s = .ok (some (acc, s')) ∧ Post r s acc s' := by
  intro fuel
  induction fuel with
  | zero => intro iters s h1 h2; omega
  | succ fuel ih =>
    intro iters s h1 h2
    rw [clipLoop_succ]
    by_cases hacc : code r s.a = 0 ∧ code r s.b = 0
    · rw [if_pos hacc]
      exact ⟨true, s, rfl, Sub.refl r s, fun _ => ⟨(code_zero r _).1 hacc.1, (code_zero r _).1 hacc.2⟩,
        fun h => Bool.noConfusion h⟩
    rw [if_neg hacc]
    by_cases hrej : code r s.a &&& code r s.b ≠ 0
    · rw [if_pos hrej]
      exact ⟨false, s, rfl, Sub.refl r s, fun h => Bool.noConfusion h, fun _ => (code_and r _ _).1 hrej⟩
    rw [if_neg hrej]
    have hit : ¬ iters > 3 := by
      intro hgt
      have h0 : unres r s = 0 := by omega
      obtain ⟨ha, hb⟩ := unres_zero h0
      exact hacc ⟨(code_zero r _).2 ha, (code_zero r _).2 hb⟩
    rw [if_neg hit]
    obtain ⟨p, hp, hsub, hdec⟩ := step_spec r s hacc hrej
    rw [hp]
    obtain ⟨acc, s'', hrun, hsub', hA, hR⟩ := ih (iters + 1) (moved r s p) (by omega) (by omega)
    exact ⟨acc, s'', hrun, hsub.trans hsub', hA, hR⟩

theorem clip_spec (r : Rect) (s : Seg) :
    ∃ acc s', clipSegment r s = .ok (some (acc, s')) ∧ Post r s acc s' :=
  loop_spec r 5 0 s (by have := unres_le r s; omega) rfl

theorem clip_post {r : Rect} {s s' : Seg} {acc : Bool} (h : clipSegment r s = .ok (some (acc, s'))) :
    Post r s acc s' := by
  obtain ⟨acc', s'', h', hP⟩ := clip_spec r s
  rw [h] at h'
  cases h'
  exact hP

def Represents (iv : Option (Rat × Rat)) (S : Rat → Prop) : Prop :=
  match iv with
  | none => ∀ t, ¬ S t
  | some (a, b) => a ≤ b ∧ ∀ t, S t ↔ a ≤ t ∧ t ≤ b

theorem Represents.congr {iv : Option (Rat × Rat)} {S S' : Rat → Prop} (h : Represents iv S)
    (e : ∀ t, S' t ↔ S t) : Represents iv S' := by
  cases iv with
  | none => intro t ht; exact h t ((e t).1 ht)
  | some ab =>
    obtain ⟨a, b⟩ := ab
    exact ⟨h.1, fun t => (e t).trans (h.2 t)⟩

theorem Represents.unique {iv iv' : Option (Rat × Rat)} {S : Rat → Prop} (h : Represents iv S)
    (h' : Represents iv' S) : iv = iv' := by
  rcases iv with _ | ⟨a, b⟩ <;> rcases iv' with _ | ⟨a', b'⟩
  · rfl
  · exact absurd ((h'.2 a').2 ⟨le_rfl, h'.1⟩) (h a')
  · exact absurd ((h.2 a).2 ⟨le_rfl, h.1⟩) (h' a)
  · -- each interval contains the ends of the other
    have ha := (h'.2 a).1 ((h.2 a).2 ⟨le_rfl, h.1⟩)
    have hb := (h'.2 b).1 ((h.2 b).2 ⟨h.1, le_rfl⟩)
    have ha' := (h.2 a').1 ((h'.2 a').2 ⟨le_rfl, h'.1⟩)
    have hb' := (h.2 b').1 ((h'.2 b').2 ⟨h'.1, le_rfl⟩)
    rw [le_antisymm ha'.1 ha.1, le_antisymm hb.2 hb'.2]

theorem Represents.bounds {P : Rat → Prop} {t0 t1 : Rat}
    (h : Represents (some (t0, t1)) fun t => 0 ≤ t ∧ t ≤ 1 ∧ P t) :
    0 ≤ t0 ∧ t0 ≤ t1 ∧ t1 ≤ 1 ∧ ∀ t, 0 ≤ t → t ≤ 1 → (P t ↔ t0 ≤ t ∧ t ≤ t1) :=
  ⟨((h.2 t0).2 ⟨le_rfl, h.1⟩).1, h.1, ((h.2 t1).2 ⟨h.1, le_rfl⟩).2.1,
    fun t h0 h1 => ⟨fun hp => (h.2 t).1 ⟨h0, h1, hp⟩, fun hh => ((h.2 t).2 hh).2.2⟩⟩

theorem Post.accept {r : Rect} {s s' : Seg} (h : Post r s true s') :
    ∃ u v, s'.a = On s u ∧ s'.b = On s v ∧
      Represents (some (u, v)) fun t => 0 ≤ t ∧ t ≤ 1 ∧ Inside r (On s t) := by
  obtain ⟨⟨u, v, hu0, huv, hv1, ha, hb, hin⟩, hA, _⟩ := h
  obtain ⟨i1, i2⟩ := hA rfl
  rw [ha] at i1; rw [hb] at i2
  exact ⟨u, v, ha, hb, huv, fun t => ⟨fun ⟨h0, h1, hi⟩ => hin t h0 h1 hi,
    fun ⟨h3, h4⟩ => ⟨hu0.trans h3, h4.trans hv1, inside_between r s u v t h3 h4 i1 i2⟩⟩⟩

/-- a rejected segment has no point inside: all of its inside part would lie between two points outside one line -/
theorem Post.reject {r : Rect} {s s' : Seg} (h : Post r s false s') :
    Represents none fun t => 0 ≤ t ∧ t ≤ 1 ∧ Inside r (On s t) := by
  obtain ⟨⟨u, v, _, _, _, ha, hb, hin⟩, _, hR⟩ := h
  obtain ⟨sd, o1, o2⟩ := hR rfl
  rw [ha] at o1; rw [hb] at o2
  rintro t ⟨h0, h1, hi⟩
  obtain ⟨h3, h4⟩ := hin t h0 h1 hi
  exact (inside_iff r _).1 hi sd (out_between r sd s u v t h3 h4 o1 o2)

/-- intersecting a represented interval with a half-line `c ≤ t`, as `lbCut` does for `p < 0` -/
theorem Represents.inter_ge {S : Rat → Prop} {t0 t1 : Rat} (h : Represents (some (t0, t1)) S) (c : Rat) :
    Represents (if c > t1 then none else some (if c > t0 then c else t0, t1)) (fun t => S t ∧ c ≤ t) := by
  obtain ⟨h01, hS⟩ := h
  by_cases h1 : c > t1
  · rw [if_pos h1]
    intro t ht
    linarith [((hS t).1 ht.1).2, ht.2]
  · rw [if_neg h1, ← max_def_lt]
    exact ⟨max_le h01 (not_lt.1 h1), fun t => by beta_reduce; rw [hS t, max_le_iff]; exact and_right_comm⟩

/-- … and with `t ≤ c`, for `p > 0` -/
theorem Represents.inter_le {S : Rat → Prop} {t0 t1 : Rat} (h : Represents (some (t0, t1)) S) (c : Rat) :
    Represents (if c < t0 then none else some (t0, if c < t1 then c else t1)) (fun t => S t ∧ t ≤ c) := by
  obtain ⟨h01, hS⟩ := h
  by_cases h0 : c < t0
  · rw [if_pos h0]
    intro t ht
    linarith [((hS t).1 ht.1).1, ht.2]
  · rw [if_neg h0, ← min_def_lt]
    exact ⟨le_min (not_lt.1 h0) h01, fun t => by
      beta_reduce; rw [hS t, le_min_iff, and_assoc, and_comm (a := t ≤ t1)]⟩

theorem lbCut_represents (p q : Rat) (iv : Option (Rat × Rat)) (S : Rat → Prop) (h : Represents iv S) :
    Represents (lbCut p q iv) (fun t => S t ∧ p * t ≤ q) := by
  cases iv with
  | none => intro t ht; exact h t ht.1
  | some ab =>
    obtain ⟨t0, t1⟩ := ab
    unfold lbCut
    rcases lt_trichotomy p 0 with hneg | rfl | hpos
    · simp only [if_neg hneg.ne, if_pos hneg]
      exact (h.inter_ge (q / p)).congr fun t => and_congr_right' (by rw [div_le_iff_of_neg hneg, mul_comm])
    · simp only [if_true, zero_mul]
      split_ifs with hq
      · intro t ht; exact absurd ht.2 (not_le.2 hq)
      · exact h.congr fun t => and_iff_left (not_lt.1 hq)
    · simp only [if_neg hpos.ne', if_neg (not_lt.2 hpos.le)]
      exact (h.inter_le (q / p)).congr fun t => and_congr_right' (by rw [le_div_iff₀ hpos, mul_comm])

theorem specInterval_represents (r : Rect) (s : Seg) :
    Represents (specInterval r s) (fun t => 0 ≤ t ∧ t ≤ 1 ∧ Inside r (On s t)) := by
  unfold specInterval
  have h0 : Represents (some ((0 : Rat), (1 : Rat))) (fun t => 0 ≤ t ∧ t ≤ 1) :=
    ⟨zero_le_one, fun t => Iff.rfl⟩
  have h1 := lbCut_represents (-(s.b.x - s.a.x)) (s.a.x - r.xmin) _ _ h0
  have h2 := lbCut_represents (s.b.x - s.a.x) (r.xmax - s.a.x) _ _ h1
  have h3 := lbCut_represents (-(s.b.y - s.a.y)) (s.a.y - r.ymin) _ _ h2
  have h4 := lbCut_represents (s.b.y - s.a.y) (r.ymax - s.a.y) _ _ h3
  refine h4.congr (fun t => ?_)
  simp only [Inside, On]
  constructor
  · rintro ⟨a, b, c1, c2, c3, c4⟩
    exact ⟨⟨⟨⟨⟨a, b⟩, by linarith⟩, by linarith⟩, by linarith⟩, by linarith⟩
  · rintro ⟨⟨⟨⟨⟨a, b⟩, c1⟩, c2⟩, c3⟩, c4⟩
    exact ⟨a, b, by linarith, by linarith, by linarith, by linarith⟩

end C08
end Plotink
