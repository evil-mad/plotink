import Plotink.Gen.move_dist_t3
import Plotink.Proofs.C02Env

/-! # C02 — `Gen.move_dist_t3` equals the firmware prediction (numeric bridge with error analysis)

`mpf(jerk)/6` is not representable at 103 bits, so unlike C01 the computed accumulator is only *close*
to the integer total of the recurrence; the proof bounds the accumulated error by `2^-16` and lets
`round()` recover the integer. The `< 0.01` snap is shown to fire exactly when the correction
`accel/2 − int(accel/2) + int(jerk/6) − jerk/6` is zero (it is a multiple of 1/6 otherwise). -/

namespace Plotink
namespace T3
open Py Py.Val Fw

section
variable {R : Rounding} (hR : Contract R)
include hR

/-- the part of `rate_effective` before `mpf(jerk)/6` is subtracted: four roundings of half-integers -/
theorem re_exact (rate accel jerk : Int) (hr : |rate| ≤ 2 ^ 40) (ha : |accel| ≤ 2 ^ 40) (hj : |jerk| ≤ 2 ^ 40) :
    R.mp 103 (R.mp 103 (R.mp 103 ((rate : Rat) + R.mp 103 ((accel : Rat) / 2)) - ((tdiv accel 2 : Int) : Rat))
      + ((tdiv jerk 6 : Int) : Rat)) = ((2 * r0 rate accel jerk + accel : Int) : Rat) / 2 := by
  have d1 := (Dy.int accel ha).half
  have d2 := (Dy.int rate hr).lift.add d1
  have d3 := d2.sub (Dy.int _ ((tdiv2_bound accel).trans ha)).lift
  have d4 := d3.add (Dy.int _ ((tdiv6_abs jerk).trans hj)).lift
  rw [d1.mp_eq hR.toExact, d2.mp_eq hR.toExact, d3.mp_eq hR.toExact, d4.mp_eq hR.toExact]
  unfold r0; push_cast; ring

/-- `mpf(accum) + rate_effective·time`, where `rate_effective` is the half-integer `K/2` minus the rounded
`mpf(jerk)/6`, with its snap to `rate`. (`5764607523034235 / 2^59` is the double `0.01`.) -/
theorem snap_sum (K T rate jerk a0 : Int) (hT1 : 1 ≤ T) (hT : T ≤ 2 ^ 32) (hK : |K| ≤ 2 ^ 43)
    (hr : |rate| ≤ 2 ^ 40) (hj : |jerk| ≤ 2 ^ 40) (ha0 : 0 ≤ a0 ∧ a0 < 2 ^ 31) :
    ∃ s : Rat,
      add R 103 (mpf (a0 : Rat))
        (mul R 103
          (if decide (|R.mp 103 (R.mp 103 ((K : Rat) / 2 - R.mp 103 ((jerk : Rat) / 6)) - (rate : Rat))|
              < 5764607523034235 / 576460752303423488) = true
           then int rate else mpf (R.mp 103 ((K : Rat) / 2 - R.mp 103 ((jerk : Rat) / 6))))
          (int T)) = mpf s ∧
      |s - ((a0 : Rat) + ((K : Rat) / 2 - (jerk : Rat) / 6) * (T : Rat))| ≤ 2 ^ 80 / 2 ^ 103 ∧
      |(a0 : Rat) + ((K : Rat) / 2 - (jerk : Rat) / 6) * (T : Rat)| ≤ 2 ^ 77 := by
  have hTb : |T| ≤ 2 ^ 32 := abs_le.mpr ⟨by omega, hT⟩
  have ha0b : |a0| ≤ 2 ^ 31 := by rw [abs_le]; omega
  have bT := abs_intCast_le hTb
  have br := abs_intCast_le hr
  have bjq : |(jerk : Rat) / 6| ≤ 2 ^ 40 := abs_cast_div_le hj 6 (by norm_num)
  have bx0 : |(K : Rat) / 2 - (jerk : Rat) / 6| ≤ 2 ^ 44 :=
    (abs_sub _ _).trans ((add_le_add (abs_cast_div_le hK 2 one_le_two) bjq).trans (by norm_num))
  set x0 : Rat := (K : Rat) / 2 - (jerk : Rat) / 6 with hx0
  have bprod : |x0 * (T : Rat)| ≤ 2 ^ 76 := by
    rw [abs_mul]; exact (mul_le_mul bx0 bT (abs_nonneg _) (by norm_num)).trans (by norm_num)
  have bx1 : |(a0 : Rat) + x0 * (T : Rat)| ≤ 2 ^ 77 :=
    (abs_add_le _ _).trans ((add_le_add (abs_intCast_le ha0b) bprod).trans (by norm_num))
  by_cases hc : 3 * K - jerk - 6 * rate = 0
  · -- `jerk/6 = (K − 2·rate)/2`: every site is exact, the difference is 0 and the snap fires
    obtain rfl : jerk = 3 * K - 6 * rate := by omega
    have hrb := hr
    rw [abs_le] at hK hr
    rw [mp_half_eq hR.toExact (((3 * K - 6 * rate : Int) : Rat) / 6) (K - 2 * rate) (by push_cast; ring)
        (by rw [abs_lt]; omega),
      mp_int_eq hR.toExact ((K : Rat) / 2 - ((K - 2 * rate : Int) : Rat) / 2) rate (by push_cast; ring)
        (by rw [abs_lt]; omega), sub_self,
      mp_int_eq hR.toExact 0 0 (by simp) (by norm_num), Int.cast_zero, abs_zero,
      if_pos (decide_eq_true (by norm_num)), mul_int_int, add_mpf_int]
    have bs : |a0 + rate * T| < 2 ^ 103 :=
      ((abs_add_le a0 (rate * T)).trans (add_le_add ha0b (abs_mul_le hrb hTb))).trans_lt (by norm_num)
    refine ⟨_, by rw [mp_int_eq hR.toExact _ (a0 + rate * T) (by push_cast; ring) bs], ?_, bx1⟩
    have : x0 = (rate : Rat) := by rw [hx0]; push_cast; ring
    rw [this]; push_cast; rw [sub_self, abs_zero]; positivity
  · -- the difference is a non-zero multiple of 1/6 up to rounding: no snap
    have eD := mp_near hR _ _ bjq
    set D := R.mp 103 ((jerk : Rat) / 6) with hD
    have eRE : |R.mp 103 ((K : Rat) / 2 - D) - x0| ≤ 2 ^ 46 / 2 ^ 103 :=
      mp_approx hR _ x0 46 (by rw [hx0, sub_sub_sub_cancel_left, abs_sub_comm]; exact eD) bx0 (by decide) (by decide) (by decide)
    set RE := R.mp 103 ((K : Rat) / 2 - D) with hRE
    have eDIFF : |R.mp 103 (RE - (rate : Rat)) - (x0 - (rate : Rat))| ≤ 2 ^ 47 / 2 ^ 103 :=
      mp_approx hR _ _ 47 (by rw [sub_sub_sub_cancel_right]; exact eRE)
        ((abs_sub _ _).trans ((add_le_add bx0 br).trans (by norm_num : (2 : Rat) ^ 44 + 2 ^ 40 ≤ 2 ^ 45)))
        (by decide) (by decide) (by decide)
    have hsixth : (1 : Rat) / 6 ≤ |x0 - (rate : Rat)| := by
      rw [show x0 - (rate : Rat) = ((3 * K - jerk - 6 * rate : Int) : Rat) / 6 by rw [hx0]; push_cast; ring,
        abs_div, abs_of_pos (by norm_num : (0 : Rat) < 6), ← Int.cast_abs]
      exact div_le_div_of_nonneg_right (by exact_mod_cast Int.one_le_abs hc) (by norm_num)
    have hnlt : ¬ (decide (|R.mp 103 (RE - (rate : Rat))| < 5764607523034235 / 576460752303423488) = true) := by
      rw [decide_eq_true_iff, not_lt]
      have := abs_sub_abs_le_abs_sub (x0 - (rate : Rat)) (R.mp 103 (RE - (rate : Rat)))
      rw [abs_sub_comm (x0 - (rate : Rat))] at this
      linarith only [this, eDIFF, hsixth]
    rw [if_neg hnlt, mul_mpf_int, add_mpf_mpf]
    have eP : |R.mp 103 (RE * (T : Rat)) - x0 * (T : Rat)| ≤ 2 ^ 79 / 2 ^ 103 :=
      mp_approx hR _ _ 79 (a := 46 + 32)
        (by rw [← sub_mul, abs_mul, pow_add, ← div_mul_eq_mul_div]
            exact mul_le_mul eRE bT (abs_nonneg _) (by positivity))
        bprod (by decide) (by decide) (by decide)
    exact ⟨_, rfl, mp_approx hR _ _ 80 (a := 79) (by rw [add_sub_add_left_eq_sub]; exact eP) bx1 (by decide) (by decide)
      (by decide), bx1⟩

/-- the three `mpf` additions after the `rate_effective·time` product, and the final `round()`:
`s` is the computed `mpf(accum) + rate_effective·time`, within `2^-23` of its ideal value `x1`. The two products by
`time` are exact integers; only the quotient by 6 and the additions round. -/
theorem sum_round (s x1 : Rat) {rate accel jerk T : Int} (tot : Int) (hE : EnvT3 rate accel jerk T)
    (hs : |s - x1| ≤ 2 ^ 80 / 2 ^ 103) (hx1 : |x1| ≤ 2 ^ 77)
    (htot : x1 + ((accel * T * T : Int) : Rat) / 2 + ((jerk * T * T * T : Int) : Rat) / 6 = (tot : Rat)) :
    roundHE (R.mp 103 (R.mp 103 (s + R.mp 103 (R.mp 103 (R.mp 103 ((accel : Rat) * (T : Rat)) * (T : Rat)) / 2))
      + R.mp 103 (R.mp 103 (R.mp 103 (R.mp 103 ((jerk : Rat) * (T : Rat)) * (T : Rat)) * (T : Rat)) / 6))) = tot
    ∧ |tot| < 2 ^ 100 := by
  have hTb : |T| ≤ 2 ^ 32 := hE.abs_T.le.trans hE.hT
  have baTT : |accel * T * T| ≤ 2 ^ 50 * 2 ^ 32 := abs_mul_le hE.accel_T hTb
  have bjTTT : |jerk * T * T * T| ≤ 2 ^ 50 * 2 ^ 32 := abs_mul_le hE.jerk_TT hTb
  rw [mp_mul_int hR.toExact accel T (hE.accel_T.trans_lt (by norm_num)),
    mp_mul_int hR.toExact (accel * T) T (baTT.trans_lt (by norm_num)),
    mp_half hR.toExact _ (baTT.trans_lt (by norm_num)),
    mp_mul_int hR.toExact jerk T (hE.jerk_T.trans_lt (by norm_num)),
    mp_mul_int hR.toExact (jerk * T) T (hE.jerk_TT.trans_lt (by norm_num)),
    mp_mul_int hR.toExact (jerk * T * T) T (bjTTT.trans_lt (by norm_num))]
  have bA : |((accel * T * T : Int) : Rat) / 2| ≤ 2 ^ 82 := abs_cast_div_le baTT 2 one_le_two
  have bJ : |((jerk * T * T * T : Int) : Rat) / 6| ≤ 2 ^ 82 := abs_cast_div_le bjTTT 6 (by norm_num)
  set A : Rat := ((accel * T * T : Int) : Rat) / 2
  set J : Rat := ((jerk * T * T * T : Int) : Rat) / 6
  have b1 : |x1 + A| ≤ 2 ^ 83 := (abs_add_le _ _).trans ((add_le_add hx1 bA).trans (by norm_num))
  have b2 : |(tot : Rat)| ≤ 2 ^ 84 := by
    rw [← htot]; exact (abs_add_le _ _).trans ((add_le_add b1 bJ).trans (by norm_num))
  have eS2 : |R.mp 103 (s + A) - (x1 + A)| ≤ 2 ^ 85 / 2 ^ 103 :=
    mp_approx hR _ _ 85 (a := 80) (by rw [add_sub_add_right_eq_sub]; exact hs) b1 (by decide) (by decide) (by decide)
  have eS3 : |R.mp 103 (R.mp 103 (s + A) + R.mp 103 J) - (tot : Rat)| ≤ 2 ^ 87 / 2 ^ 103 := by
    refine mp_approx hR _ _ 87 (a := 86) ?_ b2 (by decide) (by decide) (by decide)
    rw [← htot, add_sub_add_comm]
    exact (abs_add_le _ _).trans ((add_le_add eS2 (mp_near hR J _ bJ)).trans (by norm_num))
  refine ⟨roundHE_unique _ _ (eS3.trans_lt (by norm_num)), ?_⟩
  rw [← Int.cast_abs] at b2
  exact Int.cast_lt.mp (b2.trans_lt (by norm_num))

/-- the ideal (unrounded) value of `mpf(accum) + rate_effective·time` -/
def x1 (rate accel jerk T a0 : Int) : Rat :=
  (a0 : Rat) + (((2 * r0 rate accel jerk + accel : Int) : Rat) / 2 - (jerk : Rat) / 6) * (T : Rat)

omit hR in
theorem x1_total (rate accel jerk T a0 : Int) (hT1 : 1 ≤ T) :
    x1 rate accel jerk T a0 + ((accel * T * T : Int) : Rat) / 2 + ((jerk * T * T * T : Int) : Rat) / 6
      = ((t3Total rate accel jerk T.toNat a0 : Int) : Rat) := by
  have hTn : ((T.toNat : Nat) : Int) = T := Int.toNat_of_nonneg (by omega)
  have h := total_closed rate accel jerk a0 T.toNat
  rw [hTn] at h
  have hq : ((6 * t3Total rate accel jerk T.toNat a0 : Int) : Rat)
      = ((6 * a0 + 6 * T * r0 rate accel jerk + 3 * accel * T * (T + 1) + jerk * (T - 1) * T * (T + 1) : Int) : Rat) := by
    rw [h]
  unfold x1
  push_cast at hq ⊢
  linear_combination (-1 / 6 : Rat) * hq

theorem dist_core (amb : Nat) (T rate accel jerk a0 : Int)
    (hE : EnvT3 rate accel jerk T) (ha0 : 0 ≤ a0 ∧ a0 < 2 ^ 31) :
    Gen.move_dist_t3 R amb (.int T) (.int rate) (.int accel) (.int jerk) (.int a0)
      = .tup [.int (t3Total rate accel jerk T.toNat a0 / 2147483648),
              .int (t3Total rate accel jerk T.toNat a0 % 2147483648)] := by
  have ⟨hT1, hT, hr, ha, hj, haT, hjT⟩ := hE
  have hT0 : T ≠ 0 := by omega
  have e1 : R.f64 ((accel : Rat) / 2) = (accel : Rat) / 2 :=
    f64_half hR.toExact accel (lt_of_le_of_lt ha (by norm_num))
  have e2 := intOfRat_sixth hR jerk hj
  have s1 : R.mp 103 (accel : Rat) = accel := mp_int hR.toExact accel (lt_of_le_of_lt ha (by norm_num))
  have s6 : R.mp 103 (jerk : Rat) = jerk := mp_int hR.toExact jerk (lt_of_le_of_lt hj (by norm_num))
  have s7 : R.mp 103 (rate : Rat) = rate := mp_int hR.toExact rate (lt_of_le_of_lt hr (by norm_num))
  have s8 : R.mp 103 (a0 : Rat) = a0 := mp_int hR.toExact a0 (by rw [abs_lt]; omega)
  unfold Gen.move_dist_t3
  simp only [int_int, eq_int_int, hT0, decide_false, Bool.false_eq_true, ↓reduceIte, dpsToPrec_30, eq_int_str,
    div_int_int _ _ _ _ (by norm_num : ((2:Int):Rat) ≠ 0), div_int_int _ _ _ _ (by norm_num : ((6:Int):Rat) ≠ 0), int_flt,
    mpf_int, div_mpf_int _ _ _ _ (by norm_num : ((2:Int):Rat) ≠ 0),
    div_mpf_int _ _ _ _ (by norm_num : ((6:Int):Rat) ≠ 0), add_int_mpf, sub_mpf_int, add_mpf_int, sub_mpf_mpf,
    mul_mpf_int, Int.cast_ofNat, e1, intOfRat_half, e2, s1, s6, s7, s8, abs_mpf, lt_mpf_flt, mp_two31 hR.toExact]
  rw [re_exact hR rate accel jerk hr ha hj]
  have hK : |2 * r0 rate accel jerk + accel| ≤ 2 ^ 43 := by
    have h := abs_add_le (2 * r0 rate accel jerk) accel
    rw [abs_mul, abs_two] at h
    linarith only [h, r0_abs rate accel jerk, hr, ha, hj]
  obtain ⟨s, hs, he, hx⟩ := snap_sum hR _ T rate jerk a0 hT1 hT hK hr hj ha0
  obtain ⟨hround, hb⟩ := sum_round hR s (x1 rate accel jerk T a0) (t3Total rate accel jerk T.toNat a0) hE he hx
    (x1_total rate accel jerk T a0 hT1)
  rw [hs, add_mpf_mpf, add_mpf_mpf, round_mpf, hround]
  simp only [div_int_mpf _ _ _ _ (by norm_num : (2147483648 : Rat) ≠ 0), floor_mpf, int_mpf, mpf_mpf, mul_int_mpf,
    sub_int_mpf, Int.cast_ofNat]
  rw [(split_two31 hR.toExact _ hb).1, (split_two31 hR.toExact _ hb).2]

theorem dist_clear (amb : Nat) (T rate accel jerk : Int) (ha : |accel| ≤ 2 ^ 40) (hj : |jerk| ≤ 2 ^ 40) :
    Gen.move_dist_t3 R amb (.int T) (.int rate) (.int accel) (.int jerk) (.str "clear")
      = Gen.move_dist_t3 R amb (.int T) (.int rate) (.int accel) (.int jerk) (.int (codeClear rate accel jerk)) := by
  have e1 : R.f64 ((accel : Rat) / 2) = (accel : Rat) / 2 :=
    f64_half hR.toExact accel (lt_of_le_of_lt ha (by norm_num))
  have e2 := intOfRat_sixth hR jerk hj
  unfold Gen.move_dist_t3 codeClear r0
  simp only [int_int, eq_int_int, eq_str_str, eq_int_str, beq_self_eq_true, lt_int_int, add_int_int, sub_int_int,
    div_int_int _ _ _ _ (by norm_num : ((2:Int):Rat) ≠ 0), div_int_int _ _ _ _ (by norm_num : ((6:Int):Rat) ≠ 0), int_flt,
    e1, intOfRat_half, e2, Int.cast_ofNat, Bool.false_eq_true, ↓reduceIte, decide_eq_true_eq]
  by_cases hT0 : T = 0
  · simp only [hT0, ↓reduceIte]
  simp only [hT0, ↓reduceIte]
  by_cases c1 : rate - tdiv accel 2 + tdiv jerk 6 + accel < 0
  · simp only [c1, ↓reduceIte]
  simp only [c1, ↓reduceIte]
  by_cases c2 : rate - tdiv accel 2 + tdiv jerk 6 + accel = 0
  · simp only [c2, ↓reduceIte]
    by_cases c3 : accel + jerk < 0
    · simp only [c3, ↓reduceIte]
    simp only [c3, ↓reduceIte]
    by_cases c4 : accel + jerk = 0
    · simp only [c4, ↓reduceIte]
      by_cases c5 : jerk < 0
      · simp only [c5, ↓reduceIte]
      · simp only [c5, ↓reduceIte]
    · simp only [c4, ↓reduceIte]
  · simp only [c2, ↓reduceIte]

end

end T3
end Plotink
