import Lean.Meta.Tactic.Simp.RegisterCommand

/-! The simp sets of the development, each under an attribute of its own.  An attribute cannot be used in the module
that declares it, so they are declared here, in front of the modules that tag lemmas with them. -/

/-- How the statement and expression combinators of `Plotink/PyIO.lean` run on values: `simp only [pyio_eval, h…]`,
with the known fields of the record of locals as `h…`, evaluates a straight-line generated statement (`C07Gen`). -/
register_simp_attr pyio_eval

/-- The combinators and pure operations of the `PyObj` runtime, unfolded: `simp [pyobj, …]` evaluates one generated
statement whose inputs are known values (`C16GenLink`, `C16GenMethods`). -/
register_simp_attr pyobj

/-- Evaluation rules for generated statements whose sub-expressions are values: `simp only [pyeval]` runs a
generated body symbolically, leaving an `if` on each test it cannot decide (`C19GenEval`). -/
register_simp_attr pyeval

/-- The closure lemmas of the relations of `Keeps` and what its instances add (`Ebb3GenFrame`, `Ebb3GenFrameAll`,
`C06GenPure`), as conditional rewrite rules `P (comb a b) = True` from `P a`, `P b`, found by the head combinator of the
generated term. -/
register_simp_attr fr

/-- How the evaluated parts of an f-string of literals and integers are rendered (`Ebb3Gen`, `fstr_eval`). -/
register_simp_attr fstr_render

/-- Deciding equations between literal unit strings (`['m','m'] = ['p','x']` …) and the Boolean/`if` steps that follow,
as used when a unit cascade of the regenerated converters is evaluated at a given unit (`C12Gen`). -/
register_simp_attr unit_eval
