import Plotink.Proofs.C19Gen1
import Plotink.Proofs.C19
import Plotink.Gen.ebb3_serial_find_named
import Plotink.Gen.ebb_serial_find_named_ebb

/-! # C19 bridges: the case-insensitive lookups `find_named` (EBB3 layer) and `find_named_ebb` (legacy) -/
namespace Plotink
namespace C19Gen
open PyObj Gen LegacyGen

theorem add_str (a b : List Char) : op_add (.str a) (.str b) = .ok (.str (a ++ b)) := rfl

-- the generated code spells the tags out; `←` folds them into the model's constants
attribute [pyeval ←] C19.lit_serK C19.lit_snrK C19.lit_locatK
attribute [pyeval] add_str List.cons_append

theorem find_named_body (fuel : Nat) (p : C19.Port) (pn cpl a b c : Val) (n n2 pl : List Char) (w : World NoObj) :
    ebb3_serial_find_named_fbody1 fuel ⟨pn, .str n, .str n2, .str pl, cpl, encPort p, a, b, c⟩ w =
      if C19.hit3 n n2 pl p = true then .ret (.str p.dev) w
      else .norm ⟨pn, .str n, .str n2, .str pl, cpl, encPort p, .str (C19.lower p.dev),
                  .str ((C19.lower p.desc).drop 11), .str (C19.lower p.hwid)⟩ w := by
  simp only [ebb3_serial_find_named_fbody1, ebb3_serial_find_named_if2, ebb3_serial_find_named_if3,
    ebb3_serial_find_named_if4, pyeval]
  exact C19.ite_hit3 ..

/-- **`find_named` (EBB3 layer).**  For every key (`None` or a string) and every enumeration, the regenerated function
returns what the hand model `C19.Ebb3.findNamed` returns and touches nothing. -/
theorem find_named_bridge (fuel : Nat) (key : Option C19.Str) (ports : List C19.Port) (w : World NoObj)
    (hc : Enumerates w ports) :
    ebb3_serial_find_named fuel (encOptStr key) w = .val (encOptStr (C19.Ebb3.findNamed key ports)) w := by
  cases key with
  | none =>
    simp only [ebb3_serial_find_named, ebb3_serial_find_named_main, ebb3_serial_find_named_if1, encOptStr,
      C19.Ebb3.findNamed, pyeval]
  | some k =>
    -- the loop keeps the key, the needles and the port list; the remaining variables are scratch
    obtain ⟨env', e⟩ := forLoop_find (fun (env : ebb3_serial_find_named_Env) v => { env with port := v })
      ebb3_serial_find_named_fbody1 fuel encPort
      (C19.hit3 (C19.lower (C19.serK ++ k)) (C19.lower ('(' :: (k ++ [')']))) (C19.lower k)) (fun p => .str p.dev)
      (fun env => ∃ pv a b c, env = ⟨.str k, .str (C19.lower (C19.serK ++ k)), .str (C19.lower ('(' :: (k ++ [')']))),
        .str (C19.lower k), .list (ports.map encPort), pv, a, b, c⟩) w
      (by rintro p _ ⟨pv, a, b, c, rfl⟩; exact ⟨_, ⟨_, _, _, _, rfl⟩, find_named_body ..⟩)
      ports _ ⟨.unbound, .unbound, .unbound, .unbound, rfl⟩
    simp only [ebb3_serial_find_named, ebb3_serial_find_named_main, ebb3_serial_find_named_if1,
      ebb3_serial_find_named_try1, ebb3_serial_find_named_for1, encOptStr, C19.Ebb3.findNamed, C19.Ebb3.findLoop_eq,
      pyeval, try_comports _ _ _ _ _ _ hc, e]
    cases ports.find? _ <;> rfl

theorem find_named_ebb_body (fuel : Nat) (p : C19.Port) (pn cpl a b c : Val) (n n2 n3 pl : List Char) (w : World NoObj) :
    ebb_serial_find_named_ebb_fbody1 fuel ⟨pn, .str n, .str n2, .str n3, .str pl, cpl, encPort p, a, b, c⟩ w =
      if C19.hitL n n2 n3 pl p = true then .ret (.str p.dev) w
      else .norm ⟨pn, .str n, .str n2, .str n3, .str pl, cpl, encPort p, .str (C19.lower p.dev),
                  .str ((C19.lower p.desc).drop 11), .str (C19.lower p.hwid)⟩ w := by
  simp only [ebb_serial_find_named_ebb_fbody1, ebb_serial_find_named_ebb_if2, ebb_serial_find_named_ebb_if3,
    ebb_serial_find_named_ebb_if4, ebb_serial_find_named_ebb_if5, ebb_serial_find_named_ebb_if6,
    ebb_serial_find_named_ebb_if7, ebb_serial_find_named_ebb_if8, pyeval]
  exact C19.ite_hitL ..

/-- **`find_named_ebb` (legacy layer).**  For every key (`None` or a string) and every enumeration, the regenerated
function returns what the hand model `C19.Legacy.findNamed` returns and touches nothing. -/
theorem find_named_ebb_bridge (fuel : Nat) (key : Option C19.Str) (ports : List C19.Port) (w : World NoObj)
    (hc : Enumerates w ports) :
    ebb_serial_find_named_ebb fuel (encOptStr key) w = .val (encOptStr (C19.Legacy.findNamed key ports)) w := by
  cases key with
  | none =>
    simp only [ebb_serial_find_named_ebb, ebb_serial_find_named_ebb_main, ebb_serial_find_named_ebb_if1, encOptStr,
      C19.Legacy.findNamed, pyeval]
  | some k =>
    obtain ⟨env', e⟩ := forLoop_find (fun (env : ebb_serial_find_named_ebb_Env) v => { env with port := v })
      ebb_serial_find_named_ebb_fbody1 fuel encPort
      (C19.hitL (C19.lower (C19.serK ++ k)) (C19.lower (C19.snrK ++ k)) (C19.lower ('(' :: (k ++ [')']))) (C19.lower k))
      (fun p => .str p.dev)
      (fun env => ∃ pv a b c, env = ⟨.str k, .str (C19.lower (C19.serK ++ k)), .str (C19.lower (C19.snrK ++ k)),
        .str (C19.lower ('(' :: (k ++ [')']))), .str (C19.lower k), .list (ports.map encPort), pv, a, b, c⟩) w
      (by rintro p _ ⟨pv, a, b, c, rfl⟩; exact ⟨_, ⟨_, _, _, _, rfl⟩, find_named_ebb_body ..⟩)
      ports _ ⟨.unbound, .unbound, .unbound, .unbound, rfl⟩
    simp only [ebb_serial_find_named_ebb, ebb_serial_find_named_ebb_main, ebb_serial_find_named_ebb_if1,
      ebb_serial_find_named_ebb_try1, ebb_serial_find_named_ebb_for1, encOptStr, C19.Legacy.findNamed,
      C19.Legacy.findLoop_eq, pyeval, try_comports _ _ _ _ _ _ hc, e]
    cases ports.find? _ <;> rfl

end C19Gen
end Plotink
