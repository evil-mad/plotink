import Plotink.Proofs.Ebb3Gen
import Plotink.Gen.EBB3_command

/-! # Bridge: regenerated `EBB3.command` = `Ebb3.run … (.command req)`

What `command` shares with `query` is stated once, generic in the record of locals of the method (`Lens`): the retry
loop (by induction on the passes left, one pass = one `SimK.read`) and the `try` block up to the reply (it ends with the
reply in `response`, or an I/O call raises with `response` still `''`).  From the bridge of `command` come the rules for
`self.command(text)` in a caller and the shape *guard → text → `self.command(text)`* (`cmdMethod_sim`). -/

namespace Plotink
namespace Ebb3Gen
open PyObj Gen
set_option linter.unusedVariables false

/-! ## the retry loop `while len(response) == 0 and n_retry_count < K: response = <read>; n_retry_count += 1` -/

section Retry
variable {σ : Type} (getR getN : σ → Val) (setR setN : σ → Val → σ)

def retryTest (K : Int) : Expr EBB3_Obj σ :=
  fun fuel env => and_ (app2 op_eq (app1 op_len (load (getR env))) (ok (.int 0)))
    (app2 op_lt (load (getN env)) (ok (.int K)))

def retryBody : Stmt EBB3_Obj σ :=
  block [
    assign setR (fun fuel env => readX),
    assign setN (fun fuel env => app2 op_add (load (getN env)) (ok (.int 1)))]

theorem retryTest_eval (K a : Int) (fuel : Nat) (env : σ) (s : List Char)
    (hR : getR env = .str s) (hN : getN env = .int a) :
    retryTest getR getN K fuel env = ok (.bool (s.isEmpty && decide (a < K))) := by
  unfold retryTest
  rw [hR, hN]
  have hlen : op_len (.str s) = .ok (.int s.length) := rfl
  have heq : op_eq (.int s.length) (.int 0) = .ok (.bool ((s.length : Int) == 0)) := rfl
  have hlt : op_lt (.int a) (.int K) = .ok (.bool (decide (a < K))) := rfl
  simp only [load_str, load_int, app1_ok, app2_ok, hlen, heq, hlt, ofP_ok, and_ok, truthy_bool]
  cases s with
  | nil => simp
  | cons c t =>
    have h2 : ((t.length : Int) + 1 == 0) = false := by rw [beq_eq_false_iff_ne]; omega
    simp [h2]

/-- the model's continuation after a read that gave `s` (already stripped) with `k` retries left -/
def restLoop (k : Nat) (s : List Char) : Ebb3.M Ebb3.Script (Option Ebb3.Str) :=
  if s.isEmpty then Ebb3.readLoop Ebb3.scriptDev k else pure (some s)

variable {getR getN setR setN} {S : EndRel} {fuel : Nat} {fs : List (Frame EBB3_Obj σ)}

theorem restLoop_stop {K k : Nat} {s : List Char} (h : (s.isEmpty && decide ((K : Int) - k < K)) = false) :
    restLoop k s = pure (some s) := by
  cases s with
  | cons c t => rfl
  | nil =>
    have : k = 0 := by
      simp only [List.isEmpty_nil, Bool.true_and, decide_eq_false_iff_not] at h
      omega
    subst this
    rfl

/-- the retry loop against `restLoop k s`, then `kont`: `k` of the `K` retries are left (`n_retry_count = K - k`), `s` is
the reply so far, `n` the passes the fuel allows -/
theorem SimK.retryLoop (L : Lens getR getN setR setN) (K k : Nat) (n : Nat) (hn : k + 1 ≤ n)
    (env : σ) (s : List Char) (hR : getR env = .str s) (hN : getN env = .int ((K : Int) - k))
    (w : World EBB3_Obj) (hp : w.obj.port = .port) (hg : Good w) {kont : Option Ebb3.Str → Ebb3.M Ebb3.Script Ebb3.Val}
    (hok : ∀ resp nrc w', Good w' → w'.obj.port = .port →
      SimK S fuel fs (.norm (setN (setR env (.str resp)) nrc) w') (kont (some resp) (absWorld w')))
    (hex : ∀ c nrc w', IoClass c → Good w' → w'.obj.port = .port →
      SimK S fuel fs (.exc c (setN (setR env (.str [])) nrc) w') (kont Option.none (absWorld w'))) :
    SimK S fuel fs (whileLoop (retryTest getR getN K) (retryBody getN setR setN) fuel n env w)
      ((restLoop k s >>= kont) (absWorld w)) := by
  induction k generalizing n env s w with
    -- both cases start alike: one pass with the test evaluated; where it fails the loop is over
    (obtain ⟨n, rfl⟩ : ∃ n', n = n' + 1 := ⟨n - 1, by omega⟩
     refine SimK.while_ (retryTest_eval getR getN K _ fuel env s hR hN) (fun ht => ?_) fun hf => by
       rw [restLoop_stop hf, ← L.eq_set hR rfl]
       exact hok s (getN env) w hg hp
     obtain ⟨rfl, ht⟩ : s = [] ∧ _ := ⟨List.isEmpty_iff.mp (Bool.and_eq_true_iff.mp ht).1, of_decide_eq_true (Bool.and_eq_true_iff.mp ht).2⟩)
  | zero => omega
  | succ k ih =>
    unfold retryBody
    rw [show restLoop (k + 1) [] = (Ebb3.portRead Ebb3.scriptDev >>= fun r => match r with
        | Option.none => pure Option.none
        | some l => restLoop k (Ebb3.strip l)) from rfl, M_bind_assoc]
    refine SimK.block ?_
    rw [assign_onRes]
    refine SimK.read hg hp (fun l w1 h1 => SimK.next ?_) fun c w1 hc h1 => ?_
    · rw [block_one, assign_of (v := .int ((K : Int) - k)) (w' := w1) (by
        simp only [L.getN_setR, hN, load_int, app2_ok, op_add, intOf, ofP_ok, ok_apply]; congr 3; omega)]
      refine SimK.again (ih n (by omega) _ (Ebb3.strip l) (L.getR_set _ _ _) (L.getN_setN _ _) w1 (h1.obj ▸ hp) h1.good
        (fun resp nrc w' => ?_) (fun c nrc w' => ?_))
      · rw [L.set_set]; exact hok resp nrc w'
      · rw [L.set_set]; exact hex c nrc w'
    · have := hex c (getN env) w1 hc h1.good (h1.obj ▸ hp)
      rwa [L.eq_set hR rfl] at this

end Retry

section Request
variable {σ : Type} (getC getR getN : σ → Val) (setName setR setN : σ → Val → σ)

/-- `if len(c) == 1: name = c[0]` / `elif c[1] == ',': name = c[0]` / `else: name = c[0:2]` -/
def nameStmt : Stmt EBB3_Obj σ :=
  ifte (fun fuel env => app2 op_eq (app1 op_len (load (getC env))) (ok (.int 1)))
    (assign setName (fun fuel env => app2 op_getitem (load (getC env)) (ok (.int 0))))
    (ifte (fun fuel env => app2 op_eq (app2 op_getitem (load (getC env)) (ok (.int 1))) (ok (.str [','])))
      (assign setName (fun fuel env => app2 op_getitem (load (getC env)) (ok (.int 0))))
      (assign setName (fun fuel env => app3 op_slice (load (getC env)) (ok (.int 0)) (ok (.int 2)))))

/-- the name selection is `Ebb3.cmdName`, including the `IndexError` on an empty text -/
theorem nameStmt_eval (fuel : Nat) (env : σ) (c : List Char) (hc : getC env = .str c) (w : World EBB3_Obj) :
    nameStmt getC setName fuel env w =
      (match Ebb3.cmdName c with
       | .ok name => .norm (setName env (.str name)) w
       | .error e => .exc (excOfEbb3 e) env w) := by
  unfold nameStmt
  match c with
  | [] =>
    simp only [ifte, assign, hc, load_str, ok_apply, app1_ok, app2_ok, op_len, op_eq, ofP_ok, pyEq, truthy_bool,
      List.length_nil, op_getitem, intOf, normIdx, Ebb3.cmdName]
    rfl
  | [x] =>
    simp only [ifte, assign, hc, load_str, ok_apply, app1_ok, app2_ok, op_len, op_eq, ofP_ok, pyEq, truthy_bool,
      List.length_cons, List.length_nil, op_getitem, intOf, normIdx, Ebb3.cmdName]
    rfl
  | x :: y :: rest =>
    have hlen : ((((x :: y :: rest).length : Nat) : Int) == 1) = false := by
      rw [beq_eq_false_iff_ne]; simp only [List.length_cons]; omega
    have h1 : op_getitem (.str (x :: y :: rest)) (.int 1) = .ok (.str [y]) := rfl
    have h0 : op_getitem (.str (x :: y :: rest)) (.int 0) = .ok (.str [x]) := rfl
    have hs : op_slice (.str (x :: y :: rest)) (.int 0) (.int 2) = .ok (.str [x, y]) := rfl
    simp only [ifte, assign, hc, load_str, ok_apply, app1_ok, app2_ok, app3_ok, op_len, op_eq, ofP_ok, pyEq, hlen,
      truthy_bool, Bool.false_eq_true, ↓reduceIte, h1, h0, hs, Ebb3.cmdName]
    by_cases hy : y = ','
    · subst hy
      simp
    · have : ([y] == [',']) = false := by simp [hy]
      simp [this, hy]

/-- the `try` block: `self.port.write((c + '\r').encode('ascii'))`, the first read, `n_retry_count = 0`, the retry
loop -/
def exchangeStmt (K : Int) : Stmt EBB3_Obj σ :=
  block [
    expr (fun fuel env => eff2 meth_write (getattr (·.port))
      (app2 meth_encode (app2 op_add (load (getC env)) (ok (.str ['\r']))) (ok ascii))),
    assign setR (fun fuel env => readX),
    assign setN (fun fuel env => ok (.int 0)),
    while_ (retryTest getR getN K) (retryBody getN setR setN)]

variable {getC getR getN setR setN} {S : EndRel} {fuel : Nat} {fs : List (Frame EBB3_Obj σ)}

/-- the `try` block of `command` / `query` up to the reply (`exchangeStmt`) against `exchange`, then `kont` -/
theorem SimK.exchange (L : Lens getR getN setR setN) (K : Nat) (hf : K + 1 ≤ fuel) (c : List Char)
    (hc : PyIO.isAscii c = true) (env : σ) (hC : getC env = .str c) (hR : getR env = .str [])
    (w : World EBB3_Obj) (hp : w.obj.port = .port) (hg : Good w) {kont : Option Ebb3.Str → Ebb3.M Ebb3.Script Ebb3.Val}
    (hok : ∀ resp nrc w', Good w' → w'.obj.port = .port →
      SimK S fuel fs (.norm (setN (setR env (.str resp)) nrc) w') (kont (some resp) (absWorld w')))
    (hex : ∀ cl nrc w', IoClass cl → Good w' → w'.obj.port = .port →
      SimK S fuel fs (.exc cl (setN (setR env (.str [])) nrc) w') (kont Option.none (absWorld w'))) :
    SimK S fuel fs (exchangeStmt getC getR getN setR setN K fuel env w)
      ((Ebb3.exchange Ebb3.scriptDev K c >>= kont) (absWorld w)) := by
  have hasc : PyIO.isAscii (c ++ ['\r']) = true := by rw [isAscii_append, hc]; rfl
  have hfail : ∀ cl w', IoClass cl → PortStep w w' →
      SimK S fuel fs (.exc cl env w') (kont Option.none (absWorld w')) := fun cl w' hcl h' => by
    have := hex cl (getN env) w' hcl h'.good (h'.obj ▸ hp)
    rwa [L.eq_set hR rfl] at this
  unfold exchangeStmt Ebb3.exchange
  rw [M_bind_assoc]
  refine SimK.block ?_
  rw [expr_onRes]
  refine SimK.writeK hg hp (by
      simp only [hC, load_str, app2_ok, op_add, ofP_ok, ascii, meth_encode, hasc, ↓reduceIte, eff2, PyObj.bind,
        getattr_port_open hp, ok_apply])
    (fun w1 h1 => SimK.next (SimK.block ?_)) fun cl w1 hcl h1 _ => hfail cl w1 hcl h1
  rw [assign_onRes]
  show SimK _ _ _ _ (((Ebb3.portRead Ebb3.scriptDev >>= fun r => match r with
      | Option.none => pure Option.none
      | some l => restLoop K (Ebb3.strip l)) >>= kont) (absWorld w1))
  rw [M_bind_assoc]
  refine SimK.read h1.good (h1.obj ▸ hp) (fun l w2 h2 => SimK.next ?_) fun cl w2 hcl h2 => hfail cl w2 hcl (h1.trans h2)
  rw [block_cons2, seq_assign_of (v := .int 0) (w' := w2) rfl, block_one]
  refine SimK.retryLoop L K K fuel hf _ _ (L.getR_set _ _ _) (by rw [L.getN_setN, Int.sub_self]) w2
    ((h1.trans h2).obj ▸ hp) h2.good (fun resp nrc w' => ?_) fun cl nrc w' => ?_
  · rw [L.set_set]; exact hok resp nrc w'
  · rw [L.set_set]; exact hex cl nrc w'

end Request

section Command

/-- `name.lower() not in ["rb", "r", "bl"]`, the test of the `except` clauses of `command` and `query` -/
theorem ignoreTest_eval (name : List Char) : (app2 op_not_in (app1 meth_lower (load (.str name)))
      (mkList [ok (.str ['r', 'b']), ok (.str ['r']), ok (.str ['b', 'l'])]) : Eff EBB3_Obj)
      = ok (.bool (!([['r', 'b'], ['r'], ['b', 'l']].contains (Ebb3.lower name)))) := by
  simp only [load_str, app1_ok, meth_lower, ofP_ok, mkList, evalList_cons_ok, evalList_nil, app2_ok, op_not_in, op_in,
    List.any_cons, List.any_nil, pyEq, Bool.or_false, truthy_bool, List.contains_cons, List.contains_nil]

theorem cmd_lens : Lens (σ := EBB3_command_Env) (·.response) (·.n_retry_count)
    (fun env v => { env with response := v }) (fun env v => { env with n_retry_count := v }) := by
  constructor <;> intros <;> rfl

theorem cmd_test1_eq : EBB3_command_test1 = retryTest (σ := EBB3_command_Env) (·.response) (·.n_retry_count) 25 := rfl
theorem cmd_body1_eq : EBB3_command_body1 = retryBody (σ := EBB3_command_Env) (·.n_retry_count)
    (fun env v => { env with response := v }) (fun env v => { env with n_retry_count := v }) := rfl

theorem srcRetryCmd : Ebb3.srcParams.retryCmd = 25 := rfl
theorem srcIgnoreCmd : Ebb3.srcParams.ignoreCmd = [['r', 'b'], ['r'], ['b', 'l']] := by decide

theorem cmd_if2 (fuel : Nat) (env : EBB3_command_Env) (c : List Char) (hc : env.cmd = .str c) (w : World EBB3_Obj) :
    EBB3_command_if2 fuel env w =
      (match Ebb3.cmdName c with
       | .ok name => .norm { env with cmd_name := .str name } w
       | .error e => .exc (excOfEbb3 e) env w) :=
  nameStmt_eval (σ := EBB3_command_Env) (·.cmd) (fun env v => { env with cmd_name := v }) fuel env c hc w

/-- `error_msg = …` of the "reply does not start with the name" branch -/
theorem cmd_if5 (fuel : Nat) (env : EBB3_command_Env) (c resp : List Char) (hc : env.cmd = .str c)
    (hr : env.response = .str resp) (w : World EBB3_Obj) :
    EBB3_command_if5 fuel env w =
      .norm { env with error_msg := .str (if resp.isEmpty then Ebb3.Msg.cmdTimeout c else Ebb3.Msg.cmdUnexpected c resp) } w := by
  obtain ⟨cmd, cmd_name, response, nrc, emsg⟩ := env
  simp only at hc hr
  subst hc hr
  unfold EBB3_command_if5 Ebb3.Msg.cmdTimeout Ebb3.Msg.cmdUnexpected
  rw [String.toList_ofList, String.toList_ofList, String.toList_ofList]
  simp only [ifte, assign, load_str, ok_apply, truthy_str, fstr, evalList_cons_ok, evalList_nil, app2_ok_left, bind_ok,
    op_add, ofP_ok]
  cases resp with
  | nil =>
    simp only [List.isEmpty_nil, Bool.not_true, Bool.false_eq_true, ↓reduceIte, flatten_strs2]
  | cons a t =>
    simp only [List.isEmpty_cons, Bool.not_false, ↓reduceIte, Bool.false_eq_true, flatten_strs4,
      List.cons_append, List.nil_append, List.append_assoc]

theorem cmd_try1_eq : EBB3_command_try1 = seq (exchangeStmt (σ := EBB3_command_Env) (·.cmd) (·.response)
    (·.n_retry_count) (fun env v => { env with response := v }) (fun env v => { env with n_retry_count := v })
    ((25 : Nat) : Int)) EBB3_command_if4 := by
  unfold EBB3_command_try1 exchangeStmt
  simp only [block_cons2, block_one, seq_assoc]
  rfl

/-- `if 'Err:' in response: …record_error…`, then `return bool(self.err is None)` -/
theorem cmd_tail (fuel : Nat) (c resp : List Char) (cn nrc em : Val) (w : World EBB3_Obj) (hg : Good w) :
    SimK Sim fuel [] (block [EBB3_command_if7,
        return_ (fun _ _ => app1 b_bool (app1 op_is_none (getattr (·.err))))] fuel ⟨.str c, cn, .str resp, nrc, em⟩ w)
      (((if Ebb3.hasErr resp then Ebb3.recordError (Ebb3.Msg.cmdErr c resp) else pure ()) >>= fun _ => Ebb3.errIsNone)
        (absWorld w)) := by
  unfold EBB3_command_if7
  refine SimK.block (SimK.errIf EBB3_command_Env.error_msg (fun env v => { env with error_msg := v }) (fun _ _ => rfl)
    (fun _ => rfl) hg _ _ ?_ (fun _ => assign_of ?_) rfl fun em w1 hg1 _ => SimK.next ?_)
  · simp only [load_str, app2_ok, op_in_Err, ofP_ok]
  · unfold Ebb3.Msg.cmdErr
    rw [String.toList_ofList, String.toList_ofList]
    simp only [load_str, fstr, evalList_cons_ok, evalList_nil, app2_ok_left, bind_ok, op_add, ofP_ok,
      flatten_strs4, List.cons_append, List.nil_append, List.append_assoc, ok_apply]
  · rw [block_one, errIsNone_sim w1 hg1.obj, return_of (v := .bool (isNone w1.obj.err)) (w' := w1) (by
      simp only [app1, PyObj.bind, getattr_err w1 hg1.obj, ofP, op_is_none, b_bool, ok, truthy_bool])]
    exact SimK.done (v := .bool _) hg1

theorem command_bridge (fuel : Nat) (hf : 26 ≤ fuel) (req : Option Ebb3.Str)
    (hasc : ∀ s, req = some s → PyIO.isAscii (Ebb3.strip s) = true) (w : World EBB3_Obj) (hg : Good w) :
    Sim (EBB3_command fuel (encReq req) w)
      (Ebb3.run Ebb3.srcParams Ebb3.scriptDev (.command req) (absWorld w)) := by
  unfold EBB3_command EBB3_command_main EBB3_command_if1
  rw [block_cons2]
  refine SimK.guarded3 (.bool false) EBB3_command_Env.cmd req rfl hg (Ebb3.commandBody Ebb3.srcParams Ebb3.scriptDev) rfl
    fun s hs hb => ?_
  subst hs
  have hp : w.obj.port = .port := not_blocked_port _ hg.obj hb
  rw [block_cons2, seq_assign_of (v := .str (Ebb3.strip s)) (w' := w) (by
    simp only [encReq, load_str, app1_ok, meth_strip, ofP_ok, ok_apply])]
  show SimK _ _ _ _ (Ebb3.commandCore Ebb3.srcParams Ebb3.scriptDev (Ebb3.strip s) (absWorld w))
  unfold Ebb3.commandCore
  refine SimK.block ?_
  rw [cmd_if2 fuel _ (Ebb3.strip s) rfl w]
  cases hname : Ebb3.cmdName (Ebb3.strip s) with
  | error e => exact SimK.raised hg
  | ok name =>
    refine SimK.next ?_
    rw [block_cons2, seq_assign_of (v := .str []) (w' := w) rfl, srcRetryCmd]
    refine SimK.block (SimK.try_ ?_)
    rw [cmd_try1_eq]
    refine SimK.seq (SimK.exchange (getC := EBB3_command_Env.cmd) cmd_lens 25 hf (Ebb3.strip s) (hasc s rfl) _ ?_ ?_ w hp hg
      (fun resp nrc w1 hg1 hp1 => SimK.next ?_) fun cl nrc w1 hcl hg1 hp1 => SimK.skip ?_)
    · rfl
    · rfl
    · -- a reply: judged inside the `try`
      unfold EBB3_command_if4 Ebb3.commandJudge
      rw [M_bind_assoc]
      refine SimK.errIf EBB3_command_Env.error_msg (fun env v => { env with error_msg := v }) (fun _ _ => rfl) (fun _ => rfl) hg1
        (!Ebb3.startsWith name resp)
        (if resp.isEmpty then Ebb3.Msg.cmdTimeout (Ebb3.strip s) else Ebb3.Msg.cmdUnexpected (Ebb3.strip s) resp)
        ?_ (fun _ => cmd_if5 fuel _ (Ebb3.strip s) resp rfl rfl w1) ?_
        fun em w2 hg2 _ => SimK.leave (SimK.next (cmd_tail fuel _ resp _ _ _ w2 hg2))
      · simp only [load_str, app2_ok, meth_startswith, ofP_ok, not_ok, truthy_bool]
      · cases Ebb3.startsWith name resp <;> cases resp <;> rfl
    · -- a fault: the handler
      unfold EBB3_command_handlers1 EBB3_command_if6 Ebb3.commandJudge
      refine SimK.caught hcl (SimK.errIf EBB3_command_Env.error_msg (fun env v => { env with error_msg := v }) (fun _ _ => rfl)
        (fun _ => rfl) hg1 (!Ebb3.srcParams.ignoreCmd.contains (Ebb3.lower name)) (Ebb3.Msg.cmdUsb (Ebb3.strip s))
        ?_ (fun _ => assign_of ?_) ?_ fun em w2 hg2 _ => SimK.next (cmd_tail fuel _ [] _ _ _ w2 hg2))
      · simp only [ignoreTest_eval, srcIgnoreCmd]
      · unfold Ebb3.Msg.cmdUsb
        rw [String.toList_ofList]
        simp only [load_str, fstr, evalList_cons_ok, evalList_nil, flatten_strs2, ok_apply]
      · cases Ebb3.srcParams.ignoreCmd.contains (Ebb3.lower name) <;> rfl

theorem mem_rstrip {x : Char} : ∀ {s : List Char}, x ∈ Ebb3.rstrip s → x ∈ s := by
  intro s
  induction s with
  | nil => intro h; simp [Ebb3.rstrip] at h
  | cons c cs ih =>
    intro h
    unfold Ebb3.rstrip at h
    split at h
    · split at h
      · simp at h
      · simp only [List.mem_singleton] at h; subst h; exact List.mem_cons_self
    · next r hr =>
      rcases List.mem_cons.mp h with rfl | h'
      · exact List.mem_cons_self
      · exact List.mem_cons_of_mem _ (ih h')

theorem isAscii_strip (s : List Char) (h : PyIO.isAscii s = true) : PyIO.isAscii (Ebb3.strip s) = true := by
  unfold PyIO.isAscii at h ⊢
  rw [List.all_eq_true] at h ⊢
  intro x hx
  exact h x ((List.dropWhile_sublist _).subset (mem_rstrip hx))

theorem command_bridge_ascii (fuel : Nat) (hf : 26 ≤ fuel) (req : Option Ebb3.Str)
    (hasc : ∀ s, req = some s → PyIO.isAscii s = true) (w : World EBB3_Obj) (hg : Good w) :
    Sim (EBB3_command fuel (encReq req) w)
      (Ebb3.run Ebb3.srcParams Ebb3.scriptDev (.command req) (absWorld w)) :=
  command_bridge fuel hf req (fun s hs => isAscii_strip s (hasc s hs)) w hg

end Command

section Callers
variable {σ : Type} {S : EndRel} {fuel : Nat} {fs : List (Frame EBB3_Obj σ)} {env : σ} {w : World EBB3_Obj}
  {F : Val → World EBB3_Obj → Flow EBB3_Obj σ} {e : Eff EBB3_Obj} {text : List Char}

/-- `self.command(text)` where a statement consumes its result -/
theorem SimK.command (hf : 26 ≤ fuel) (hg : Good w) {k : Ebb3.Val → Ebb3.M Ebb3.Script Ebb3.Val} (he : e = ok (.str text))
    (hasc : PyIO.isAscii text = true)
    (hk : ∀ v w1, Good w1 → (Ebb3.commandP Ebb3.srcParams Ebb3.scriptDev (some text)).run (absWorld w) = (.ok v, absWorld w1) →
      SimK S fuel fs (F (encVal v) w1) (k v (absWorld w1))) (hfs : noCatch fs = true := by rfl)
    (hS : SimIn S := by exact id) :
    SimK S fuel fs (onRes env F (mcall1 (EBB3_command fuel) e w))
      (((Ebb3.commandP Ebb3.srcParams Ebb3.scriptDev (some text)).run >>= k) (absWorld w)) :=
  SimK.call (command_bridge_ascii fuel hf (some text) (fun _ hs => Option.some.inj hs ▸ hasc) w hg) (by rw [he]; rfl)
    (fun v w1 hg1 hr _ => hk v w1 hg1 hr) hfs hS

/-- `self.command(text)` with the result dropped, against the model's `cmd_` -/
theorem SimK.cmd (hf : 26 ≤ fuel) (hg : Good w) {k : Ebb3.M Ebb3.Script Ebb3.Val} (he : e = ok (.str text))
    (hasc : PyIO.isAscii text = true) (hk : ∀ v w1, Good w1 → SimK S fuel fs (F v w1) (k (absWorld w1)))
    (hfs : noCatch fs = true := by rfl) (hS : SimIn S := by exact id) :
    SimK S fuel fs (onRes env F (mcall1 (EBB3_command fuel) e w))
      ((Ebb3.cmd_ Ebb3.srcParams Ebb3.scriptDev text >>= fun _ => k) (absWorld w)) := by
  unfold Ebb3.cmd_
  rw [← bind_via ()]
  exact SimK.command hf hg he hasc (fun v w1 hg1 _ => hk _ w1 hg1) hfs hS

/-- **the shape guard → text → `self.command(text)`**: such a method is the model's `cmdP text`.  `rest` is the body
after the guard: the call itself (`hrest := rfl`), or statements that compute the text into the locals in front of it
(`hrest := seq_norm …`) -/
theorem cmdMethod_sim (hf : 26 ≤ fuel) (hasc : PyIO.isAscii text = true) (hg : Good w) {rest : Stmt EBB3_Obj σ}
    {env' : σ} {t : Expr EBB3_Obj σ}
    (hrest : rest fuel env w = expr (fun fuel env => mcall1 (EBB3_command fuel) (t fuel env)) fuel env' w)
    (ht : t fuel env' = ok (.str text)) :
    Sim (PyObj.run (seq (ifte guard2E (return_ (fun _ _ => ok .none)) pass) rest) fuel env w)
      ((Ebb3.cmdP Ebb3.srcParams Ebb3.scriptDev text).run (absWorld w)) := by
  refine SimK.guarded .none hg fun _ => ?_
  rw [hrest, expr_onRes]
  exact SimK.cmd hf hg ht hasc fun _ w1 hg1 => SimK.fellOff hg1

end Callers

end Ebb3Gen
end Plotink
