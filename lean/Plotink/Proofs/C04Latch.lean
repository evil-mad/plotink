import Plotink.Proofs.Ebb3Rel
/-!
How a computation of `M` runs (`bind_ok`, `bind_inv`, …: what the proofs execute method bodies with); the guard
(`Prog.run_cases`; `run_blocked`: a blocked request method returns the value of its table entry and leaves the world
alone); and the two predicates behind C04, "a recorded error is kept" (`KeepsErr`) and "no I/O" (`NoIO`): each is
closed under the constructors of `Proofs/Ebb3Rel.lean` (`keepsErrRel`, `noIOSt`), so the first holds of every public
method (`run_keepsErr`) and the second of the helpers and `disconnect` (`run_noIO`).  Core Lean only.
-/
namespace Plotink
namespace Ebb3
open M

variable {σ : Type} {α β : Type}

@[simp] theorem pure_apply (a : α) (w : World σ) : (Pure.pure a : M σ α) w = (.ok a, w) := rfl
@[simp] theorem ret_apply (a : α) (w : World σ) : (M.ret a : M σ α) w = (.ok a, w) := rfl
@[simp] theorem raise_apply (e : PyExc) (w : World σ) : (M.raise e : M σ α) w = (.error e, w) := rfl
@[simp] theorem getSt_apply (w : World σ) : (getSt : M σ St) w = (.ok w.st, w) := rfl
@[simp] theorem modifySt_apply (f : St → St) (w : World σ) :
    (modifySt f : M σ Unit) w = (.ok (), { w with st := f w.st }) := rfl
theorem errIsNone_apply (w : World σ) : (errIsNone : M σ Val) w = (.ok (.bool w.st.err.isNone), w) := rfl

theorem bind_apply (x : M σ α) (f : α → M σ β) (w : World σ) :
    (x >>= f) w = match x w with
      | (.ok a, w') => f a w'
      | (.error e, w') => (.error e, w') := rfl

theorem bind_ok {x : M σ α} {f : α → M σ β} {w w' : World σ} {a : α} (h : x w = (.ok a, w')) :
    (x >>= f) w = f a w' := by
  simp [bind_apply, h]

theorem bind_error {x : M σ α} {f : α → M σ β} {w w' : World σ} {e : PyExc} (h : x w = (.error e, w')) :
    (x >>= f) w = (.error e, w') := by
  simp [bind_apply, h]

theorem ok_inv {a v : α} {w w' : World σ}
    (h : ((.ok a, w) : Except PyExc α × World σ) = (.ok v, w')) : a = v ∧ w = w' := by
  injection h with h1 h2
  injection h1 with h1
  exact ⟨h1, h2⟩

theorem bind_inv {x : M σ α} {f : α → M σ β} {w w' : World σ} {b : β}
    (h : (x >>= f) w = (.ok b, w')) : ∃ a w1, x w = (.ok a, w1) ∧ f a w1 = (.ok b, w') := by
  rw [bind_apply] at h
  rcases hx : x w with ⟨r, w1⟩
  rw [hx] at h
  cases r with
  | ok a => exact ⟨a, w1, rfl, h⟩
  | error e => simp at h

@[simp] theorem ofOption_some (e : PyExc) (a : α) (w : World σ) :
    (ofOption e (some a) : M σ α) w = (.ok a, w) := rfl
@[simp] theorem ofOption_none (e : PyExc) (w : World σ) :
    (ofOption e (Option.none : Option α) : M σ α) w = (.error e, w) := rfl

theorem guardM_blocked (fv : Val) (body : M σ Val) (w : World σ) (h : w.st.blocked = true) :
    guardM fv body w = (.ok fv, w) := by
  simp [guardM, h]

theorem guardM_open (fv : Val) (body : M σ Val) (w : World σ) (h : w.st.blocked = false) :
    guardM fv body w = body w := by
  simp [guardM, h]

theorem Prog.run_blocked (p : Prog σ) (fv : Val) (hg : p.guard = some fv) (w : World σ)
    (h : w.st.blocked = true) : p.run w = (.ok fv, w) := by
  simp [Prog.run, hg, guardM_blocked _ _ _ h]

theorem Prog.run_open (p : Prog σ) (fv : Val) (hg : p.guard = some fv) (w : World σ)
    (h : w.st.blocked = false) : p.run w = p.body w := by
  simp [Prog.run, hg, guardM_open _ _ _ h]

theorem Prog.run_cases (p : Prog σ) (fv : Val) (hg : p.guard = some fv) (w : World σ) :
    p.run w = (.ok fv, w) ∨ (w.st.blocked = false ∧ p.run w = p.body w) := by
  cases hb : w.st.blocked
  · exact Or.inr ⟨rfl, Prog.run_open p fv hg w hb⟩
  · exact Or.inl (Prog.run_blocked p fv hg w hb)

theorem blocked_of_err {st : St} {e : Str} (h : st.err = some e) : st.blocked = true := by
  simp [St.blocked, h]

theorem blocked_of_noport {st : St} (h : st.port = false) : st.blocked = true := by
  simp [St.blocked, h]

theorem blocked_false_iff {st : St} : st.blocked = false ↔ st.port = true ∧ st.err = Option.none := by
  cases hp : st.port <;> cases he : st.err <;> simp [St.blocked, hp, he]

theorem prog_guard (P : Params) (D : Device σ) (c : Call) : (prog P D c).guard = guardOf c.method := by
  cases c <;> rfl

theorem Method.mem_all (m : Method) : m ∈ Method.all := by
  cases m <;> decide

theorem request_guarded_all : ∀ m ∈ Method.all, m.isRequest = true → (guardOf m).isSome = true := by
  decide

/-- the six methods that are not request methods -/
theorem Method.not_request {m : Method} (h : ¬ m.isRequest = true) :
    m.isHelper = true ∨ m = .connect ∨ m = .disconnect := by
  unfold Method.isRequest at h
  cases hh : m.isHelper
  · by_cases h1 : m = .connect
    · exact Or.inr (Or.inl h1)
    · by_cases h2 : m = .disconnect
      · exact Or.inr (Or.inr h2)
      · simp [hh, h1, h2] at h
  · exact Or.inl rfl

def blockedVal (m : Method) : Val := (guardOf m).getD .none

theorem guardOf_request (m : Method) (h : m.isRequest = true) : guardOf m = some (blockedVal m) := by
  have := request_guarded_all m (Method.mem_all m) h
  unfold blockedVal
  cases hg : guardOf m with
  | none => rw [hg] at this; cases this
  | some v => rfl

theorem run_blocked (P : Params) (D : Device σ) (c : Call) (hc : c.method.isRequest = true)
    (w : World σ) (h : w.st.blocked = true) : run P D c w = (.ok (blockedVal c.method), w) := by
  unfold run
  exact Prog.run_blocked _ _ (by rw [prog_guard, guardOf_request _ hc]) w h

def KeepsErr (x : M σ α) : Prop := ∀ (w : World σ) (e : Str), w.st.err = some e → (x w).2.st.err = some e

theorem KeepsErr.pure (a : α) : KeepsErr (Pure.pure a : M σ α) := fun _ _ h => h
theorem KeepsErr.raise (e : PyExc) : KeepsErr (M.raise e : M σ α) := fun _ _ h => h
theorem KeepsErr.getSt : KeepsErr (getSt : M σ St) := fun _ _ h => h

theorem KeepsErr.bind {x : M σ α} {f : α → M σ β} (hx : KeepsErr x) (hf : ∀ a, KeepsErr (f a)) :
    KeepsErr (x >>= f) := by
  intro w e h
  have h1 := hx w e h
  rw [bind_apply]
  rcases hxw : x w with ⟨r, w'⟩
  rw [hxw] at h1
  cases r with
  | ok a => exact hf a w' e h1
  | error _ => exact h1

theorem KeepsErr.modifySt {f : St → St} (hf : ∀ st, (f st).err = st.err) : KeepsErr (modifySt f : M σ Unit) := by
  intro w e h
  simp [hf, h]

theorem KeepsErr.recordError (msg : Str) : KeepsErr (recordError msg : M σ Unit) := by
  intro w e h
  simp [Ebb3.recordError, recordErrorSt, h]

theorem KeepsErr.disconnectM : KeepsErr (disconnectM : M σ Unit) :=
  KeepsErr.modifySt (fun _ => rfl)

theorem KeepsErr.portWrite (D : Device σ) (t : Str) : KeepsErr (portWrite D t) := fun _ _ h => h
theorem KeepsErr.portRead (D : Device σ) : KeepsErr (portRead D) := fun _ _ h => h
theorem KeepsErr.portReset (D : Device σ) : KeepsErr (portReset D) := fun _ _ h => h

theorem KeepsErr.ite {c : Prop} [Decidable c] {x y : M σ α} (hx : KeepsErr x) (hy : KeepsErr y) :
    KeepsErr (if c then x else y) := by
  split <;> assumption

theorem KeepsErr.guardM {fv : Val} {body : M σ Val} (hb : KeepsErr body) : KeepsErr (guardM fv body) := by
  intro w e h
  unfold Ebb3.guardM
  split
  · exact h
  · exact hb w e h

theorem KeepsErr.guarded (p : Prog σ) (fv : Val) (hg : p.guard = some fv) : KeepsErr p.run := by
  intro w e h
  rw [Prog.run_blocked p fv hg w (blocked_of_err h)]
  exact h

/-- `KeepsErr` as a relation that ignores its second argument -/
def keepsErrSt (σ : Type) : StRel σ σ where
  R x _ := KeepsErr x
  pure := KeepsErr.pure
  raise := KeepsErr.raise
  bind hx hf := KeepsErr.bind hx hf
  getSt := KeepsErr.getSt
  recordError := KeepsErr.recordError
  setAttr _ := KeepsErr.modifySt

def keepsErrRel (D : Device σ) : DevRel D D where
  toStRel := keepsErrSt σ
  write := KeepsErr.portWrite D
  read := KeepsErr.portRead D
  reset := KeepsErr.portReset D

theorem KeepsErr.setVersion (v : Str) : KeepsErr (setVersion v : M σ Unit) := (keepsErrSt σ).setVersion v

theorem run_keepsErr (P : Params) (D : Device σ) (c : Call) : KeepsErr (run P D c) :=
  (keepsErrRel D).run P c

theorem finalWorld_err (P : Params) (D : Device σ) (cs : List Call) (w : World σ) (e : Str)
    (h : w.st.err = some e) : (finalWorld P D cs w).st.err = some e := by
  induction cs generalizing w with
  | nil => exact h
  | cons c cs ih => exact ih _ (run_keepsErr P D c w e h)

theorem finalWorld_append (P : Params) (D : Device σ) (as bs : List Call) (w : World σ) :
    finalWorld P D (as ++ bs) w = finalWorld P D bs (finalWorld P D as w) := by
  induction as generalizing w with
  | nil => rfl
  | cons a as ih => exact ih _

def NoIO (x : M σ α) : Prop :=
  ∀ w : World σ, (x w).2.dev = w.dev ∧ (x w).2.out = w.out ∧ (x w).2.nreads = w.nreads

theorem NoIO.pure (a : α) : NoIO (Pure.pure a : M σ α) := fun _ => ⟨rfl, rfl, rfl⟩
theorem NoIO.raise (e : PyExc) : NoIO (M.raise e : M σ α) := fun _ => ⟨rfl, rfl, rfl⟩
theorem NoIO.getSt : NoIO (getSt : M σ St) := fun _ => ⟨rfl, rfl, rfl⟩
theorem NoIO.modifySt (f : St → St) : NoIO (modifySt f : M σ Unit) := fun _ => ⟨rfl, rfl, rfl⟩
theorem NoIO.recordError (m : Str) : NoIO (recordError m : M σ Unit) := fun _ => ⟨rfl, rfl, rfl⟩
theorem NoIO.disconnectM : NoIO (disconnectM : M σ Unit) := fun _ => ⟨rfl, rfl, rfl⟩

theorem NoIO.bind {x : M σ α} {f : α → M σ β} (hx : NoIO x) (hf : ∀ a, NoIO (f a)) : NoIO (x >>= f) := by
  intro w
  have h1 := hx w
  rw [bind_apply]
  rcases hxw : x w with ⟨r, w'⟩
  rw [hxw] at h1
  cases r with
  | ok a =>
    have h2 := hf a w'
    exact ⟨h2.1.trans h1.1, h2.2.1.trans h1.2.1, h2.2.2.trans h1.2.2⟩
  | error _ => exact h1

theorem NoIO.ite {c : Prop} [Decidable c] {x y : M σ α} (hx : NoIO x) (hy : NoIO y) : NoIO (if c then x else y) := by
  split <;> assumption

theorem NoIO.out_eq {x : M σ α} (h : NoIO x) (w : World σ) : (x w).2.out = w.out := (h w).2.1

/-- `NoIO` as a relation that ignores its second argument -/
def noIOSt (σ : Type) : StRel σ σ where
  R x _ := NoIO x
  pure := NoIO.pure
  raise := NoIO.raise
  bind hx hf := NoIO.bind hx hf
  getSt := NoIO.getSt
  recordError := NoIO.recordError
  setAttr f _ := NoIO.modifySt f

theorem run_noIO (P : Params) (D : Device σ) (c : Call)
    (hc : c.method.isHelper = true ∨ c.method = .disconnect) : NoIO (run P D c) :=
  (noIOSt σ).run_helper P (D₁ := D) (D₂ := D) c hc

end Ebb3
end Plotink
