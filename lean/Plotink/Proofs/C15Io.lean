import Plotink.Proofs.C15Version
/-! # C15 — the identification handshake as a function of the device script (core Lean only) -/
namespace Plotink.C15

theorem getD_drop_one {α} (l : List α) (i : Nat) (d : α) : (l.drop 1).getD i d = l.getD (i + 1) d := by
  cases l <;> simp

theorem open_eq (io : Io) : io.open = (openAt io 0, { io with opens := io.opens.drop 1 }) := by
  unfold Io.open openAt
  cases h : io.opens <;> simp
  cases io; simp_all

theorem write_eq (io : Io) (b : Str) :
    io.write b = (decide (wrAt io 0 = .raise),
      { io with writes := io.writes.drop 1,
                written := if wrAt io 0 = .raise then io.written else io.written ++ [b] }) := by
  unfold Io.write wrAt
  cases h : io.writes with
  | nil => simp
  | cons w r => cases w <;> simp

theorem read_eq (io : Io) :
    io.read = (if rdAt io 0 = .raise then none else some (rdAt io 0).raw,
      { io with reads := io.reads.drop 1 }) := by
  unfold Io.read rdAt
  cases h : io.reads with
  | nil => cases io; simp_all [Rd.raw]
  | cons w r => cases w <;> simp [Rd.raw]

theorem isEbb_eq (s : Str) : isEbb s = isInfix ebbTag s := by
  cases s with
  | nil => decide
  | cons c t => simp [isEbb]

theorem isEbb_raw (r : Rd) : isEbb (strip r.raw) = r.ebb := by
  rw [isEbb_eq]; rfl

/-- the script once the handshake has taken `nw` write outcomes and `nr` read outcomes, `k` probes having reached the
device -/
def hsIo (io : Io) (nw nr k : Nat) : Io :=
  { opens := io.opens.drop 1, reads := io.reads.drop nr, writes := io.writes.drop nw,
    written := io.written ++ List.replicate k vProbe }

/-- the handshake as a function of the five outcomes it can observe -/
def hsSpec (o : Bool) (w0 : Wr) (r0 : Rd) (w1 : Wr) (r1 : Rd) (io : Io) : Hs :=
  if o = false then ⟨false, true, false, [], hsIo io 0 0 0⟩
  else if w0 = .raise then ⟨false, true, true, [], hsIo io 1 0 0⟩
  else if r0 = .raise then ⟨false, true, true, [], hsIo io 1 1 1⟩
  else if r0.ebb = true then ⟨true, false, true, r0.text, hsIo io 1 1 1⟩
  else if w1 = .raise then ⟨false, true, true, r0.text, hsIo io 2 1 1⟩
  else if r1 = .raise then ⟨false, true, true, r0.text, hsIo io 2 2 2⟩
  else ⟨r1.ebb, false, true, r1.text, hsIo io 2 2 2⟩

theorem handshake_eq (io : Io) :
    handshake io = hsSpec (openAt io 0) (wrAt io 0) (rdAt io 0) (wrAt io 1) (rdAt io 1) io := by
  unfold handshake hsSpec
  rw [open_eq]
  cases ho : openAt io 0
  · simp [hsIo]
  · simp only [write_eq, read_eq, wrAt, rdAt]
    by_cases hw0 : io.writes.getD 0 Wr.ok = Wr.raise
    · simp [-List.getD_eq_getElem?_getD, hw0, hsIo]
    · by_cases hr0 : io.reads.getD 0 Rd.empty = Rd.raise
      · simp [-List.getD_eq_getElem?_getD, hw0, hr0, hsIo]
      · by_cases he0 : (io.reads.getD 0 Rd.empty).ebb = true
        · simp [-List.getD_eq_getElem?_getD, hw0, hr0, he0, hsIo, isEbb_raw, Rd.text]
        · by_cases hw1 : io.writes.getD 1 Wr.ok = Wr.raise
          · simp [-List.getD_eq_getElem?_getD, getD_tail, hw0, hr0, he0, hw1, hsIo, isEbb_raw, Rd.text]
          · by_cases hr1 : io.reads.getD 1 Rd.empty = Rd.raise
            · simp [-List.getD_eq_getElem?_getD, getD_tail, hw0, hr0, he0, hw1, hr1, hsIo, isEbb_raw, Rd.text]
            · simp [-List.getD_eq_getElem?_getD, getD_tail, hw0, hr0, he0, hw1, hr1, hsIo, isEbb_raw, Rd.text]

@[simp] theorem raise_ebb : Rd.raise.ebb = false := by decide +kernel
@[simp] theorem empty_ebb : Rd.empty.ebb = false := by decide +kernel

theorem hsSpec_identifies (o : Bool) (w0 : Wr) (r0 : Rd) (w1 : Wr) (r1 : Rd) (io : Io) (s : Str) :
    (o = true ∧ w0 = .ok ∧ ((r0.ebb = true ∧ s = r0.text) ∨
        (r0.ebb = false ∧ r0 ≠ .raise ∧ w1 = .ok ∧ r1.ebb = true ∧ s = r1.text))) ↔
      ((hsSpec o w0 r0 w1 r1 io).verified = true ∧ s = (hsSpec o w0 r0 w1 r1 io).sv) := by
  cases o
  · simp [hsSpec]
  cases w0
  case raise => simp [hsSpec]
  by_cases hr0 : r0 = .raise
  · subst hr0; simp [hsSpec]
  by_cases he0 : r0.ebb = true
  · simp [hsSpec, hr0, he0]
  cases w1
  case raise => simp [hsSpec, hr0, he0]
  by_cases hr1 : r1 = .raise
  · subst hr1; simp [hsSpec, hr0, he0]
  · simp [hsSpec, hr0, he0, hr1]

theorem identifies_iff (io : Io) (s : Str) :
    Identifies io s ↔ (handshake io).verified = true ∧ s = (handshake io).sv := by
  rw [handshake_eq]; exact hsSpec_identifies ..

theorem hs_verified_iff (io : Io) : (handshake io).verified = true ↔ ∃ s, Identifies io s :=
  ⟨fun h => ⟨_, (identifies_iff io _).mpr ⟨h, rfl⟩⟩, fun ⟨s, hs⟩ => ((identifies_iff io s).mp hs).1⟩

theorem hs_sv (io : Io) (s : Str) (h : Identifies io s) : (handshake io).sv = s :=
  ((identifies_iff io s).mp h).2.symm

theorem hsSpec_unverified (o : Bool) (w0 : Wr) (r0 : Rd) (w1 : Wr) (r1 : Rd) (io : Io) :
    (hsSpec o w0 r0 w1 r1 io).verified = false ↔
      o = false ∨ (w0 = .raise ∨ r0 = .raise ∨ (r0.ebb = false ∧ (w1 = .raise ∨ r1 = .raise))) ∨
        (r0.ebb = false ∧ r1.ebb = false) := by
  cases o
  · simp [hsSpec]
  cases w0
  case raise => simp [hsSpec]
  by_cases hr0 : r0 = .raise
  · simp [hsSpec, hr0]
  by_cases he0 : r0.ebb = true
  · simp [hsSpec, hr0, he0]
  cases w1
  case raise => simp [hsSpec, hr0, he0]
  by_cases hr1 : r1 = .raise
  · simp [hsSpec, hr0, he0, hr1]
  · simp [hsSpec, hr0, he0, hr1]

theorem hs_unverified_iff (io : Io) :
    (handshake io).verified = false ↔
      openAt io 0 = false ∨
        (wrAt io 0 = .raise ∨ rdAt io 0 = .raise ∨
          ((rdAt io 0).ebb = false ∧ (wrAt io 1 = .raise ∨ rdAt io 1 = .raise))) ∨
        ((rdAt io 0).ebb = false ∧ (rdAt io 1).ebb = false) := by
  rw [handshake_eq]; exact hsSpec_unverified ..

theorem hsSpec_flags (o : Bool) (w0 : Wr) (r0 : Rd) (w1 : Wr) (r1 : Rd) (io : Io) :
    ((hsSpec o w0 r0 w1 r1 io).verified = true → (hsSpec o w0 r0 w1 r1 io).raised = false) ∧
    (hsSpec o w0 r0 w1 r1 io).opened = o ∧
    ∃ k, k ≤ 2 ∧ (hsSpec o w0 r0 w1 r1 io).io.written = io.written ++ List.replicate k vProbe ∧
      (o = false → k = 0) := by
  cases o
  · exact ⟨nofun, rfl, 0, by decide, rfl, fun _ => rfl⟩
  cases w0
  case raise => exact ⟨nofun, rfl, 0, by decide, rfl, nofun⟩
  have h1 : ¬ true = false := nofun
  have h2 : ¬ Wr.ok = Wr.raise := nofun
  by_cases hr0 : r0 = .raise
  · subst hr0; exact ⟨nofun, rfl, 1, by decide, rfl, nofun⟩
  by_cases he0 : r0.ebb = true
  · rw [hsSpec, if_neg h1, if_neg h2, if_neg hr0, if_pos he0]
    exact ⟨fun _ => rfl, rfl, 1, by decide, rfl, nofun⟩
  cases w1
  case raise =>
    rw [hsSpec, if_neg h1, if_neg h2, if_neg hr0, if_neg he0, if_pos rfl]
    exact ⟨nofun, rfl, 1, by decide, rfl, nofun⟩
  by_cases hr1 : r1 = .raise
  · rw [hsSpec, if_neg h1, if_neg h2, if_neg hr0, if_neg he0, if_neg h2, if_pos hr1]
    exact ⟨nofun, rfl, 2, by decide, rfl, nofun⟩
  · rw [hsSpec, if_neg h1, if_neg h2, if_neg hr0, if_neg he0, if_neg h2, if_neg hr1]
    exact ⟨fun _ => rfl, rfl, 2, by decide, rfl, nofun⟩

theorem hs_flags (io : Io) (h : (handshake io).verified = true) :
    (handshake io).raised = false ∧ (handshake io).opened = true := by
  rw [handshake_eq] at h ⊢
  exact ⟨(hsSpec_flags ..).1 h, (hsSpec_flags ..).2.1.trans ((hsSpec_identifies _ _ _ _ _ _ _).mpr ⟨h, rfl⟩).1⟩

theorem hs_opened (io : Io) : (handshake io).opened = openAt io 0 := by
  rw [handshake_eq]; exact (hsSpec_flags ..).2.1

theorem replicate_prefix {α} (a : α) {k n : Nat} (h : k ≤ n) : List.replicate k a <+: List.replicate n a :=
  ⟨List.replicate (n - k) a, by rw [List.replicate_append_replicate, Nat.add_sub_cancel' h]⟩

theorem hs_written (io : Io) : ∃ k, k ≤ 2 ∧ (handshake io).io.written = io.written ++ List.replicate k vProbe ∧
    (openAt io 0 = false → k = 0) := by
  rw [handshake_eq]; exact (hsSpec_flags ..).2.2

end Plotink.C15
