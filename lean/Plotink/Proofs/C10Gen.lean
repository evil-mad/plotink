import Plotink.Gen.subdivideCubicPath
import Plotink.Proofs.PySeq
import Plotink.Proofs.PyEnc
import Plotink.Proofs.C09Gen
import Plotink.Proofs.C10Term

/-! # C10 — bridge: the source-regenerated `subdivideCubicPath` (+ `bezmisc.beziersplitatt`, `tpoint`) = the hand model

`Gen.subdivideCubicPath` (two nested `while True` loops on fuel: loop 2 inner, loop 1 outer) is regenerated from
`plotink/plot_utils.py`; `Gen.beziersplitatt` and `Gen.tpoint` from the *installed* `ink_extensions/bezmisc.py`.  Exact
arithmetic, all-`float` encoding (`encPt`, `encNode` = `[hin, p, hout]`, `encNodes`).

The model spends one unit of fuel per flatness test; the generated code one per pass of each loop, the inner loop
restarting from the outer loop's remaining fuel: any fuel above the model's suffices. -/

namespace Plotink
namespace C10
open Py Py.Val C09

def encPt (p : Pt) : Val := .tup [.flt p.1, .flt p.2]
def encNode (n : Node) : Val := .tup [encPt n.hin, encPt n.p, encPt n.hout]
def encNodes (l : List Node) : Val := .tup (l.map encNode)
def encCubic (c : Cubic) : Val := .tup [encPt c.p0, encPt c.p1, encPt c.p2, encPt c.p3]

theorem add_ex (p : Nat) (a b : Rat) : Py.add Rounding.exact p (.flt a) (.flt b) = .flt (a + b) := rfl
theorem sub_ex (p : Nat) (a b : Rat) : Py.sub Rounding.exact p (.flt a) (.flt b) = .flt (a - b) := rfl
theorem mul_ex (p : Nat) (a b : Rat) : Py.mul Rounding.exact p (.flt a) (.flt b) = .flt (a * b) := rfl

theorem tpoint_bridge (amb : Nat) (a b : Pt) (t : Rat) :
    Gen.tpoint Rounding.exact amb (encPt a) (encPt b) (.flt t) = encPt (tpoint a b t) := rfl

theorem split_bridge (amb : Nat) (c : Cubic) (t : Rat) :
    Gen.beziersplitatt Rounding.exact amb (encCubic c) (.flt t) =
      .tup [encCubic (splitAt c t).1, encCubic (splitAt c t).2] := by
  -- unpack the four points first: `rfl` on the whole would evaluate the six `tpoint`s on rationals
  have unpack : Gen.beziersplitatt Rounding.exact amb (encCubic c) (.flt t) =
      let m1 := Gen.tpoint Rounding.exact amb (encPt c.p0) (encPt c.p1) (.flt t)
      let m2 := Gen.tpoint Rounding.exact amb (encPt c.p1) (encPt c.p2) (.flt t)
      let m3 := Gen.tpoint Rounding.exact amb (encPt c.p2) (encPt c.p3) (.flt t)
      let m4 := Gen.tpoint Rounding.exact amb m1 m2 (.flt t)
      let m5 := Gen.tpoint Rounding.exact amb m2 m3 (.flt t)
      let m := Gen.tpoint Rounding.exact amb m4 m5 (.flt t)
      .tup [.tup [encPt c.p0, m1, m4, m], .tup [m, m5, m3, encPt c.p3]] := rfl
  simp only [unpack, tpoint_bridge]
  rfl

theorem add_one (p : Nat) (i : Nat) : Py.add Rounding.exact p (.int (i : Int)) (.int 1) = .int ((i + 1 : Nat) : Int) := rfl

theorem pit_cubic (amb : Nat) (c : Cubic) (flat : Rat) :
    Gen.points_in_tolerance Rounding.exact amb (encCubic c) (.flt flat) = encOptBool (isFlat c flat) := by
  exact points_in_tolerance_map (fun p => p) encPt enc_isFlt (fun _ => ⟨_, _, rfl, rfl, rfl⟩) amb [c.p0, c.p1, c.p2, c.p3] flat _ rfl

abbrev K2 := Val → Val → Val → Val → Val → Val → Loop (Val × Val × Val × Val × Val × Val)

section inner
variable (amb : Nat) (sp : List Node) (flat : Rat) (k : K2) (j0 j1 j2 j3 j4 : Val) (i : Nat)

theorem body2_ret (h : i ≥ sp.length) :
    Gen.subdivideCubicPath_body2 Rounding.exact amb (encNodes sp) (.flt flat) k j0 j1 j2 j3 j4 (.int (i : Int))
      = .ret (.tup [.none_, encNodes sp]) := by
  unfold Gen.subdivideCubicPath_body2
  simp only [encNodes, Py.len_map, Py.ge_int_int, Nat.cast_le, ge_iff_le.mp h, decide_true, if_true]

theorem body2_piece (h1 : 1 ≤ i) (hi : ¬ i ≥ sp.length) (a b : Node) (ha : sp[i - 1]? = some a) (hb : sp[i]? = some b) :
    Gen.subdivideCubicPath_body2 Rounding.exact amb (encNodes sp) (.flt flat) k j0 j1 j2 j3 j4 (.int (i : Int)) =
      if (!(Py.truthy (encOptBool (isFlat (pieceOf a b) flat)))) = true then
        .done (encPt a.p, encPt a.hout, encPt b.hin, encPt b.p, encCubic (pieceOf a b), .int (i : Int))
      else k (encPt a.p) (encPt a.hout) (encPt b.hin) (encPt b.p) (encCubic (pieceOf a b)) (.int ((i + 1 : Nat) : Int)) := by
  unfold Gen.subdivideCubicPath_body2
  simp only [encNodes, Py.len_map, Py.ge_int_int, Nat.cast_le, show ¬ sp.length ≤ i from hi, decide_false, Bool.false_eq_true, if_false,
    Py.sub_nat_one _ amb i h1, Py.index_map encNode ha, Py.index_map encNode hb, add_one]
  have e : (Val.tup [Py.getItem (encNode a) 1, Py.getItem (encNode a) 2, Py.getItem (encNode b) 0, Py.getItem (encNode b) 1])
      = encCubic (pieceOf a b) := rfl
  simp only [e, pit_cubic]
  rfl

end inner

/-- what the inner `while True` loop of the generated code does, in terms of the model: either the function returns
(no further split), or the loop is left by `break` at the first piece that is not flat -/
theorem inner_loop (amb : Nat) (flat : Rat) : ∀ (n f : Nat) (sp : List Node) (i : Nat) (r : List Node)
    (j0 j1 j2 j3 j4 : Val), n ≤ f → 1 ≤ i → subdivide flat n sp i = some r →
    Gen.subdivideCubicPath_loop2 Rounding.exact amb (encNodes sp) (.flt flat) f j0 j1 j2 j3 j4 (.int (i : Int))
        = .ret (.tup [.none_, encNodes r]) ∨
    ∃ (i' n' : Nat) (a b : Node), 1 ≤ i' ∧ i' < sp.length ∧ n' < n ∧ sp[i' - 1]? = some a ∧ sp[i']? = some b ∧
      subdivide flat n' (splitStep sp i' a b) i' = some r ∧
      Gen.subdivideCubicPath_loop2 Rounding.exact amb (encNodes sp) (.flt flat) f j0 j1 j2 j3 j4 (.int (i : Int))
        = .done (encPt a.p, encPt a.hout, encPt b.hin, encPt b.p, encCubic (pieceOf a b), .int (i' : Int)) := by
  intro n
  induction n with
  | zero => intro f sp i r j0 j1 j2 j3 j4 _ _ h; cases h
  | succ n ih =>
    intro f sp i r j0 j1 j2 j3 j4 hf h1 h
    obtain ⟨f', rfl⟩ : ∃ f', f = f' + 1 := ⟨f - 1, by omega⟩
    rw [Gen.subdivideCubicPath_loop2]
    rw [subdivide_succ] at h
    by_cases hi : i ≥ sp.length
    · rw [if_pos hi] at h
      cases h
      exact Or.inl (body2_ret amb sp flat _ j0 j1 j2 j3 j4 i hi)
    rw [if_neg hi] at h
    have hlt : i < sp.length := by omega
    obtain ⟨a, ha⟩ : ∃ a, sp[i - 1]? = some a := ⟨sp[i - 1], by rw [List.getElem?_eq_getElem (by omega)]⟩
    obtain ⟨b, hb⟩ : ∃ b, sp[i]? = some b := ⟨sp[i], by rw [List.getElem?_eq_getElem hlt]⟩
    rw [ha, hb] at h
    simp only at h
    rw [body2_piece amb sp flat _ j0 j1 j2 j3 j4 i h1 hi a b ha hb]
    cases hfl : isFlat (pieceOf a b) flat with
    | none => rw [hfl] at h; cases h
    | some fl =>
      rw [hfl] at h
      cases fl with
      | true =>
        simp only at h
        simp only [encOptBool, Py.truthy, Bool.not_true, Bool.false_eq_true, if_false]
        rcases ih f' sp (i + 1) r _ _ _ _ _ (by omega) (by omega) h with hr | ⟨i', n', a', b', q1, q2, q3, q4, q5, q6, q7⟩
        · exact Or.inl hr
        · exact Or.inr ⟨i', n', a', b', q1, q2, by omega, q4, q5, q6, q7⟩
      | false =>
        simp only at h
        simp only [encOptBool, Py.truthy, Bool.not_false, if_true]
        exact Or.inr ⟨i, n, a, b, h1, hlt, by omega, ha, hb, h, rfl⟩

abbrev K1 := Val → Val → Val → Val → Val → Val → Val → Val → Val → Val →
  Loop (Val × Val × Val × Val × Val × Val × Val × Val × Val × Val)

/-- the split part of the outer loop body: the two handle stores and the insertion are the model's `splitStep` -/
theorem split_store (amb : Nat) (sp : List Node) (i : Nat) (a b : Node) (h1 : 1 ≤ i) (hi : i < sp.length)
    (ha : sp[i - 1]? = some a) (hb : sp[i]? = some b) :
    let c := pieceOf a b
    let one := encCubic (splitAt c half).1
    let two := encCubic (splitAt c half).2
    let s1 := Py.setItem (encNodes sp) (Py.sub Rounding.exact amb (.int (i : Int)) (.int 1))
      (Py.setItem (Py.index (encNodes sp) (Py.sub Rounding.exact amb (.int (i : Int)) (.int 1))) (.int 2) (Py.getItem one 1))
    let s2 := Py.setItem s1 (.int (i : Int)) (Py.setItem (Py.index s1 (.int (i : Int))) (.int 0) (Py.getItem two 2))
    Py.setSlice s2 (.int (i : Int)) (.int 1) (.tup [.tup [Py.getItem one 2, Py.getItem one 3, Py.getItem two 1]])
      = encNodes (splitStep sp i a b) := by
  intro c one two s1 s2
  have e1 : s1 = encNodes (sp.set (i - 1) (splitL a b)) := by
    show Py.setItem _ (Py.sub _ _ _ _) _ = _
    rw [Py.sub_nat_one _ amb i h1]
    exact Py.modifyItem_map encNode ha (Py.setItem · (.int 2) (Py.getItem one 1)) _ rfl
  have e2 : s2 = encNodes ((sp.set (i - 1) (splitL a b)).set i (splitR a b)) := by
    show Py.setItem s1 _ (Py.setItem (Py.index s1 _) _ _) = _
    rw [e1]
    exact Py.modifyItem_map encNode ((List.getElem?_set_ne (by omega)).trans hb) (Py.setItem · (.int 0) (Py.getItem two 2)) _ rfl
  rw [e2, encNodes, show Val.int 1 = .int ((1 : Nat) : Int) from rfl, Py.setSlice_insert _ _ h1 (by simpa using hi.le),
    ← List.map_take, ← List.map_drop]
  simp only [splitStep, encNodes, List.map_append, List.map_cons, List.append_assoc, List.cons_append, List.nil_append]
  rfl

theorem half_lit : Val.flt ((1 : Rat) / 2) = Val.flt half := rfl

theorem outer_loop (amb : Nat) (flat : Rat) : ∀ (n F : Nat) (sp : List Node) (i : Nat) (r : List Node)
    (j0 j1 j2 j3 j4 j6 j7 j9 : Val), n ≤ F → 1 ≤ i → subdivide flat n sp i = some r →
    Gen.subdivideCubicPath_loop1 Rounding.exact amb (.flt flat) (F + 1) j0 j1 j2 j3 j4 (.int (i : Int)) j6 j7 (encNodes sp) j9
      = .ret (.tup [.none_, encNodes r]) := by
  intro n
  induction n using Nat.strong_induction_on with
  | _ n ih =>
    intro F sp i r j0 j1 j2 j3 j4 j6 j7 j9 hF h1 h
    rw [Gen.subdivideCubicPath_loop1]
    unfold Gen.subdivideCubicPath_body1
    rcases inner_loop amb flat n F sp i r j0 j1 j2 j3 j4 hF h1 h with hr | ⟨i', n', a, b, q1, q2, q3, q4, q5, q6, q7⟩
    · rw [hr]
    · rw [q7]
      simp only [half_lit, split_bridge, Py.unpackN_tup2, Py.getItem_cons_zero, Py.getItem_cons_succ]
      have hs := split_store amb sp i' a b q1 q2 q4 q5
      simp only at hs
      rw [hs]
      obtain ⟨F', rfl⟩ : ∃ F', F = F' + 1 := ⟨F - 1, by omega⟩
      exact ih n' q3 F' _ i' r _ _ _ _ _ _ _ _ (by omega) q1 q6

end C10
end Plotink
