import Plotink.Proofs.C06GenTop
import Plotink.Gen.ebb_motion_query_enable_motors
/-! # C06 over the regenerated code: legacy `query_enable_motors`

The helper sends five `PI` queries; after each it takes `result.split("PI,")[1]`, so a reply without the marker `PI,`
raises `IndexError` (caught by the bare `except`) and the remaining queries are not sent.  Under the hypothesis that each
of the five replies — as `ebb_serial.query` returns them on this script (`C07.query`) — contains the marker, exactly the
five documented queries are written. -/
namespace Plotink
namespace C06Gen
open PyObj Gen

/-- the reply contains the marker: `s.split("PI,")[1]` exists -/
def HasPI (s : List Char) : Prop :=
  ∃ x, op_getitem (.list ((splitSubGo ['P', 'I', ','] s [] 0).map Val.str)) (.int 1) = .ok (.str x)

/-- the replies to the queries `ts`, one after the other on the script of `p`, all contain the marker -/
def PIChain : List (List Char) → PyIO.Port → Prop
  | [], _ => True
  | t :: ts, p => (∃ s, (C07.query C07.std t p).1 = .ok (.str s) ∧ HasPI s) ∧ PIChain ts (C07.query C07.std t p).2

def piTexts : List (List Char) :=
  [['P', 'I', ',', 'E', ',', '0', '\r'], ['P', 'I', ',', 'C', ',', '1', '\r'], ['P', 'I', ',', 'E', ',', '2', '\r'],
   ['P', 'I', ',', 'E', ',', '1', '\r'], ['P', 'I', ',', 'A', ',', '6', '\r']]

theorem lit_PIE : "PI,E".toList = ['P', 'I', ',', 'E'] := by decide
theorem lit_PIC : "PI,C".toList = ['P', 'I', ',', 'C'] := by decide
theorem lit_PIA : "PI,A".toList = ['P', 'I', ',', 'A'] := by decide
theorem showInt_2 : Ebb3.showInt 2 = ['2'] := by decide
theorem showInt_6 : Ebb3.showInt 6 = ['6'] := by decide

/-- one round of `query_enable_motors`, `result = ebb_serial.query(port, t, vb); x = result.split("PI,")[1].strip() == c`,
on a script whose reply to `t` carries the marker: `t` is written, then what the rest of the body writes (`L`).  The world is
`w` with the port `p` put in, so that the worlds of successive rounds do not nest. -/
theorem pi_round {σ : Type} {fuel : Nat} (hf : 101 ≤ fuel) {set1 set2 : σ → Val → σ} {e1 e2 : Expr NoObj σ}
    {rest : Stmt NoObj σ} {env : σ} (w : World NoObj) {p : PyIO.Port} {t c : List Char} {vb : Val} {L : List (List Char)}
    (ht : PyIO.isAscii t = true) (hd : Dom p)
    (h1 : e1 fuel env = ioCall3 (ebb_serial_query fuel) (ok .port) (ok (.str t)) (ok vb))
    (h2 : ∀ s, e2 fuel (set1 env (.str s)) = app2 op_eq (app1 meth_strip (app2 op_getitem
      (app1 (meth_split_str ['P', 'I', ',']) (ok (.str s))) (ok (.int 1)))) (ok (.str c)))
    (hpi : ∃ s, (C07.query C07.std t p).1 = .ok (.str s) ∧ HasPI s)
    (hrest : ∀ s b, Dom (C07.query C07.std t p).2 →
      ∃ w', flowWorld (rest fuel (set2 (set1 env (.str s)) (.bool b)) { w with port := (C07.query C07.std t p).2 })
          = some w' ∧ w'.port.log = (C07.query C07.std t p).2.log ++ L) :
    ∃ w', flowWorld (seq (assign set1 e1) (seq (assign set2 e2) rest) fuel env { w with port := p }) = some w' ∧
      w'.port.log = p.log ++ t :: L := by
  obtain ⟨s, hs, x, hx⟩ := hpi
  obtain ⟨hq, hl, hd'⟩ := ioQuery_model fuel hf t ht vb { w with port := p } hd s hs
  obtain ⟨w', hw, hl'⟩ := hrest s (pyEq (.str (Ebb3.strip x)) (.str c)) hd'
  refine ⟨w', ?_, by rw [hl', hl, List.append_assoc]; rfl⟩
  rw [seq_norm (assign_of (h1 ▸ hq)), seq_norm (assign_of (v := .bool (pyEq (.str (Ebb3.strip x)) (.str c))) (w' := _) (by
    rw [h2]; simp only [app1_ok, meth_split_str, ofP_ok, app2_ok, hx, meth_strip, op_eq]; rfl))]
  exact hw

/-- `query_enable_motors`: `PI,E,0`, `PI,C,1`, `PI,E,2`, `PI,E,1`, `PI,A,6` — when every reply carries the marker `PI,` -/
theorem query_enable_motors_bridge (fuel : Nat) (hf : 101 ≤ fuel) (present : Bool) (vb : Val) (w : World NoObj)
    (hd : Dom w.port) (hpi : present = true → PIChain piTexts w.port) :
    Wrote (ebb_motion_query_enable_motors fuel (encPort present) vb w) w (C06.legacyEmit present true .queryMotorsPI) := by
  cases present with
  | false => exact wrote_nothing rfl
  | true =>
    obtain ⟨h1, h2, h3, h4, h5, _⟩ := hpi rfl
    have hrun : ∃ w', flowWorld (ebb_motion_query_enable_motors_try1 fuel
        ⟨.port, vb, .unbound, .unbound, .unbound, .unbound, .unbound, .unbound, .unbound, .unbound⟩ w) = some w' ∧
        w'.port.log = w.port.log ++ piTexts := by
      unfold ebb_motion_query_enable_motors_try1
      simp only [block_cons2, block_one]
      refine pi_round hf w (p := w.port) (by decide) hd rfl (fun _ => rfl) h1 fun _ _ d1 => ?_
      refine pi_round hf w (by decide) d1 rfl (fun _ => rfl) h2 fun _ _ d2 => ?_
      refine pi_round hf w (by decide) d2 rfl (fun _ => rfl) h3 fun _ _ d3 => ?_
      refine pi_round hf w (by decide) d3 rfl (fun _ => rfl) h4 fun _ _ d4 => ?_
      refine pi_round hf w (by decide) d4 rfl (fun _ => rfl) h5 fun _ _ _ => ?_
      -- the decision table and the return are pure
      refine ⟨_, (show PureS _ by
        unfold ebb_motion_query_enable_motors_if2 ebb_motion_query_enable_motors_if3 ebb_motion_query_enable_motors_if4
          ebb_motion_query_enable_motors_if5 ebb_motion_query_enable_motors_if6 ebb_motion_query_enable_motors_if7
        fr_walk) fuel _ _, ?_⟩
      rw [List.append_nil]
    obtain ⟨w', hw, hl⟩ := hrun
    refine ⟨w', ?_, ?_⟩
    · rw [show encPort true = Val.port from rfl, ebb_motion_query_enable_motors, ebb_motion_query_enable_motors_main,
        outWorld_run, block_cons2, block_one]
      refine flowWorld_seq (by fr_walk) fuel _ w w' ?_
      rw [ebb_motion_query_enable_motors_if1, ifte_pos rfl rfl]
      exact flowWorld_try (List.forall_mem_singleton.mpr (by fr_walk)) fuel _ w w' hw
    · rw [hl]
      simp [piTexts, C06.legacyEmit, C06.legacyEmitWith, wire_toList, argChars, lit_PIE, lit_PIC, lit_PIA, showInt_zero, showInt_one,
        showInt_2, showInt_6]

/-- the regenerated legacy helper serving `r`: all 24 requests the layer serves -/
def legacyGenFull (fuel : Nat) (present : Bool) (vb : Val) (w : World NoObj) (r : C06.Req) : Option (Out NoObj) :=
  match legacyGen fuel present vb w r with
  | some o => some o
  | Option.none =>
    match r with
    | .queryMotorsPI => some (ebb_motion_query_enable_motors fuel (encPort present) vb w)
    | _ => Option.none

/-- the hypothesis on the replies that `query_enable_motors` needs (nothing for the other helpers) -/
def RepliesFor (r : C06.Req) (p : PyIO.Port) : Prop :=
  match r with
  | .queryMotorsPI => PIChain piTexts p
  | _ => True

theorem legacyGenFull_emit (fuel : Nat) (present : Bool) (vb : Val) (w : World NoObj) (r : C06.Req) (o : Out NoObj)
    (hf : FuelFor fuel r) (hd : Dom w.port) (hrep : present = true → RepliesFor r w.port)
    (ho : legacyGenFull fuel present vb w r = some o) :
    ∃ fwOk, Wrote o w (C06.legacyEmit present fwOk r) := by
  unfold legacyGenFull at ho
  cases h : legacyGen fuel present vb w r with
  | some o' =>
    rw [h] at ho
    simp only [Option.some.injEq] at ho
    subst ho
    exact legacyGen_emit fuel present vb w r o' hf (.of_dom hd) h
  | none =>
    rw [h] at ho
    cases r <;> simp only [reduceCtorEq] at ho
    case queryMotorsPI =>
      cases ho
      exact ⟨true, query_enable_motors_bridge fuel hf present vb w hd hrep⟩

theorem legacyGenFull_isSome (fuel : Nat) (present : Bool) (vb : Val) (w : World NoObj) (r : C06.Req) :
    (legacyGenFull fuel present vb w r).isSome ↔ C06.legacySupports r := by
  cases r <;> simp [legacyGenFull, legacyGen, C06.legacySupports] <;> split <;> simp_all

end C06Gen
end Plotink
