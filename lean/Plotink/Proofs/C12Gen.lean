import Plotink.Gen.parseLengthWithUnits
import Plotink.Gen.unitsToUserUnits
import Plotink.Gen.userUnitToUnits
import Plotink.Proofs.PyLemmas
import Plotink.Proofs.PyEnc
import Plotink.Proofs.C12Core
import Plotink.Proofs.C12Parse
import Plotink.Proofs.RuleSets
import Mathlib.Tactic.Ring
import Mathlib.Algebra.Order.Ring.Abs

/-! # C12 — the source-regenerated `parseLengthWithUnits` / `unitsToUserUnits` / `userUnitToUnits`

Regenerated from `plotink/plot_utils.py`.  A Python `str` is `Py.Val.str` over `String`; the hand model
`Model/C12.lean` is over `List Char`.

The generated parser (strip, the suffix cascade `string[-2:] == 'px'` …, `float()` inside `try`/`except ValueError`)
is the model's `parseLength` (`splitUnit ∘ pyStrip`, `parseFloat`), for every rounding mode: a finite numeral `q` gives
`(flt (R.f64 q), unit)`, a rejected one `(None, None)`.  Numerals that `float()` reads as `inf`/`nan` are outside the
generated code's value domain (no claim).

The converters are *not* literally the hand model: the model reads the float literals `25.4`, `2.54`, `101.6` as
decimals (`127/5` …), the generated code carries the doubles the source denotes.  So the table theorems are proved
directly about the generated code in exact arithmetic (`Rounding.exact`): value × / ÷ `genFactor` / `genBackFactor`,
where those factors are the SVG factors up to relative `2^-52` (exactly for px, in, pt, pc).

Where `2^-52` comes from: the only error is that of the three literals, each the double nearest to its decimal and so
within relative `2^-53` of it.  `2^-52` (the spacing of doubles just above 1) is the next round figure above that; it
covers `96 / literal` against `96 / decimal`, and in the `Q` rows the two spellings `101.6` and `40.0 * 2.54` against each
other (two literals, product exact).  None of this is derived from the rounding: each bound is an inequality between
the numbers themselves, closed by `norm_num` (`close_mm`, `close_cm`, the `Q` rows of `genFactor_close` and
`genBackFactor_close`, the ratio of the two spellings in `q_lits`). -/

namespace Plotink
namespace C12
open Py Py.Val PyFloat

theorem str_strip_str (s : String) : Py.str_strip (.str s) = Py.ofL (pyStrip s.toList) := rfl
/-- `s[-n:]` -/
theorem slice_last (n : Nat) (hn : 0 < n) (t : List Char) :
    Py.slice (Py.ofL t) (.int (-(n : Int))) .none_ = Py.ofL (lastN n t) := by
  simp only [Py.ofL, Py.slice, Py.sliceBound, String.toList_ofList, lastN]
  rw [if_pos (by omega : -(n : Int) < 0)]
  have : (-(n : Int) + (t.length : Int)).toNat = t.length - n := by omega
  rw [this, List.take_length]
/-- `s[:-n]` -/
theorem slice_drop (n : Nat) (hn : 0 < n) (t : List Char) :
    Py.slice (Py.ofL t) .none_ (.int (-(n : Int))) = Py.ofL (dropLastN n t) := by
  simp only [Py.ofL, Py.slice, Py.sliceBound, String.toList_ofList, dropLastN]
  rw [if_pos (by omega : -(n : Int) < 0)]
  have : (-(n : Int) + (t.length : Int)).toNat = t.length - n := by omega
  rw [this, List.drop_zero]
theorem slice_last2 (t : List Char) : Py.slice (Py.ofL t) (.int (-2)) .none_ = Py.ofL (lastN 2 t) := slice_last 2 (by decide) t
theorem slice_last1 (t : List Char) : Py.slice (Py.ofL t) (.int (-1)) .none_ = Py.ofL (lastN 1 t) := slice_last 1 (by decide) t
theorem slice_drop2 (t : List Char) : Py.slice (Py.ofL t) .none_ (.int (-2)) = Py.ofL (dropLastN 2 t) := slice_drop 2 (by decide) t
theorem slice_drop1 (t : List Char) : Py.slice (Py.ofL t) .none_ (.int (-1)) = Py.ofL (dropLastN 1 t) := slice_drop 1 (by decide) t
@[unit_eval] theorem eq_ofL_str (a : List Char) (b : String) : Py.eq (Py.ofL a) (.str b) = decide (a = b.toList) := by
  show (String.ofList a == b) = _
  by_cases h : a = b.toList
  · subst h; simp
  · have : String.ofList a ≠ b := by
      intro e; apply h; rw [← e, String.toList_ofList]
    simp [h, this]
/-- what `float(str)` returns in the generated code, from the grammar's verdict -/
def fltOf (R : Rounding) : Option Num → Val
  | some (.fin q) => .flt (R.f64 q)
  | _ => .err
theorem float_ofL (R : Rounding) (t : List Char) : Py.float_ R (Py.ofL t) = fltOf R (parseFloat t) := by
  simp only [Py.ofL, Py.float_, String.toList_ofList]
  cases parseFloat t with
  | none => rfl
  | some v => cases v <;> rfl

@[unit_eval] theorem lit_px : ("px" : String).toList = ['p','x'] := by decide +kernel
@[unit_eval] theorem lit_in : ("in" : String).toList = ['i','n'] := by decide +kernel
@[unit_eval] theorem lit_mm : ("mm" : String).toList = ['m','m'] := by decide +kernel
@[unit_eval] theorem lit_cm : ("cm" : String).toList = ['c','m'] := by decide +kernel
@[unit_eval] theorem lit_pt : ("pt" : String).toList = ['p','t'] := by decide +kernel
@[unit_eval] theorem lit_pc : ("pc" : String).toList = ['p','c'] := by decide +kernel
@[unit_eval] theorem lit_Q : ("Q" : String).toList = ['Q'] := by decide +kernel
@[unit_eval] theorem lit_q : ("q" : String).toList = ['q'] := by decide +kernel
@[unit_eval] theorem lit_pct : ("%" : String).toList = ['%'] := by decide +kernel
@[unit_eval] theorem lit_empty : ("" : String).toList = [] := by decide +kernel

attribute [unit_eval] List.cons.injEq and_true and_false false_and and_self decide_true decide_false Bool.or_false
  Bool.false_or Bool.or_true Bool.true_or Bool.or_self Bool.false_eq_true Bool.not_true Bool.not_false if_true if_false
attribute [unit_eval_proc] Char.reduceEq reduceCtorEq

def encParse (R : Rounding) (su : List Char × List Char) : Val :=
  match fltOf R (parseFloat su.1) with
  | .err => .tup [.none_, .none_]
  | v => .tup [v, Py.ofL su.2]

theorem parse_tail (R : Rounding) (body : List Char) (u : String) :
    (if Py.isErr (Py.float_ R (Py.ofL body)) = true then Val.tup [.none_, .none_]
      else Val.tup [Py.float_ R (Py.ofL body), .str u]) = encParse R (body, u.toList) := by
  rw [float_ofL]
  unfold encParse
  simp only [Py.ofL, String.ofList_toList]
  cases parseFloat body with
  | none => rfl
  | some v => cases v <;> rfl

theorem parse_core (R : Rounding) (amb : Nat) (s : String) :
    Gen.parseLengthWithUnits R amb (.str s) = encParse R (splitUnit (pyStrip s.toList)) := by
  generalize ht : pyStrip s.toList = t
  unfold Gen.parseLengthWithUnits splitUnit
  simp only [Py.isNone, Bool.false_eq_true, if_false, str_strip_str, ht, slice_last2, slice_last1, slice_drop2,
    slice_drop1, eq_ofL_str, lit_px, lit_in, lit_mm, lit_cm, lit_pt, lit_pc, lit_Q, lit_q, lit_pct, Bool.or_eq_true,
    decide_eq_true_eq]
  by_cases h1 : lastN 2 t = ['p','x']
  · simp only [if_pos h1]; rw [parse_tail, lit_px]
  simp only [if_neg h1]
  by_cases h2 : lastN 2 t = ['i','n']
  · simp only [if_pos h2]; rw [parse_tail, lit_in]
  simp only [if_neg h2]
  by_cases h3 : lastN 2 t = ['m','m']
  · simp only [if_pos h3]; rw [parse_tail, lit_mm]
  simp only [if_neg h3]
  by_cases h4 : lastN 2 t = ['c','m']
  · simp only [if_pos h4]; rw [parse_tail, lit_cm]
  simp only [if_neg h4]
  by_cases h5 : lastN 2 t = ['p','t']
  · simp only [if_pos h5]; rw [parse_tail, lit_pt]
  simp only [if_neg h5]
  by_cases h6 : lastN 2 t = ['p','c']
  · simp only [if_pos h6]; rw [parse_tail, lit_pc]
  simp only [if_neg h6]
  by_cases h7 : lastN 1 t = ['Q'] ∨ lastN 1 t = ['q']
  · simp only [if_pos h7]; rw [parse_tail, lit_Q]
  simp only [if_neg h7]
  by_cases h8 : lastN 1 t = ['%']
  · simp only [if_pos h8]; rw [parse_tail, lit_pct]
  · simp only [if_neg h8]; rw [parse_tail, lit_px]

theorem parse_none_arg (R : Rounding) (amb : Nat) :
    Gen.parseLengthWithUnits R amb .none_ = .tup [.none_, .none_] := rfl

theorem parse_bridge (R : Rounding) (amb : Nat) (s : String) :
    (parseLength (some s.toList) = none → Gen.parseLengthWithUnits R amb (.str s) = .tup [.none_, .none_]) ∧
    (∀ q u, parseLength (some s.toList) = some (.fin q, u) →
      Gen.parseLengthWithUnits R amb (.str s) = .tup [.flt (R.f64 q), Py.ofL u]) := by
  rw [parse_core]
  unfold parseLength encParse
  simp only
  cases parseFloat (splitUnit (pyStrip s.toList)).1 with
  | none => exact ⟨fun _ => rfl, fun q u h => nomatch h⟩
  | some v => exact ⟨fun h => (nomatch h), fun q u h => by cases h; rfl⟩

/-- the doubles written `25.4`, `2.54`, `101.6` in the source, as the translator prints them into
`Gen/unitsToUserUnits.lean` and `Gen/userUnitToUnits.lean` (`Fraction(literal)`; the denominators are `2^47`, `2^50`, `2^45`) -/
def lit25_4 : Rat := 3574732204225331 / 140737488355328
def lit2_54 : Rat := 2859785763380265 / 1125899906842624
def lit101_6 : Rat := 3574732204225331 / 35184372088832

/-- user units per unit as the regenerated `unitsToUserUnits` multiplies, in exact arithmetic -/
def genFactor (u : List Char) : Option Rat :=
  if u = ['p', 'x'] then some 1
  else if u = ['i', 'n'] then some 96
  else if u = ['m', 'm'] then some (96 / lit25_4)
  else if u = ['c', 'm'] then some (96 / lit2_54)
  else if u = ['p', 't'] then some (96 / 72)
  else if u = ['p', 'c'] then some (96 / 6)
  else if u = ['Q'] then some (96 / lit101_6)
  else none

/-- user units per unit as the regenerated `userUnitToUnits` divides, in exact arithmetic -/
def genBackFactor (u : List Char) : Option Rat :=
  if u = [] ∨ u = ['p', 'x'] then some 1
  else if u = ['i', 'n'] then some 96
  else if u = ['m', 'm'] then some (96 / lit25_4)
  else if u = ['c', 'm'] then some (96 / lit2_54)
  else if u = ['Q'] ∨ u = ['q'] then some (96 / (40 * lit2_54))
  else if u = ['p', 'c'] then some (96 / 6)
  else if u = ['p', 't'] then some (96 / 72)
  else none

theorem mul_exact (p : Nat) (a b : Rat) : Py.mul Rounding.exact p (.flt a) (.flt b) = .flt (a * b) := rfl
theorem exact_f64 (q : Rat) : Rounding.exact.f64 q = q := rfl
theorem float_flt (R : Rounding) (a : Rat) : Py.float_ R (.flt a) = .flt a := rfl
theorem float_int_exact (z : Int) : Py.float_ Rounding.exact (.int z) = .flt (z : Rat) := rfl

theorem genFactor_cases (u : List Char) (f : Rat) (h : genFactor u = some f) :
    (u = ['p','x'] ∧ f = 1) ∨ (u = ['i','n'] ∧ f = 96) ∨ (u = ['m','m'] ∧ f = 96 / lit25_4) ∨
    (u = ['c','m'] ∧ f = 96 / lit2_54) ∨ (u = ['p','t'] ∧ f = 96 / 72) ∨ (u = ['p','c'] ∧ f = 96 / 6) ∨
    (u = ['Q'] ∧ f = 96 / lit101_6) :=
  ite_some_or (ite_some_or (ite_some_or (ite_some_or (ite_some_or (ite_some_or ite_some_none))))) h

theorem lit25_4_ne : lit25_4 ≠ 0 := by unfold lit25_4; norm_num
theorem lit2_54_ne : lit2_54 ≠ 0 := by unfold lit2_54; norm_num
theorem lit101_6_ne : lit101_6 ≠ 0 := by unfold lit101_6; norm_num

/-- `value * k / c` as the converters write it -/
theorem truediv_mul (p : Nat) (v k c : Rat) (hc : c ≠ 0) :
    Py.truediv Rounding.exact p (.flt (v * k)) (.flt c) = .flt (v * (k / c)) := by
  rw [Py.truediv_flt_flt _ _ _ hc, mul_div_assoc]

theorem uu_tables (amb : Nat) (s : String) (ref : Val) (v f : Rat) (u : List Char)
    (hp : parseLength (some s.toList) = some (.fin v, u)) (hf : genFactor u = some f) :
    Gen.unitsToUserUnits Rounding.exact amb (.str s) ref = .flt (v * f) := by
  have hg : Gen.parseLengthWithUnits Rounding.exact amb (.str s) = .tup [.flt v, Py.ofL u] :=
    (parse_bridge Rounding.exact amb s).2 v u hp
  unfold Gen.unitsToUserUnits
  simp only [hg, Py.unpackN_tup2, Py.getItem_cons_zero, Py.getItem_cons_succ, Py.isNone, float_flt, mul_exact,
    unit_eval]
  rcases genFactor_cases u f hf with h | h | h | h | h | h | h <;> obtain ⟨rfl, rfl⟩ := h <;>
    simp only [unit_eval]
  · rw [mul_one]
  · exact truediv_mul _ _ _ _ lit25_4_ne
  · exact truediv_mul _ _ _ _ lit2_54_ne
  · exact truediv_mul _ _ _ _ (by norm_num)
  · exact truediv_mul _ _ _ _ (by norm_num)
  · exact truediv_mul _ _ _ _ lit101_6_ne

theorem close_self {f : Rat} (hf : 0 ≤ f) : |f - f| ≤ f / 2 ^ 52 := by
  rw [sub_self, abs_zero]; exact div_nonneg hf (by norm_num)
theorem close_mm : |96 / lit25_4 - 96 / (254 / 10)| ≤ 96 / (254 / 10) / 2 ^ 52 := by
  rw [abs_le]; unfold lit25_4; constructor <;> norm_num
theorem close_cm : |96 / lit2_54 - 96 / (254 / 100)| ≤ 96 / (254 / 100) / 2 ^ 52 := by
  rw [abs_le]; unfold lit2_54; constructor <;> norm_num

theorem svgFactor_Q {f : Rat} (hf : svgFactor ['Q'] = some f) : f = 96 / (1016 / 10) :=
  Option.some.inj (hf.symm.trans (by decide +kernel))

/-- the six units other than `Q`: the two tables of the regenerated code have the same non-zero entry -/
theorem shared_close (u : List Char) (f : Rat) (hf : svgFactor u = some f) (hQ : u ≠ ['Q']) :
    ∃ f', genFactor u = some f' ∧ genBackFactor u = some f' ∧ f' ≠ 0 ∧ |f' - f| ≤ f / 2 ^ 52 := by
  have n96 : (96 : Rat) ≠ 0 := by norm_num
  rcases svgFactor_cases u f hf with h | h | h | h | h | h | h <;> obtain ⟨rfl, rfl⟩ := h
  · exact ⟨1, by decide +kernel, by decide +kernel, one_ne_zero, close_self (by norm_num)⟩
  · exact ⟨96, by decide +kernel, by decide +kernel, n96, close_self (by norm_num)⟩
  · exact ⟨96 / lit25_4, by decide +kernel, by decide +kernel, div_ne_zero n96 lit25_4_ne, close_mm⟩
  · exact ⟨96 / lit2_54, by decide +kernel, by decide +kernel, div_ne_zero n96 lit2_54_ne, close_cm⟩
  · exact ⟨96 / 72, by decide +kernel, by decide +kernel, by norm_num, close_self (by norm_num)⟩
  · exact ⟨96 / 6, by decide +kernel, by decide +kernel, by norm_num, by norm_num⟩
  · exact absurd rfl hQ

theorem genFactor_close (u : List Char) (f : Rat) (hf : svgFactor u = some f) :
    ∃ f', genFactor u = some f' ∧ |f' - f| ≤ f / 2 ^ 52 := by
  by_cases hQ : u = ['Q']
  · subst hQ
    obtain rfl := svgFactor_Q hf
    refine ⟨96 / lit101_6, by decide +kernel, ?_⟩
    rw [abs_le]; unfold lit101_6; constructor <;> norm_num
  · obtain ⟨f', h1, -, -, h2⟩ := shared_close u f hf hQ
    exact ⟨f', h1, h2⟩

/-- percentages: of the supplied reference (`0` included), else of 1 -/
theorem uu_percent (amb : Nat) (s : String) (v : Rat)
    (hp : parseLength (some s.toList) = some (.fin v, ['%'])) :
    Gen.unitsToUserUnits Rounding.exact amb (.str s) .none_ = .flt (v / 100) ∧
    ∀ (rv : Val) (r : Rat), IsNum rv r →
      Gen.unitsToUserUnits Rounding.exact amb (.str s) rv = .flt (v * r / 100) := by
  have hg : Gen.parseLengthWithUnits Rounding.exact amb (.str s) = .tup [.flt v, Py.ofL ['%']] :=
    (parse_bridge Rounding.exact amb s).2 v _ hp
  have n100 : (100 : Rat) ≠ 0 := by norm_num
  unfold Gen.unitsToUserUnits
  simp only [hg, Py.unpackN_tup2, Py.getItem_cons_zero, Py.getItem_cons_succ, float_flt, unit_eval]
  refine ⟨Py.truediv_flt_flt amb v _ n100, ?_⟩
  rintro rv r (rfl | ⟨z, rfl, rfl⟩) <;> exact Py.truediv_flt_flt amb (v * _) _ n100

theorem uu_none (R : Rounding) (amb : Nat) (ref : Val) :
    Gen.unitsToUserUnits R amb .none_ ref = .none_ ∧
    ∀ s : String, parseLength (some s.toList) = none → Gen.unitsToUserUnits R amb (.str s) ref = .none_ := by
  constructor
  · rfl
  · intro s h
    have hg := (parse_bridge R amb s).1 h
    unfold Gen.unitsToUserUnits
    simp only [hg, Py.unpackN_tup2, Py.getItem_cons_zero, Py.isNone, if_true]

theorem genBackFactor_cases (u : List Char) (g : Rat) (h : genBackFactor u = some g) :
    ((u = [] ∨ u = ['p','x']) ∧ g = 1) ∨ (u = ['i','n'] ∧ g = 96) ∨ (u = ['m','m'] ∧ g = 96 / lit25_4) ∨
    (u = ['c','m'] ∧ g = 96 / lit2_54) ∨ ((u = ['Q'] ∨ u = ['q']) ∧ g = 96 / (40 * lit2_54)) ∨
    (u = ['p','c'] ∧ g = 96 / 6) ∨ (u = ['p','t'] ∧ g = 96 / 72) :=
  ite_some_or (ite_some_or (ite_some_or (ite_some_or (ite_some_or (ite_some_or ite_some_none))))) h

/-- `value / (k / c)` as `userUnitToUnits` writes it -/
theorem truediv_div (p : Nat) (d k c : Rat) (hk : k ≠ 0) (hc : c ≠ 0) :
    Py.truediv Rounding.exact p (.flt d) (Py.truediv Rounding.exact p (.flt k) (.flt c)) = .flt (d / (k / c)) := by
  rw [Py.truediv_flt_flt _ _ _ hc, Py.truediv_flt_flt _ _ _ (div_ne_zero hk hc)]

theorem back_tables (amb : Nat) (dv : Val) (d g : Rat) (u : List Char) (hd : IsNum dv d)
    (hg : genBackFactor u = some g) :
    Gen.userUnitToUnits Rounding.exact amb dv (Py.ofL u) = .flt (d / g) := by
  have n96 : (96 : Rat) ≠ 0 := by norm_num
  unfold Gen.userUnitToUnits
  simp only [hd.isNone, hd.float, Bool.false_eq_true, if_false, mul_exact, unit_eval]
  rcases genBackFactor_cases u g hg with ⟨rfl | rfl, rfl⟩ | ⟨rfl, rfl⟩ | ⟨rfl, rfl⟩ | ⟨rfl, rfl⟩ | ⟨rfl | rfl, rfl⟩ |
      ⟨rfl, rfl⟩ | ⟨rfl, rfl⟩ <;>
    simp only [unit_eval]
  · rw [div_one]
  · rw [div_one]
  · exact Py.truediv_flt_flt _ _ _ n96
  · exact truediv_div _ _ _ _ n96 lit25_4_ne
  · exact truediv_div _ _ _ _ n96 lit2_54_ne
  · exact truediv_div _ _ _ _ n96 (mul_ne_zero (by norm_num) lit2_54_ne)
  · exact truediv_div _ _ _ _ n96 (mul_ne_zero (by norm_num) lit2_54_ne)
  · exact truediv_div _ _ _ _ n96 (by norm_num)
  · exact truediv_div _ _ _ _ n96 (by norm_num)

theorem back_percent (amb : Nat) (dv : Val) (d : Rat) (hd : IsNum dv d) :
    Gen.userUnitToUnits Rounding.exact amb dv (Py.ofL ['%']) = .flt (d * 100) := by
  unfold Gen.userUnitToUnits
  simp only [hd.isNone, hd.float, Bool.false_eq_true, if_false, mul_exact, unit_eval]

theorem back_none (R : Rounding) (amb : Nat) :
    (∀ uv, Gen.userUnitToUnits R amb .none_ uv = .none_) ∧
    (∀ (dv : Val) (u : List Char),
      u ∉ [[], ['p','x'], ['i','n'], ['m','m'], ['c','m'], ['p','t'], ['p','c'], ['Q'], ['q'], ['%']] →
      Gen.userUnitToUnits R amb dv (Py.ofL u) = .none_) := by
  constructor
  · intro uv; rfl
  · intro dv u hu
    simp only [List.mem_cons, List.not_mem_nil, or_false, not_or] at hu
    unfold Gen.userUnitToUnits
    simp only [unit_eval]
    simp only [hu, decide_false, Bool.or_self, Bool.false_eq_true, if_false, ite_self]

/-- on every unit the parser produces, `%` apart, the two tables hold the same factor, except at `Q`, which one function
writes `101.6` and the other `40.0 * 2.54` -/
theorem gen_factors (s : Option (List Char)) (v : Num) (u : List Char) (hp : parseLength s = some (v, u)) :
    u = ['%'] ∨ u = ['Q'] ∨ ∃ f : Rat, f ≠ 0 ∧ genFactor u = some f ∧ genBackFactor u = some f := by
  rcases parseLength_factor s v u hp with h | ⟨f, hf⟩
  · exact .inl h
  · by_cases hQ : u = ['Q']
    · exact .inr (.inl hQ)
    · obtain ⟨f', h1, h2, h0, -⟩ := shared_close u f hf hQ
      exact .inr (.inr ⟨f', h0, h1, h2⟩)

theorem rel_close (x r : Rat) (hr : |r - 1| ≤ 1 / 2 ^ 52) : |x * r - x| ≤ |x| / 2 ^ 52 := by
  rw [show x * r - x = x * (r - 1) by ring, abs_mul, div_eq_mul_one_div]
  exact mul_le_mul_of_nonneg_left hr (abs_nonneg x)

/-- `101.6` and `40.0 * 2.54`, the two spellings of the quarter-millimetre divisor, denote two different doubles; their
ratio is within `2^-52` of 1, either way round -/
theorem q_lits : |40 * lit2_54 / lit101_6 - 1| ≤ 1 / 2 ^ 52 ∧ |lit101_6 / (40 * lit2_54) - 1| ≤ 1 / 2 ^ 52 := by
  unfold lit101_6 lit2_54
  constructor <;> rw [abs_le] <;> constructor <;> norm_num

theorem genBackFactor_close (u : List Char) (f : Rat) (hf : svgFactor u = some f) :
    ∃ g, genBackFactor u = some g ∧ |g - f| ≤ f / 2 ^ 52 := by
  by_cases hQ : u = ['Q']
  · subst hQ
    obtain rfl := svgFactor_Q hf
    refine ⟨96 / (40 * lit2_54), by decide +kernel, ?_⟩
    rw [abs_le]; unfold lit2_54; constructor <;> norm_num
  · obtain ⟨g, -, h1, -, h2⟩ := shared_close u f hf hQ
    exact ⟨g, h1, h2⟩

end C12
end Plotink
