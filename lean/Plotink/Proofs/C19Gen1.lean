import Plotink.Proofs.C19GenEval
import Plotink.Gen.EBB3_find_first
import Plotink.Gen.ebb_serial_findPort
import Plotink.Gen.ebb_serial_listEBBports
import Plotink.Gen.ebb3_serial_list_ebb_ports

/-! # C19 bridges: `findPort`, `EBB3.find_first` (object state after the call) and the two board listings -/
namespace Plotink
namespace C19Gen
open PyObj Gen LegacyGen

/-- **`EBB3.find_first`.**  With `list(comports())` yielding the (encoded) port list, the regenerated method returns
`None` and leaves the object with `port_name` = what the hand model `C19.Ebb3.findFirst` computes from THIS enumeration
— whatever `port_name` (and every other attribute) held before: the theorem has no hypothesis about `w.obj`, so it
covers a fresh object and an object reused after an earlier discovery alike.  Nothing else changes. -/
theorem find_first_bridge (fuel : Nat) (ports : List C19.Port) (w : World EBB3_Obj) (hc : Enumerates w ports) :
    EBB3_find_first fuel w =
      .val .none { w with obj := { w.obj with port_name := encOptStr (C19.Ebb3.findFirst ports) } } := by
  obtain ⟨pv1, e1⟩ := forLoop_first EBB3_find_first_Env.mk (fun env v => { env with port := v }) (fun _ _ _ _ => rfl)
     EBB3_find_first_fbody1 C19.descMatch fuel
    (.list (ports.map encPort)) w (fun p eb => by simp only [EBB3_find_first_fbody1, EBB3_find_first_if1, pyeval])
    ports .unbound
  obtain ⟨pv2, e2⟩ := forLoop_first EBB3_find_first_Env.mk (fun env v => { env with port := v }) (fun _ _ _ _ => rfl)
     EBB3_find_first_fbody2 C19.idMatch fuel
    (.list (ports.map encPort)) w (fun p eb => by simp only [EBB3_find_first_fbody2, EBB3_find_first_if3, pyeval])
    ports pv1
  simp only [EBB3_find_first, EBB3_find_first_main, EBB3_find_first_try1, EBB3_find_first_for1, EBB3_find_first_if2,
    EBB3_find_first_for2, pyeval, try_comports _ _ _ _ _ _ hc, e1, C19.Ebb3.findFirst]
  cases C19.firstBy C19.descMatch ports with
  | some d => simp only [encOptStr, pyeval, setattr]
  | none => simp only [encOptStr, pyeval, e2, setattr]; cases C19.firstBy C19.idMatch ports <;> rfl

/-- **`findPort` (legacy).**  With `list(comports())` yielding the (encoded) port list, the regenerated `findPort`
returns what the hand model `C19.Legacy.findFirst` returns, touches nothing, and needs no fuel. -/
theorem findPort_bridge (fuel : Nat) (ports : List C19.Port) (w : World NoObj) (hc : Enumerates w ports) :
    ebb_serial_findPort fuel w = .val (encOptStr (C19.Legacy.findFirst ports)) w := by
  obtain ⟨pv1, e1⟩ := forLoop_first ebb_serial_findPort_Env.mk (fun env v => { env with port := v }) (fun _ _ _ _ => rfl)
     ebb_serial_findPort_fbody1
    C19.descMatch fuel (.list (ports.map encPort)) w
    (fun p eb => by simp only [ebb_serial_findPort_fbody1, ebb_serial_findPort_if1, pyeval]) ports .unbound
  obtain ⟨pv2, e2⟩ := forLoop_first ebb_serial_findPort_Env.mk (fun env v => { env with port := v }) (fun _ _ _ _ => rfl)
     ebb_serial_findPort_fbody2
    C19.idMatch fuel (.list (ports.map encPort)) w
    (fun p eb => by simp only [ebb_serial_findPort_fbody2, ebb_serial_findPort_if3, pyeval]) ports pv1
  simp only [ebb_serial_findPort, ebb_serial_findPort_main, ebb_serial_findPort_try1, ebb_serial_findPort_for1,
    ebb_serial_findPort_if2, ebb_serial_findPort_for2, pyeval, try_comports _ _ _ _ _ _ hc, e1, C19.Legacy.findFirst]
  cases C19.firstBy C19.descMatch ports with
  | some d => simp only [encOptStr, pyeval]
  | none => simp only [encOptStr, pyeval, e2]; cases C19.firstBy C19.idMatch ports <;> rfl

/-- what one pass of a listing loop appends -/
def keep (p : C19.Port) : List Val := if (C19.descMatch p || C19.idMatch p) = true then [encPort p] else []

theorem flatMap_keep (ports : List C19.Port) : ports.flatMap keep = (C19.listLoop ports).map encPort := by
  induction ports with
  | nil => rfl
  | cons p ps ih =>
    rw [List.flatMap_cons, ih, C19.listLoop, keep]
    cases C19.descMatch p <;> cases C19.idMatch p <;> rfl

theorem ebb_serial_listEBBports_body (fuel : Nat) (p : C19.Port) (cpl hv : Val) (acc : List Val) (w : World NoObj) :
    ebb_serial_listEBBports_fbody1 fuel ⟨cpl, .list acc, encPort p, hv⟩ w =
      .norm ⟨cpl, .list (acc ++ keep p), encPort p, .bool (C19.descMatch p || C19.idMatch p)⟩ w := by
  simp only [ebb_serial_listEBBports_fbody1, ebb_serial_listEBBports_if1, ebb_serial_listEBBports_if2,
    ebb_serial_listEBBports_if3, pyeval, keep]
  cases C19.descMatch p <;> cases C19.idMatch p <;>
    simp only [Bool.or_self, Bool.or_true, Bool.or_false, Bool.false_eq_true, if_true, if_false, List.append_nil]

/-- **`listEBBports` (legacy).**  With `list(comports())` yielding the (encoded) port list, the regenerated function
returns what the hand model `C19.Legacy.listPorts` returns (the kept ports in order, `None` when there are none) and
touches nothing. -/
theorem ebb_serial_listEBBports_bridge (fuel : Nat) (ports : List C19.Port) (w : World NoObj)
    (hc : Enumerates w ports) :
    ebb_serial_listEBBports fuel w = .val (encPorts (C19.Legacy.listPorts ports)) w := by
  obtain ⟨_, ⟨pv, hv, rfl⟩, e⟩ := forLoop_acc (fun (env : ebb_serial_listEBBports_Env) v => { env with port := v })
    ebb_serial_listEBBports_fbody1 fuel encPort keep
    (fun acc env => ∃ pv hv, env = ⟨.list (ports.map encPort), .list acc, pv, hv⟩) w
    (by rintro acc p _ ⟨pv, hv, rfl⟩; exact ⟨_, ⟨_, _, rfl⟩, ebb_serial_listEBBports_body ..⟩)
    ports [] _ ⟨.unbound, .unbound, rfl⟩
  simp only [ebb_serial_listEBBports, ebb_serial_listEBBports_main, ebb_serial_listEBBports_try1,
    ebb_serial_listEBBports_for1, ebb_serial_listEBBports_if4, pyeval, try_comports _ _ _ _ _ _ hc, e, flatMap_keep,
    C19.Legacy.listPorts]
  cases C19.listLoop ports <;> rfl

theorem ebb3_serial_list_ebb_ports_body (fuel : Nat) (p : C19.Port) (cpl hv : Val) (acc : List Val) (w : World NoObj) :
    ebb3_serial_list_ebb_ports_fbody1 fuel ⟨cpl, .list acc, encPort p, hv⟩ w =
      .norm ⟨cpl, .list (acc ++ keep p), encPort p, .bool (C19.descMatch p || C19.idMatch p)⟩ w := by
  simp only [ebb3_serial_list_ebb_ports_fbody1, ebb3_serial_list_ebb_ports_if1, ebb3_serial_list_ebb_ports_if2,
    ebb3_serial_list_ebb_ports_if3, pyeval, keep]
  cases C19.descMatch p <;> cases C19.idMatch p <;>
    simp only [Bool.or_self, Bool.or_true, Bool.or_false, Bool.false_eq_true, if_true, if_false, List.append_nil]

/-- **`list_ebb_ports` (EBB3 layer).**  With `list(comports())` yielding the (encoded) port list, the regenerated
function returns what the hand model `C19.Ebb3.listPorts` returns (the kept ports in order, `None` when there are none)
and touches nothing. -/
theorem ebb3_serial_list_ebb_ports_bridge (fuel : Nat) (ports : List C19.Port) (w : World NoObj)
    (hc : Enumerates w ports) :
    ebb3_serial_list_ebb_ports fuel w = .val (encPorts (C19.Ebb3.listPorts ports)) w := by
  obtain ⟨_, ⟨pv, hv, rfl⟩, e⟩ := forLoop_acc (fun (env : ebb3_serial_list_ebb_ports_Env) v => { env with port := v })
    ebb3_serial_list_ebb_ports_fbody1 fuel encPort keep
    (fun acc env => ∃ pv hv, env = ⟨.list (ports.map encPort), .list acc, pv, hv⟩) w
    (by rintro acc p _ ⟨pv, hv, rfl⟩; exact ⟨_, ⟨_, _, rfl⟩, ebb3_serial_list_ebb_ports_body ..⟩)
    ports [] _ ⟨.unbound, .unbound, rfl⟩
  simp only [ebb3_serial_list_ebb_ports, ebb3_serial_list_ebb_ports_main, ebb3_serial_list_ebb_ports_try1,
    ebb3_serial_list_ebb_ports_for1, ebb3_serial_list_ebb_ports_if4, pyeval, try_comports _ _ _ _ _ _ hc, e,
    flatMap_keep, C19.Ebb3.listPorts]
  cases C19.listLoop ports <;> rfl

end C19Gen
end Plotink
