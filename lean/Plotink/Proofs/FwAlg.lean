import Plotink.Model.C03
import Mathlib.Tactic.Linarith
import Mathlib.Tactic.Ring
import Mathlib.Tactic.NormNum
import Mathlib.Tactic.LinearCombination
import Mathlib.Tactic.SplitIfs

/-! # Algebra of the firmware recurrences `Fw.t3` (C02, C17) and `Fw.lt` (C01, C03)

The LT recurrence is the T3 recurrence at `jerk = 0` (`t3_zero_jerk`). So `t3_closed` is the one closed form proved by
induction; the closed forms of `Fw.lt` and the LT clear rule (in the vocabulary of `Model/C03.lean`: `isNeg`, `startAcc`)
are its zero-jerk cases. Also here: the clear rules as predicates on the sequence of rates (two, resp. three, ticks of
look-ahead are enough). -/

namespace Plotink
open Fw

namespace T3

/-- the start rate after the two one-off truncating adjustments -/
def r0 (rate accel jerk : Int) : Int := rate - tdiv accel 2 + tdiv jerk 6

theorem t3_succ (jerk : Int) (k : Nat) (s : Int × Int × Int) :
    t3 jerk (k + 1) s = ((t3 jerk k s).1 + (t3 jerk k s).2.1, (t3 jerk k s).2.1 + jerk,
      (t3 jerk k s).2.2 + ((t3 jerk k s).1 + (t3 jerk k s).2.1)) := rfl

theorem t3_closed (jerk : Int) (k : Nat) (r a t : Int) :
    (t3 jerk k (r, a, t)).2.1 = a + k * jerk ∧
    2 * (t3 jerk k (r, a, t)).1 = 2 * r + 2 * k * a + jerk * k * (k - 1) ∧
    6 * (t3 jerk k (r, a, t)).2.2
      = 6 * t + 6 * k * r + 3 * a * k * (k + 1) + jerk * (k - 1) * k * (k + 1) := by
  induction k with
  | zero => simp [t3]
  | succ k ih =>
    obtain ⟨h1, h2, h3⟩ := ih
    rw [t3_succ]
    refine ⟨?_, ?_, ?_⟩
    · simp only; rw [h1]; push_cast; ring
    · simp only; push_cast; linear_combination h2 + 2 * h1
    · simp only; push_cast; linear_combination h3 + 3 * h2 + 6 * h1

theorem t3Rate_eq (rate accel jerk : Int) (k : Nat) :
    t3Rate rate accel jerk k = (t3 jerk k (r0 rate accel jerk, accel, 0)).1 := rfl

theorem t3Total_eq (rate accel jerk a0 : Int) (k : Nat) :
    t3Total rate accel jerk k a0 = (t3 jerk k (r0 rate accel jerk, accel, a0)).2.2 := rfl

theorem rate_closed (rate accel jerk : Int) (k : Nat) :
    2 * t3Rate rate accel jerk k
      = 2 * r0 rate accel jerk + 2 * k * accel + jerk * k * (k - 1) := by
  rw [t3Rate_eq]; exact (t3_closed jerk k _ _ _).2.1

theorem accel_closed (rate accel jerk : Int) (k : Nat) :
    t3Accel rate accel jerk k = accel + k * jerk := (t3_closed jerk k _ _ _).1

theorem total_closed (rate accel jerk a0 : Int) (T : Nat) :
    6 * t3Total rate accel jerk T a0
      = 6 * a0 + 6 * T * r0 rate accel jerk + 3 * accel * T * (T + 1) + jerk * (T - 1) * T * (T + 1) := by
  rw [t3Total_eq]; exact (t3_closed jerk T _ _ _).2.2

theorem rate_one (rate accel jerk : Int) : t3Rate rate accel jerk 1 = r0 rate accel jerk + accel := by
  have := rate_closed rate accel jerk 1; push_cast at this; linarith

theorem rate_two (rate accel jerk : Int) :
    t3Rate rate accel jerk 2 = r0 rate accel jerk + 2 * accel + jerk := by
  have := rate_closed rate accel jerk 2; push_cast at this; linarith

theorem rate_three (rate accel jerk : Int) :
    t3Rate rate accel jerk 3 = r0 rate accel jerk + 3 * accel + 3 * jerk := by
  have := rate_closed rate accel jerk 3; push_cast at this; linarith

theorem t3_zero_jerk (a : Int) (k : Nat) (r t : Int) :
    t3 0 k (r, a, t) = ((lt a k (r, t)).1, a, (lt a k (r, t)).2) := by
  induction k with
  | zero => rfl
  | succ k ih => rw [t3_succ, ih]; simp [lt]

theorem tdiv_zero_six : tdiv 0 6 = 0 := by decide

end T3

theorem lt_closed (accel r0 a0 : Int) (T : Nat) :
    (lt accel T (r0, a0)).1 = r0 + T * accel ∧
    2 * (lt accel T (r0, a0)).2 = 2 * a0 + 2 * T * r0 + accel * T * (T + 1) := by
  obtain ⟨-, h2, h3⟩ := T3.t3_closed 0 T r0 accel a0
  rw [T3.t3_zero_jerk] at h2 h3
  simp only at h2 h3
  constructor <;> linarith

theorem ltRate_closed (rate accel : Int) (k : Nat) :
    ltRate rate accel k = rate - tdiv accel 2 + k * accel :=
  (lt_closed accel _ 0 k).1

theorem ltTotal_closed (rate accel : Int) (T : Nat) (a0 : Int) :
    2 * ltTotal rate accel T a0 = 2 * a0 + 2 * T * (rate - tdiv accel 2) + accel * T * (T + 1) :=
  (lt_closed accel _ a0 T).2

/-- the same with `k = 2·rate_effective` of `calculate_lm` -/
theorem ltTotal_two (rate accel : Int) (T : Nat) (a0 : Int) :
    2 * ltTotal rate accel T a0 = 2 * a0 + C03.kk rate accel * T + accel * T * T := by
  rw [ltTotal_closed]; unfold C03.kk; ring

theorem ltTotal_zero (rate accel a0 : Int) : ltTotal rate accel 0 a0 = a0 := rfl

theorem ltTotal_succ (rate accel : Int) (T : Nat) (a0 : Int) :
    ltTotal rate accel (T + 1) a0 = ltTotal rate accel T a0 + ltRate rate accel (T + 1) := by
  unfold ltTotal ltRate
  simp only [lt]
  rw [(lt_closed accel _ a0 T).1, (lt_closed accel _ 0 T).1]

/-- "first non-zero motion is backward", stated on the sequence with no bound on the look-ahead -/
def BackwardFirst (rates : Nat → Int) : Prop :=
  ∃ k, 1 ≤ k ∧ rates k < 0 ∧ ∀ j, 1 ≤ j → j < k → rates j = 0

theorem firstMotionBackward_iff (rates : Nat → Int) (k fuel : Nat) :
    Fw.firstMotionBackward rates k fuel = true ↔
      ∃ m, k ≤ m ∧ m < k + fuel ∧ rates m < 0 ∧ ∀ j, k ≤ j → j < m → rates j = 0 := by
  induction fuel generalizing k with
  | zero =>
    simp only [Fw.firstMotionBackward, Bool.false_eq_true, false_iff]
    rintro ⟨m, h1, h2, _⟩; omega
  | succ f ih =>
    simp only [Fw.firstMotionBackward]
    by_cases hn : rates k < 0
    · simp only [hn, if_true, true_iff]
      exact ⟨k, le_refl _, by omega, hn, fun j h1 h2 => by omega⟩
    · by_cases hp : rates k > 0
      · simp only [hn, hp, if_false, if_true, Bool.false_eq_true, false_iff]
        rintro ⟨m, h1, _, h3, h4⟩
        rcases Nat.eq_or_lt_of_le h1 with rfl | hlt
        · exact hn h3
        · have := h4 k (le_refl _) hlt; omega
      · have hz : rates k = 0 := by omega
        simp only [hn, hp, if_false]
        rw [ih (k + 1)]
        constructor
        · rintro ⟨m, h1, h2, h3, h4⟩
          refine ⟨m, by omega, by omega, h3, fun j hj1 hj2 => ?_⟩
          rcases Nat.eq_or_lt_of_le hj1 with rfl | hlt
          · exact hz
          · exact h4 j hlt hj2
        · rintro ⟨m, h1, h2, h3, h4⟩
          rcases Nat.eq_or_lt_of_le h1 with rfl | hlt
          · exact absurd h3 hn
          · exact ⟨m, hlt, by omega, h3, fun j hj1 hj2 => h4 j (by omega) hj2⟩

/-- two zero rates force `accel = 0`, and then every rate is zero -/
theorem lt_backward_witness_le_two (rate accel : Int) (m : Nat)
    (hneg : Fw.ltRate rate accel m < 0) (hz : ∀ j, 1 ≤ j → j < m → Fw.ltRate rate accel j = 0) :
    m ≤ 2 := by
  by_contra hgt
  have h1 := hz 1 (le_refl _) (by omega)
  have h2 := hz 2 (by omega) (by omega)
  rw [ltRate_closed] at h1 h2 hneg
  push_cast at h1 h2
  have ha : accel = 0 := by linarith
  rw [ha] at hneg h1
  simp at hneg h1
  omega

theorem firstMotionBackward_fuel (rate accel : Int) (fuel : Nat) (hf : 2 ≤ fuel) :
    Fw.firstMotionBackward (Fw.ltRate rate accel) 1 fuel = Fw.firstMotionBackward (Fw.ltRate rate accel) 1 2 := by
  rw [Bool.eq_iff_iff, firstMotionBackward_iff, firstMotionBackward_iff]
  constructor
  · rintro ⟨m, h1, _, h3, h4⟩
    have := lt_backward_witness_le_two rate accel m h3 h4
    exact ⟨m, h1, by omega, h3, h4⟩
  · rintro ⟨m, h1, h2, h3, h4⟩
    exact ⟨m, h1, by omega, h3, h4⟩

theorem firstMotionBackward_two_iff (rate accel : Int) :
    Fw.firstMotionBackward (Fw.ltRate rate accel) 1 2 = true ↔ BackwardFirst (Fw.ltRate rate accel) := by
  rw [firstMotionBackward_iff]
  constructor
  · rintro ⟨m, h1, _, h3, h4⟩; exact ⟨m, h1, h3, h4⟩
  · rintro ⟨m, h1, h3, h4⟩
    exact ⟨m, h1, by have := lt_backward_witness_le_two rate accel m h3 h4; omega, h3, h4⟩

namespace T3

/-- the three-level test of `move_dist_t3` under `accum == "clear"`, as integer arithmetic -/
def codeClear (rate accel jerk : Int) : Int :=
  if r0 rate accel jerk + accel < 0 then 2147483647
  else if r0 rate accel jerk + accel = 0 then
    (if accel + jerk < 0 then 2147483647
     else if accel + jerk = 0 then (if jerk < 0 then 2147483647 else 0) else 0)
  else 0

theorem fmb_three (f : Nat → Int) :
    firstMotionBackward f 1 3 =
      (if f 1 < 0 then true else if f 1 > 0 then false else
       if f 2 < 0 then true else if f 2 > 0 then false else
       if f 3 < 0 then true else if f 3 > 0 then false else false) := by
  simp [firstMotionBackward]

theorem fmb_zero (f : Nat → Int) (h : ∀ i, f i = 0) (k fuel : Nat) : firstMotionBackward f k fuel = false := by
  induction fuel generalizing k with
  | zero => rfl
  | succ n ih => simp [firstMotionBackward, h k, ih]

theorem fmb_succ (f : Nat → Int) (k n : Nat) :
    firstMotionBackward f k (n + 1) =
      (if f k < 0 then true else if f k > 0 then false else firstMotionBackward f (k + 1) n) := rfl

theorem fmb_three_iff (f : Nat → Int) :
    firstMotionBackward f 1 3 = true ↔ (f 1 < 0 ∨ (f 1 = 0 ∧ (f 2 < 0 ∨ (f 2 = 0 ∧ f 3 < 0)))) := by
  rw [fmb_three]
  by_cases h1 : f 1 < 0
  · simp [h1]
  by_cases h1' : f 1 > 0
  · simp only [h1, h1', if_true, if_false]
    constructor
    · intro h; cases h
    · intro h; exfalso; rcases h with h | ⟨h, _⟩ <;> omega
  have e1 : f 1 = 0 := by omega
  by_cases h2 : f 2 < 0
  · simp [h2, e1]
  by_cases h2' : f 2 > 0
  · simp only [h1, h1', h2, h2', if_true, if_false]
    constructor
    · intro h; cases h
    · intro h; exfalso; rcases h with h | ⟨_, h | ⟨h, _⟩⟩ <;> omega
  have e2 : f 2 = 0 := by omega
  by_cases h3 : f 3 < 0
  · simp [h3, e1, e2]
  · simp only [h1, h1', h2, h2', h3, if_false, ite_self]
    constructor
    · intro h; cases h
    · intro h; exfalso; rcases h with h | ⟨_, h | ⟨_, h⟩⟩ <;> omega

theorem clear_eq (rate accel jerk : Int) : t3Clear rate accel jerk = codeClear rate accel jerk := by
  unfold t3Clear codeClear
  simp only [fmb_three_iff, rate_one, rate_two, rate_three, two31]
  generalize r0 rate accel jerk = r
  by_cases h1 : r + accel < 0
  · rw [if_pos (Or.inl h1), if_pos h1]; rfl
  rw [if_neg h1]
  by_cases h2 : r + accel = 0
  · rw [if_pos h2]
    by_cases h3 : accel + jerk < 0
    · rw [if_pos h3, if_pos (Or.inr ⟨h2, Or.inl (by omega)⟩)]; rfl
    rw [if_neg h3]
    by_cases h4 : accel + jerk = 0
    · rw [if_pos h4]
      by_cases h5 : jerk < 0
      · rw [if_pos h5, if_pos (Or.inr ⟨h2, Or.inr ⟨by omega, by omega⟩⟩)]; rfl
      · rw [if_neg h5, if_neg (by omega)]
    · rw [if_neg h4, if_neg (by omega)]
  · rw [if_neg h2, if_neg (by omega)]

/-- three zero rates force `r0 = accel = jerk = 0`, and then every rate is zero -/
theorem backward_witness_le_three (rate accel jerk : Int) (m : Nat)
    (hneg : t3Rate rate accel jerk m < 0) (hz : ∀ j, 1 ≤ j → j < m → t3Rate rate accel jerk j = 0) : m ≤ 3 := by
  by_contra hgt
  have h1 := hz 1 (le_refl _) (by omega)
  have h2 := hz 2 (by omega) (by omega)
  have h3 := hz 3 (by omega) (by omega)
  rw [rate_one] at h1; rw [rate_two] at h2; rw [rate_three] at h3
  obtain rfl : jerk = 0 := by omega
  obtain rfl : accel = 0 := by omega
  have hc := rate_closed rate 0 0 m
  simp only [mul_zero, zero_mul, add_zero] at hc h1
  omega

theorem clear_fuel (rate accel jerk : Int) (m : Nat) :
    firstMotionBackward (t3Rate rate accel jerk) 1 (3 + m) = firstMotionBackward (t3Rate rate accel jerk) 1 3 := by
  rw [Bool.eq_iff_iff, firstMotionBackward_iff, firstMotionBackward_iff]
  constructor
  · rintro ⟨k, h1, _, h3, h4⟩
    exact ⟨k, h1, by have := backward_witness_le_three rate accel jerk k h3 h4; omega, h3, h4⟩
  · rintro ⟨k, h1, h2, h3, h4⟩
    exact ⟨k, h1, by omega, h3, h4⟩

theorem codeClear_range (rate accel jerk : Int) :
    0 ≤ codeClear rate accel jerk ∧ codeClear rate accel jerk < 2 ^ 31 := by
  rw [← clear_eq]; unfold t3Clear two31; split_ifs <;> constructor <;> norm_num

theorem t3Rate_zero_jerk (rate accel : Int) (k : Nat) : t3Rate rate accel 0 k = ltRate rate accel k := by
  unfold t3Rate ltRate t3Start
  rw [tdiv_zero_six, add_zero, t3_zero_jerk]

theorem t3Total_zero_jerk (rate accel a0 : Int) (T : Nat) : t3Total rate accel 0 T a0 = ltTotal rate accel T a0 := by
  unfold t3Total ltTotal t3Start
  rw [tdiv_zero_six, add_zero, t3_zero_jerk]

theorem t3Clear_zero_jerk (rate accel : Int) : t3Clear rate accel 0 = ltClear rate accel := by
  unfold t3Clear ltClear
  rw [funext (t3Rate_zero_jerk rate accel), firstMotionBackward_fuel rate accel 3 (by norm_num)]

theorem t3Spec_zero_jerk (rate accel : Int) (T : Nat) (acc : Option Int) :
    t3Spec rate accel 0 T acc = ltSpec rate accel T acc := by
  unfold t3Spec ltSpec
  cases acc with
  | none => simp only [t3Clear_zero_jerk, t3Total_zero_jerk]
  | some a => simp only [t3Total_zero_jerk]

end T3

namespace C03

theorem isNeg_iff (rate accel : Int) : isNeg rate accel ↔
    (rate - tdiv accel 2 + accel < 0 ∨ (rate - tdiv accel 2 + accel = 0 ∧ accel < 0)) := Iff.rfl

/-- the LT clear rule, `initial_rate_negative` of `ebb_calc`: the three-level rule `T3.clear_eq` at `jerk = 0` -/
theorem ltClear_eq (rate accel : Int) : ltClear rate accel = if isNeg rate accel then two31 - 1 else 0 := by
  rw [← T3.t3Clear_zero_jerk, T3.clear_eq]
  have hn := isNeg_iff rate accel
  unfold T3.codeClear T3.r0 two31
  rw [T3.tdiv_zero_six, add_zero, add_zero]
  by_cases h1 : rate - tdiv accel 2 + accel < 0
  · rw [if_pos h1, if_pos (hn.mpr (Or.inl h1))]; rfl
  rw [if_neg h1]
  by_cases h2 : rate - tdiv accel 2 + accel = 0
  · by_cases h3 : accel < 0
    · rw [if_pos h2, if_pos h3, if_pos (hn.mpr (Or.inr ⟨h2, h3⟩))]; rfl
    · rw [if_pos h2, if_neg h3, if_neg (mt hn.mp (by omega)), if_neg (lt_irrefl 0), ite_self]
  · rw [if_neg h2, if_neg (mt hn.mp (by omega))]

theorem startAcc_none (rate accel : Int) : startAcc rate accel none = ltClear rate accel :=
  (ltClear_eq rate accel).symm

theorem startAcc_eq_lmStart (rate accel : Int) (acc : Option Int) :
    startAcc rate accel acc = lmStart rate accel acc := by
  cases acc with
  | some a => rfl
  | none => exact startAcc_none rate accel

theorem startAcc_range (rate accel : Int) (acc : Option Int) (h : ∀ a, acc = some a → 0 ≤ a ∧ a < 2 ^ 31) :
    0 ≤ startAcc rate accel acc ∧ startAcc rate accel acc < 2 ^ 31 := by
  cases acc with
  | some a => exact h a rfl
  | none => unfold startAcc two31; split_ifs <;> norm_num

end C03
end Plotink
