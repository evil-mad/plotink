import Plotink.Proofs.Ebb3GenQuery
import Plotink.Proofs.C05Methods
import Plotink.Gen.EBBMotionWrap_dispatch

/-! # Bridges of the methods of shape *guard → `x = self.query(text)` → decode* (`var_read`, `dio_b_read`, `query_nickname`,
`query_current`, `query_voltage`, `query_steps`, `motors_query_enabled`), and of `write_nickname` -/

namespace Plotink
namespace Ebb3Gen
open PyObj Gen

theorem isSome_err (w : World EBB3_Obj) (ho : ObjOk w.obj) : (absWorld w).st.err.isSome = !isNone w.obj.err := by
  simp only [absWorld, absSt]
  rcases ho.err.cases with h | ⟨s, h⟩ <;> simp [h, isNone, absOpt]

/-- `int(value)` on what `query` returned -/
theorem b_int_sim (v : Ebb3.Val) (aw : Ebb3.World Ebb3.Script) : ∃ r : Except Ebb3.PyExc Int,
    b_int (encVal v) = (match r with | .ok z => .ok (.int z) | .error e => .error (excOfEbb3 e)) ∧
    Ebb3.intOfVal v aw = (match r with | .ok z => (.ok (.int z), aw) | .error e => (.error e, aw)) := by
  cases v with
  | none | pair _ _ => exact ⟨.error .typeError, rfl, rfl⟩
  | bool b => exact ⟨.ok _, rfl, rfl⟩
  | int z => exact ⟨.ok _, rfl, rfl⟩
  | str s =>
    cases h : Ebb3.pyInt 10 s with
    | some z => exact ⟨.ok z, by simp [b_int, encVal, h], by simp [Ebb3.intOfVal, h]⟩
    | none => exact ⟨.error .valueError, by simp [b_int, encVal, h, excOfEbb3], by simp [Ebb3.intOfVal, h]⟩

theorem var_read_bridge (fuel : Nat) (hf : 26 ≤ fuel) (i : Int) (w : World EBB3_Obj) (hg : Good w) :
    Sim (EBB3_var_read fuel (.int i) w)
      (Ebb3.run Ebb3.srcParams Ebb3.scriptDev (.var_read i) (absWorld w)) := by
  unfold EBB3_var_read EBB3_var_read_main EBB3_var_read_if1 EBB3_var_read_if2
  rw [block_cons2]
  refine SimK.guarded .none hg fun _ => SimK.block ?_
  rw [assign_onRes]
  refine SimK.query hf hg ?_ (isAscii_lit_int _ _ (by decide)) fun v w1 hg1 _ => SimK.next (SimK.block ?_)
  · fstr_eval
  rw [Ebb3.bind_apply, Ebb3.getSt_apply, errGuard_stmt _ _ _ _ hg1.obj]
  simp only [isSome_err w1 hg1.obj]
  cases isNone w1.obj.err
  · exact SimK.done (v := .none) hg1
  · refine SimK.next ?_
    rw [block_one, return_onRes]
    simp only [load_of_bound (encVal_ne_unbound v), app1_ok]
    obtain ⟨r, h1, h2⟩ := b_int_sim v (absWorld w1)
    rw [h1, if_neg (by decide), h2]
    cases r with
    | ok z => exact SimK.done (v := .int z) hg1
    | error e => exact SimK.raised hg1

theorem dio_b_read_bridge (fuel : Nat) (hf : 26 ≤ fuel) (pin : Int) (w : World EBB3_Obj) (hg : Good w) :
    Sim (EBBMotionWrap_dio_b_read fuel (.int pin) w)
      (Ebb3.run Ebb3.srcParams Ebb3.scriptDev (.dio_b_read pin) (absWorld w)) := by
  refine SimK.guarded .none hg fun _ => ?_
  rw [block_cons2, block_cons2, block_one]
  refine SimK.queryDecode hf hg (get := EBBMotionWrap_dio_b_read_Env.response) (fun _ _ => rfl) ?_
    (isAscii_lit_int _ _ (by decide)) .none (fun _ => rfl) rfl fun s w1 hg1 => SimK.ofRun ?_
  · fstr_eval
  simp only [PyObj.run, return_, load_str, app1_ok, b_int, Ebb3.boolOfStr]
  cases hpi : Ebb3.pyInt 10 s with
  | some z =>
    simp only [ofP_ok, app1_ok, b_bool, truthy, ok_apply]
    refine ⟨?_, rfl, hg1⟩
    simp only [encVal]
    congr 1
    by_cases hz : z = 0 <;> simp [hz]
  | none =>
    simp only [ofP_error, app1_raise, raise_apply]
    exact ⟨rfl, rfl, hg1⟩

theorem objOk_setName (o : EBB3_Obj) (ho : ObjOk o) (n : List Char) : ObjOk { o with name := .str n } :=
  ⟨ho.port, ho.err, ho.version, ho.version_parsed, trivial, ho.caller, ho.port_name⟩

theorem query_nickname_bridge (fuel : Nat) (hf : 26 ≤ fuel) (w : World EBB3_Obj) (hg : Good w) :
    Sim (EBB3_query_nickname fuel w)
      (Ebb3.run Ebb3.srcParams Ebb3.scriptDev .query_nickname (absWorld w)) := by
  refine SimK.guarded .none hg fun _ => SimK.block ?_
  show SimK _ _ _ _ (((Ebb3.queryP Ebb3.srcParams Ebb3.scriptDev (some "QT".toList)).run >>= _) (absWorld w))
  rw [lit_QT, assign_onRes]
  refine SimK.query hf hg rfl (by decide) fun v w1 hg1 hv => SimK.next (SimK.ofRun ?_)
  rw [block_one]
  unfold EBB3_query_nickname_if2 EBB3_query_nickname_if3
  rcases hv with rfl | ⟨s, rfl⟩
  · simp only [PyObj.run, ifte, encVal, load_none, app1_ok, op_is_not_none, isNone, ofP_ok, ok_apply, truthy_bool,
      Bool.not_true, Bool.false_eq_true, ↓reduceIte, pass]
    exact ⟨rfl, rfl, hg1⟩
  · by_cases hsp : Ebb3.isSpaceStr s = true
    · simp only [PyObj.run, ifte, encVal, load_str, app1_ok, op_is_not_none, isNone, ofP_ok, ok_apply, truthy_bool,
        Bool.not_false, ↓reduceIte, meth_isspace, not_ok, hsp, Bool.not_true, Bool.false_eq_true, pass]
      simp only [Ebb3.bind_apply, Ebb3.pure_apply]
      exact ⟨rfl, rfl, hg1⟩
    · simp only [PyObj.run, ifte, encVal, load_str, app1_ok, op_is_not_none, isNone, ofP_ok, ok_apply, truthy_bool,
        Bool.not_false, ↓reduceIte, meth_isspace, not_ok, hsp, setattr, b_str, strOf, meth_strip]
      simp only [Bool.false_eq_true, ↓reduceIte, Ebb3.bind_apply, Ebb3.setName, Ebb3.modifySt_apply, Ebb3.pure_apply]
      exact ⟨rfl, rfl, hg1.setObj (objOk_setName _ hg1.obj _)⟩

theorem srcVThreshold : Ebb3.srcParams.vThreshold = 250 := rfl

/-- `(F(l[0]), F(l[1]))` on a list of strings, for a conversion `F` of a string to an integer that the model has as `G`
(with the continuation as an argument): the first field is converted before the second is looked up -/
theorem pair2_sim {σ : Type} (F : Eff EBB3_Obj → Eff EBB3_Obj)
    (G : List Char → (Int → Ebb3.M Ebb3.Script Ebb3.Val) → Ebb3.M Ebb3.Script Ebb3.Val)
    (hF : ∀ s, ∃ r : Except Ebb3.PyExc Int,
      F (ok (.str s)) = (match r with | .ok z => ok (.int z) | .error e => raise (excOfEbb3 e)) ∧
      ∀ k aw, G s k aw = (match r with | .ok z => k z aw | .error e => (.error e, aw)))
    (hFr : F (raise .indexError) = raise .indexError)
    (fuel : Nat) (env : σ) (l : List (List Char)) (hne : l ≠ []) (e : Expr EBB3_Obj σ)
    (he : e fuel env = mkTuple [F (app2 op_getitem (ok (.list (l.map Val.str))) (ok (.int 0))),
      F (app2 op_getitem (ok (.list (l.map Val.str))) (ok (.int 1)))]) (w : World EBB3_Obj) (hg : Good w) :
    Sim (PyObj.run (return_ e) fuel env w)
      ((G (l.getD 0 []) fun a => match (generalizing := false) l with
        | _ :: s1 :: _ => G s1 fun b => pure (Ebb3.Val.pair (.int a) (.int b))
        | _ => Ebb3.M.raise .indexError) (absWorld w)) := by
  match l, hne with
  | [a], _ =>
    have h0 : op_getitem (.list [.str a]) (.int 0) = .ok (.str a) := rfl
    have h1 : op_getitem (.list [.str a]) (.int 1) = .error .indexError := rfl
    simp only [PyObj.run, return_, he, mkTuple, List.map_cons, List.map_nil, app2_ok, h0, h1, ofP_ok, ofP_error, hFr,
      List.getD_cons_zero]
    obtain ⟨_ | z, e1, e2⟩ := hF a
    · simp only [e1, e2, evalList, bind_raise, raise_apply]
      exact ⟨rfl, rfl, hg⟩
    · simp only [e1, e2, evalList, bind_ok, bind_raise, raise_apply, Ebb3.raise_apply]
      exact ⟨rfl, rfl, hg⟩
  | a :: b :: r, _ =>
    have h0 : op_getitem (.list (.str a :: .str b :: r.map Val.str)) (.int 0) = .ok (.str a) := by
      simp [op_getitem, intOf, normIdx]
    have h1 : op_getitem (.list (.str a :: .str b :: r.map Val.str)) (.int 1) = .ok (.str b) := by
      simp [op_getitem, intOf, normIdx]
    simp only [PyObj.run, return_, he, mkTuple, List.map_cons, app2_ok, h0, h1, ofP_ok, List.getD_cons_zero]
    obtain ⟨_ | za, e1, e2⟩ := hF a
    · simp only [e1, e2, evalList, bind_raise, raise_apply]
      exact ⟨rfl, rfl, hg⟩
    · obtain ⟨_ | zb, e3, e4⟩ := hF b
      · simp only [e1, e2, e3, e4, evalList, bind_ok, bind_raise, raise_apply]
        exact ⟨rfl, rfl, hg⟩
      · simp only [e1, e2, e3, e4, evalList, bind_ok, ok_apply, Ebb3.pure_apply]
        exact ⟨rfl, rfl, hg⟩

/-- `int(s)` on a string against the model's `pyInt 10` -/
theorem b_int_str (s : List Char) : ∃ r : Except Ebb3.PyExc Int,
    (app1 b_int (ok (.str s)) : Eff EBB3_Obj) = (match r with | .ok z => ok (.int z) | .error e => raise (excOfEbb3 e)) ∧
    ∀ (k : Int → Ebb3.M Ebb3.Script Ebb3.Val) aw, (Ebb3.M.ofOption .valueError (Ebb3.pyInt 10 s) >>= k) aw
      = (match r with | .ok z => k z aw | .error e => (.error e, aw)) := by
  simp only [app1_ok, b_int]
  cases Ebb3.pyInt 10 s with
  | some z => exact ⟨.ok z, rfl, fun _ _ => rfl⟩
  | none => exact ⟨.error .valueError, rfl, fun _ _ => rfl⟩

/-- `(int(l[0]), int(l[1]))` on a list of strings = the model's `int2` -/
theorem int2_sim {σ : Type} (fuel : Nat) (env : σ) (l : List (List Char)) (hne : l ≠ []) (e : Expr EBB3_Obj σ)
    (he : e fuel env = mkTuple [app1 b_int (app2 op_getitem (ok (.list (l.map Val.str))) (ok (.int 0))),
      app1 b_int (app2 op_getitem (ok (.list (l.map Val.str))) (ok (.int 1)))]) (w : World EBB3_Obj) (hg : Good w) :
    Sim (PyObj.run (return_ e) fuel env w) (Ebb3.int2 l (absWorld w)) :=
  pair2_sim (app1 b_int) (fun s k => Ebb3.M.ofOption .valueError (Ebb3.pyInt 10 s) >>= k) b_int_str rfl fuel env l hne e he w hg

theorem query_current_bridge (fuel : Nat) (hf : 26 ≤ fuel) (w : World EBB3_Obj) (hg : Good w) :
    Sim (EBBMotionWrap_query_current fuel w)
      (Ebb3.run Ebb3.srcParams Ebb3.scriptDev .query_current (absWorld w)) := by
  unfold EBBMotionWrap_query_current EBBMotionWrap_query_current_main EBBMotionWrap_query_current_if1
  rw [block_cons2]
  refine SimK.guarded (.pair .none .none) hg fun _ => ?_
  rw [block_cons2, block_cons2]
  show SimK _ _ _ _ (((Ebb3.queryP Ebb3.srcParams Ebb3.scriptDev (some "QC".toList)).run >>= _) (absWorld w))
  rw [lit_QC]
  refine SimK.queryDecode hf hg (get := EBBMotionWrap_query_current_Env.response) (fun _ _ => rfl) rfl (by decide)
    (.pair .none .none) (fun _ => rfl) rfl fun s w1 hg1 => SimK.ofRun ?_
  unfold EBBMotionWrap_query_current_if3
  simp only [Ebb3.currentDecode]
  rcases hsp : Ebb3.split1 ',' s with ⟨a, _ | b⟩
  · simp only [PyObj.run, block_cons2, block_one, seq, ifte, assign, load_str, app1_ok, meth_split1_char, hsp, ofP_ok,
      ok_apply, return_, mkTuple]
    exact ⟨rfl, rfl, hg1⟩
  · rw [block_cons2, run_seq_assign_ok (v := .list [.str a, .str b]) (by
        simp only [load_str, app1_ok, meth_split1_char, hsp, ofP_ok]),
      block_cons2, run_seq_assign_ok (v := .int 2) rfl, block_cons2, seq_ifte, run_ifte (p := true) rfl, if_pos rfl,
      run_seq_return]
    exact int2_sim fuel _ [a, b] (by simp) _ rfl w1 hg1

theorem query_voltage_bridge (fuel : Nat) (hf : 26 ≤ fuel) (th : Option Int) (w : World EBB3_Obj) (hg : Good w) :
    Sim (EBBMotionWrap_query_voltage fuel (encOptInt th) w)
      (Ebb3.run Ebb3.srcParams Ebb3.scriptDev (.query_voltage th) (absWorld w)) := by
  refine SimK.guarded .none hg fun _ => ?_
  rw [block_cons2, seq_norm (env' := ⟨.int (th.getD Ebb3.srcParams.vThreshold), .unbound, .unbound, .unbound, .unbound⟩) (w' := w) (by
    unfold EBBMotionWrap_query_voltage_if2
    cases th <;>
      simp only [encOptInt, ifte, load_none, load_int, app1_ok, op_is_none, isNone, ofP_ok, ok_apply, truthy_bool,
        Bool.false_eq_true, ↓reduceIte, assign, pass, Option.getD, srcVThreshold])]
  rw [block_cons2, block_cons2]
  show SimK _ _ _ _ (((Ebb3.queryP Ebb3.srcParams Ebb3.scriptDev (some "QC".toList)).run >>= _) (absWorld w))
  rw [lit_QC]
  refine SimK.queryDecode hf hg (get := EBBMotionWrap_query_voltage_Env.response) (fun _ _ => rfl) rfl (by decide)
    .none (fun _ => rfl) rfl fun s w1 hg1 => SimK.ofRun ?_
  unfold EBBMotionWrap_query_voltage_if4 EBBMotionWrap_query_voltage_if5
  generalize th.getD Ebb3.srcParams.vThreshold = t
  simp only [Ebb3.voltageDecode]
  rcases hsp : Ebb3.split1 ',' s with ⟨a, _ | b⟩
  · simp only [PyObj.run, block_cons2, block_one, seq, ifte, load_str, app1_ok, ofP_ok, ok_apply, assign,
      meth_split1_char, hsp, return_]
    exact ⟨rfl, rfl, hg1⟩
  · have hg1' : op_getitem (.list [.str a, .str b]) (.int 1) = .ok (.str b) := rfl
    simp only [PyObj.run, block_cons2, block_one, seq, ifte, load_str, app1_ok, ofP_ok, ok_apply,
      truthy_bool, assign, meth_split1_char, hsp, op_len, List.length_cons,
      List.length_nil, load_int, app2_ok, op_gt, ltVal, intOf, ofOptBool, return_, load_list, hg1', b_int]
    cases hb' : Ebb3.pyInt 10 b with
    | none =>
      simp only [ofP_error, raise_apply]
      exact ⟨rfl, rfl, hg1⟩
    | some zb =>
      have h12 : decide ((1 : Int) < ((0 + 1 + 1 : Nat) : Int)) = true := by decide
      simp only [ofP_ok, ok_apply, load_int, app2_ok, op_lt, ltVal, intOf, ofOptBool, truthy_bool, h12, ↓reduceIte]
      by_cases hlt : zb < t
      · simp only [hlt, decide_true, ↓reduceIte, Bool.not_true]
        exact ⟨rfl, rfl, hg1⟩
      · simp only [hlt, decide_false, Bool.false_eq_true, ↓reduceIte, pass, Bool.not_false]
        exact ⟨rfl, rfl, hg1⟩

theorem errTruthy_eq (w : World EBB3_Obj) (ho : ObjOk w.obj) : Ebb3.errTruthy (absWorld w).st = truthy w.obj.err := by
  simp only [Ebb3.errTruthy, absWorld, absSt]
  rcases ho.err.cases with h | ⟨s, h⟩ <;> simp [h, absOpt, truthy]

theorem splitOn_ne_nil (sep : Char) : ∀ s : List Char, Ebb3.splitOn sep s ≠ []
  | [] => by simp [Ebb3.splitOn]
  | c :: cs => by
    have ih := splitOn_ne_nil sep cs
    simp only [Ebb3.splitOn]
    split
    · simp
    · split
      · simp
      · simp

theorem query_steps_bridge (fuel : Nat) (hf : 26 ≤ fuel) (w : World EBB3_Obj) (hg : Good w) :
    Sim (EBBMotionWrap_query_steps fuel w)
      (Ebb3.run Ebb3.srcParams Ebb3.scriptDev .query_steps (absWorld w)) := by
  refine SimK.guarded .none hg fun _ => SimK.block ?_
  show SimK _ _ _ _ (((Ebb3.queryP Ebb3.srcParams Ebb3.scriptDev (some "QS".toList)).run >>= fun r => Ebb3.M.getSt >>= fun st =>
    if Ebb3.errTruthy st = true then pure Ebb3.Val.none
    else match r with
      | .str s => Ebb3.int2 (Ebb3.splitOn ',' (Ebb3.strip s))
      | _ => Ebb3.M.raise .attributeError) (absWorld w))
  rw [lit_QS, assign_onRes]
  refine SimK.query hf hg rfl (by decide) fun v w1 hg1 hv => SimK.next (SimK.ofRun ?_)
  unfold EBBMotionWrap_query_steps_if2
  rw [Ebb3.bind_apply, Ebb3.getSt_apply, block_cons2, seq_ifte, run_ifte_of (getattr_err w1 hg1.obj)]
  simp only [errTruthy_eq w1 hg1.obj]
  cases truthy w1.obj.err
  · simp only [Bool.false_eq_true, ↓reduceIte]
    show Sim (PyObj.run (block _) fuel _ w1) _
    rcases hv with rfl | ⟨s, rfl⟩
    · simp only [PyObj.run, block_cons2, seq, assign, encVal, load_none, app1_ok, meth_strip, ofP_error, app1_raise, raise_apply]
      exact ⟨rfl, rfl, hg1⟩
    · rw [block_cons2, block_one, run_seq_assign_ok (v := .list ((Ebb3.splitOn ',' (Ebb3.strip s)).map Val.str)) (by
        simp only [encVal, load_str, app1_ok, meth_strip, ofP_ok, meth_split_char])]
      exact int2_sim fuel _ _ (splitOn_ne_nil _ _) _ rfl w1 hg1
  · exact ⟨rfl, rfl, hg1⟩

/-- `res_map`, the decode table of `motors_query_enabled` -/
def resDict : Val := .dict [(.int 16, .int 1), (.int 8, .int 2), (.int 4, .int 3), (.int 2, .int 4), (.int 1, .int 5), (.int 0, .int 0)]

theorem resDict_get (a : Int) :
    op_getitem resDict (.int a) = (match Ebb3.resMap a with | some r => .ok (.int r) | Option.none => .error .keyError) := by
  unfold resDict Ebb3.resMap
  simp only [op_getitem, dictGet, pyEq]
  by_cases h16 : a = 16
  · subst h16; rfl
  by_cases h8 : a = 8
  · subst h8; rfl
  by_cases h4 : a = 4
  · subst h4; rfl
  by_cases h2 : a = 2
  · subst h2; rfl
  by_cases h1 : a = 1
  · subst h1; rfl
  by_cases h0 : a = 0
  · subst h0; rfl
  simp [h16, h8, h4, h2, h1, h0]

/-- `res_map[int(s)]` on a string against the model's `resMap (pyInt 10 s)` -/
theorem resMap_str (s : List Char) : ∃ r : Except Ebb3.PyExc Int,
    (app2 op_getitem (ok resDict) (app1 b_int (ok (.str s))) : Eff EBB3_Obj)
      = (match r with | .ok z => ok (.int z) | .error e => raise (excOfEbb3 e)) ∧
    ∀ (k : Int → Ebb3.M Ebb3.Script Ebb3.Val) aw, (Ebb3.M.ofOption .valueError (Ebb3.pyInt 10 s) >>= fun a =>
      Ebb3.M.ofOption .keyError (Ebb3.resMap a) >>= k) aw = (match r with | .ok z => k z aw | .error e => (.error e, aw)) := by
  simp only [app1_ok, b_int]
  cases Ebb3.pyInt 10 s with
  | none => exact ⟨.error .valueError, rfl, fun _ _ => rfl⟩
  | some z =>
    simp only [ofP_ok, app2_ok, resDict_get, Ebb3.bind_apply, Ebb3.ofOption_some]
    cases Ebb3.resMap z with
    | none => exact ⟨.error .keyError, rfl, fun _ _ => rfl⟩
    | some r => exact ⟨.ok r, rfl, fun _ _ => rfl⟩

theorem motors_query_enabled_bridge (fuel : Nat) (hf : 26 ≤ fuel) (w : World EBB3_Obj) (hg : Good w) :
    Sim (EBBMotionWrap_motors_query_enabled fuel w)
      (Ebb3.run Ebb3.srcParams Ebb3.scriptDev .motors_query_enabled (absWorld w)) := by
  refine SimK.guarded .none hg fun _ => ?_
  rw [block_cons2, block_cons2]
  show SimK _ _ _ _ (((Ebb3.queryP Ebb3.srcParams Ebb3.scriptDev (some "QE".toList)).run >>= _) (absWorld w))
  rw [lit_QE]
  refine SimK.queryDecode hf hg (get := EBBMotionWrap_motors_query_enabled_Env.response) (fun _ _ => rfl) rfl (by decide)
    .none (fun _ => rfl) rfl fun s w1 hg1 => SimK.ofRun ?_
  rw [block_cons2, run_seq_assign_ok (v := resDict) rfl,
    block_cons2, run_seq_assign_ok (v := .list ((Ebb3.splitOn ',' s).map Val.str)) rfl, block_one]
  exact pair2_sim (fun x => app2 op_getitem (ok resDict) (app1 b_int x))
    (fun s k => Ebb3.M.ofOption .valueError (Ebb3.pyInt 10 s) >>= fun a => Ebb3.M.ofOption .keyError (Ebb3.resMap a) >>= k)
    resMap_str rfl fuel _ _ (splitOn_ne_nil _ _) _ rfl w1 hg1

theorem write_nickname_bridge (fuel : Nat) (hf : 26 ≤ fuel) (nick : Option Ebb3.Str)
    (hasc : ∀ s, nick = some s → PyIO.isAscii s = true) (w : World EBB3_Obj) (hg : Good w) :
    Sim (EBB3_write_nickname fuel (encReq nick) w)
      (Ebb3.run Ebb3.srcParams Ebb3.scriptDev (.write_nickname nick) (absWorld w)) := by
  unfold EBB3_write_nickname EBB3_write_nickname_main EBB3_write_nickname_if1
  rw [block_cons2]
  refine SimK.guarded3 (.bool false) EBB3_write_nickname_Env.nickname nick rfl hg
    (fun nick => (Ebb3.writeNicknameP Ebb3.srcParams Ebb3.scriptDev nick).body) rfl fun n0 hs _ => ?_
  subst hs
  have htext : PyIO.isAscii ("ST,".toList ++ Ebb3.strip n0) = true := by
    rw [isAscii_append, isAscii_strip n0 (hasc n0 rfl)]; decide
  rw [block_cons2, seq_assign_of (v := .str (Ebb3.strip n0)) (w' := w) (by
      simp only [load_str, app1_ok, meth_strip, ofP_ok, ok_apply]),
    block_cons2, seq_norm (env' := ⟨.str (Ebb3.strip n0)⟩) (w' := w) (by
      unfold EBB3_write_nickname_if2
      simp only [ifte, load_str, app1_ok, b_bool, ofP_ok, not_ok, ok_apply, truthy_bool, truthy_str]
      cases hs : Ebb3.strip n0 with
      | nil => simp [assign, ok_apply]
      | cons a t => simp [pass]), block_one]
  refine SimK.try_ (SimK.block ?_)
  unfold EBB3_write_nickname_if3
  rw [ifte_onRes, onRes_not]
  -- `command` does not raise on this text, so the `except` clause is not reached
  obtain ⟨v0, aw0, hok⟩ := Ebb3.commandRun_ok Ebb3.srcParams Ebb3.scriptDev ("ST,".toList ++ Ebb3.strip n0)
    (Ebb3.strip_ne_of_prefix _ _ (by decide)) (absWorld w)
  refine SimK.callE (command_bridge_ascii fuel hf (some ("ST,".toList ++ Ebb3.strip n0))
      (fun _ hs => Option.some.inj hs ▸ htext) w hg)
    (by simp only [load_str, app2_ok, op_add, ofP_ok, mcall1_ok_apply, ← lit_STc]; rfl)
    (fun v w1 hg1 hr _ => ?_) fun ex w1 _ hr => nomatch hok ▸ hr
  rcases Ebb3.command_res _ _ _ hr with rfl | ⟨rfl, -⟩
  · exact SimK.done (v := .bool false) hg1
  · refine SimK.next ?_
    rw [block_cons2, seq_norm (setattr_of (v := .str (Ebb3.strip n0)) (w' := w1) rfl), block_one]
    simp only [Ebb3.bind_apply, Ebb3.setName, Ebb3.modifySt_apply]
    exact SimK.ret (v := .bool true) (hg1.setObj (objOk_setName _ hg1.obj _)) rfl

end Ebb3Gen
end Plotink
