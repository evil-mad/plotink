import Plotink.Model.Ebb3
import Plotink.Proofs.Strip
/-! `Ebb3.strip` (`Model/Ebb3.lean`, with its own front-recursive `rstrip`) is `PyFloat.stripBy` of the same blanks, so what
`Proofs/Strip.lean` says about `stripBy` holds of it: texts without blanks at the ends are fixed, `strip` is idempotent, a
leading non-blank stays.  Core Lean only. -/
namespace Plotink
namespace Ebb3
open PyFloat (isPySpace rstripBy)

theorem isSpace_eq : isSpace = isPySpace := by
  funext c
  simp only [isSpace, isPySpace, PyFloat.isCSpace]

/-- `rstrip` keeps a character unless everything from it on is blank -/
theorem rstrip_eq (s : Str) : rstrip s = rstripBy isPySpace s := by
  induction s with
  | nil => rfl
  | cons c s ih =>
    rw [rstrip, ih, rstripBy, rstripBy, List.reverse_cons, List.dropWhile_append, isSpace_eq]
    cases h : s.reverse.dropWhile isPySpace with
    | nil => by_cases hc : isPySpace c = true <;> simp [hc]
    | cons d t => simp

theorem strip_eq (s : Str) : strip s = PyFloat.pyStrip s := by
  rw [strip, lstrip, rstrip_eq, isSpace_eq]; rfl

theorem rstrip_cons_nonspace {c : Char} (cs : Str) (h : isSpace c = false) : rstrip (c :: cs) = c :: rstrip cs := by
  rw [rstrip_eq, rstrip_eq]; exact PyFloat.rstripBy_cons _ (isSpace_eq ▸ h) cs

theorem strip_cons_nonspace {c : Char} (cs : Str) (h : isSpace c = false) : strip (c :: cs) = c :: rstrip cs := by
  rw [strip_eq, rstrip_eq]; exact PyFloat.stripBy_cons _ (isSpace_eq ▸ h) cs

theorem strip_id_of_ends (s : Str) (h : s ≠ []) (hh : isSpace (s.head h) = false)
    (hl : isSpace (s.getLast h) = false) : strip s = s := by
  rw [strip_eq]
  refine PyFloat.stripBy_of_trimmed _ ⟨fun c hc => ?_, fun c hc => ?_⟩
  · rw [List.head?_eq_some_head h] at hc; exact isSpace_eq ▸ Option.some.inj hc ▸ hh
  · rw [List.getLast?_eq_some_getLast h] at hc; exact isSpace_eq ▸ Option.some.inj hc ▸ hl

theorem strip_id (s : Str) (h : ∀ c ∈ s, isSpace c = false) : strip s = s := by
  rw [strip_eq]; exact PyFloat.stripBy_of_trimmed _ (PyFloat.trimmed_of_none _ (isSpace_eq ▸ h))

theorem strip_idem (s : Str) : strip (strip s) = strip s := by
  rw [strip_eq, strip_eq]; exact PyFloat.stripBy_idem _ s

theorem head_of_trimmed {req : Str} (ht : strip req = req) (hne : req ≠ []) :
    ∃ c cs, req = c :: cs ∧ isSpace c = false := by
  cases req with
  | nil => exact absurd rfl hne
  | cons c cs =>
    have := PyFloat.trimmed_stripBy isPySpace (c :: cs)
    rw [← PyFloat.pyStrip, ← strip_eq, ht] at this
    exact ⟨c, cs, rfl, isSpace_eq ▸ this.1 c rfl⟩

end Ebb3
end Plotink
