import Plotink.Gen.max_rate_t3
import Plotink.Proofs.C02Env
import Plotink.Proofs.C17Quad

/-! # C17 — evaluation of `Gen.max_rate_t3` and its relation to the per-tick rates -/

namespace Plotink
namespace T3
open Py Py.Val Fw

theorem probe_tick (tt tm : Rat) (T : Int) (h1 : 3 / 2 < tt) (h2 : tt < (T : Rat) - 3 / 2) (hnear : |tt - tm| ≤ 1 / 4) :
    1 ≤ ceilRat tt ∧ ceilRat tt ≤ T ∧ |((ceilRat tt : Int) : Rat) - tm| ≤ 5 / 4 := by
  obtain ⟨hc1, hc2⟩ := (ceilRat_eq_iff tt _).mp rfl
  rw [abs_le] at hnear ⊢
  have hlo : ((1 : Int) : Rat) < (ceilRat tt : Rat) := by push_cast; linarith only [h1, hc2]
  have hhi : ((ceilRat tt : Int) : Rat) < ((T : Int) : Rat) := by linarith only [h2, hc1]
  exact ⟨(Int.cast_lt.mp hlo).le, (Int.cast_lt.mp hhi).le, by linarith only [hnear.1, hc2],
    by linarith only [hnear.2, hc1]⟩

/-- the vertex of the rate parabola in ticks, `t* = (jerk/2 − accel)/jerk` -/
def tmid (accel jerk : Int) : Rat := ((jerk - 2 * accel : Int) : Rat) / 2 / (jerk : Rat)

/-- Integrality: `w = jerk·(2T−3) − u` is an integer and `(T − 3/2 − u/2/jerk)·2·jerk = w`, so a vertex
`u/2/jerk` below `T − 3/2` is below it by at least `1/(2|jerk|)`; a relative error of `2^-53` on the quotient
cannot bridge that gap. -/
theorem vertex_ge_of_rounded_ge (u jerk T : Int) (tt : Rat) (hj0 : jerk ≠ 0) (bu : |u| ≤ 2 ^ 42)
    (herr : |tt - (u : Rat) / 2 / (jerk : Rat)| ≤ |(u : Rat) / 2 / (jerk : Rat)| / 2 ^ 53)
    (hge : (T : Rat) - 3 / 2 ≤ tt) : (T : Rat) - 3 / 2 ≤ (u : Rat) / 2 / (jerk : Rat) := by
  have hjq : (jerk : Rat) ≠ 0 := by exact_mod_cast hj0
  have hjpos : (0 : Rat) < |(jerk : Rat)| := abs_pos.2 hjq
  set tm := (u : Rat) / 2 / (jerk : Rat) with htm
  by_contra hcon
  have hd : 0 < (T : Rat) - 3 / 2 - tm := sub_pos.2 (not_le.mp hcon)
  have hwq : ((T : Rat) - 3 / 2 - tm) * (2 * (jerk : Rat)) = ((jerk * (2 * T - 3) - u : Int) : Rat) := by
    rw [htm, sub_mul, div_div, div_mul_cancel₀ _ (mul_ne_zero two_ne_zero hjq)]; push_cast; ring
  have hw1 : (1 : Rat) ≤ |((jerk * (2 * T - 3) - u : Int) : Rat)| := by
    rw [← Int.cast_abs]
    have : jerk * (2 * T - 3) - u ≠ 0 := by
      intro h0; rw [h0, Int.cast_zero] at hwq
      exact mul_ne_zero hd.ne' (mul_ne_zero two_ne_zero hjq) hwq
    exact_mod_cast Int.one_le_abs this
  rw [← hwq, abs_mul, abs_of_pos hd, abs_mul, abs_two] at hw1
  have hprod : |tm| * (2 * |(jerk : Rat)|) = |(u : Rat)| := by
    rw [htm, abs_div, abs_div, abs_two, div_div, div_mul_cancel₀ _ (mul_ne_zero two_ne_zero hjpos.ne')]
  have herr2 : (T : Rat) - 3 / 2 - tm ≤ |tm| / 2 ^ 53 :=
    le_trans (sub_le_sub_right hge tm) (le_trans (le_abs_self _) herr)
  have h2 := mul_le_mul_of_nonneg_right herr2 (mul_nonneg zero_le_two hjpos.le)
  rw [div_mul_eq_mul_div, hprod] at h2
  have : |(u : Rat)| / 2 ^ 53 < 1 := by
    rw [div_lt_one (by positivity)]; exact lt_of_le_of_lt (abs_intCast_le bu) (by norm_num)
  exact absurd (hw1.trans h2) (not_le.mpr this)

section
variable {R : Rounding} (hR : Contract R)
include hR

/-- `t_mid` and `time − 1.5` of `max_rate_t3` in binary64: the inner operations are exact, only the quotient by `jerk`
rounds -/
theorem tmid_facts (accel jerk T : Int) (ha : |accel| ≤ 2 ^ 40) (hj : |jerk| ≤ 2 ^ 40) (hj0 : jerk ≠ 0)
    (hT1 : 1 ≤ T) (hT : T ≤ 2 ^ 32) :
    R.f64 ((T : Rat) - 3 / 2) = (T : Rat) - 3 / 2 ∧
    ∃ tt : Rat, R.f64 (R.f64 (R.f64 ((jerk : Rat) / 2) - (accel : Rat)) / (jerk : Rat)) = tt ∧
      |tt - tmid accel jerk| ≤ 1 / 4 ∧ (¬ tt < (T : Rat) - 3 / 2 → (T : Rat) - 3 / 2 ≤ tmid accel jerk) := by
  rw [abs_le] at ha hj
  have bu : |jerk - 2 * accel| ≤ 2 ^ 42 := by rw [abs_le]; omega
  refine ⟨?_, ?_⟩
  · rw [show (T : Rat) - 3 / 2 = ((2 * T - 3 : Int) : Rat) / 2 by push_cast; ring]
    exact f64_half hR.toExact _ (by rw [abs_lt]; omega)
  rw [f64_half hR.toExact jerk (by rw [abs_lt]; omega),
    show (jerk : Rat) / 2 - (accel : Rat) = ((jerk - 2 * accel : Int) : Rat) / 2 by push_cast; ring,
    f64_half hR.toExact _ (lt_of_le_of_lt bu (by norm_num))]
  unfold tmid
  have herr := hR.f64_err (((jerk - 2 * accel : Int) : Rat) / 2 / (jerk : Rat))
  refine ⟨_, rfl, le_trans herr ?_, fun hnlt =>
    vertex_ge_of_rounded_ge _ jerk T _ hj0 bu herr (not_lt.mp hnlt)⟩
  have hjabs : (1 : Rat) ≤ |(jerk : Rat)| := by
    rw [← Int.cast_abs]; exact_mod_cast Int.one_le_abs hj0
  have btm : |((jerk - 2 * accel : Int) : Rat) / 2 / (jerk : Rat)| ≤ 2 ^ 42 := by
    rw [abs_div]; exact (div_le_self (abs_nonneg _) hjabs).trans (abs_cast_div_le bu 2 one_le_two)
  exact (div_le_div_of_nonneg_right btm (by positivity)).trans (by norm_num)

end

theorem rate_vertex (rate accel jerk : Int) (hj0 : jerk ≠ 0) (k : Nat) :
    2 * ((t3Rate rate accel jerk k : Int) : Rat)
      = (2 * (r0 rate accel jerk : Rat) - (jerk : Rat) * (tmid accel jerk) ^ 2)
        + (jerk : Rat) * ((((k : Nat) : Int) : Rat) - tmid accel jerk) ^ 2 := by
  have hjq : (jerk : Rat) ≠ 0 := by exact_mod_cast hj0
  have hc := rate_closed rate accel jerk k
  have hq : ((2 * t3Rate rate accel jerk k : Int) : Rat)
      = ((2 * r0 rate accel jerk + 2 * k * accel + jerk * k * (k - 1) : Int) : Rat) := by rw [hc]
  have htm : 2 * (jerk : Rat) * tmid accel jerk = (jerk : Rat) - 2 * (accel : Rat) := by
    rw [tmid, div_div, ← mul_div_assoc, mul_div_cancel_left₀ _ (mul_ne_zero two_ne_zero hjq)]; push_cast; ring
  push_cast at hq ⊢
  linear_combination hq + (k : Rat) * htm

theorem short_all (rate accel jerk T : Int) (hj0 : jerk ≠ 0) (res : Int)
    (h1 : |t3Rate rate accel jerk 1| ≤ res) (hT : |t3Rate rate accel jerk T.toNat| ≤ res) (hT1 : 1 ≤ T)
    (h : (∃ c : Nat, |(((c : Nat) : Int) : Rat) - tmid accel jerk| ≤ 5 / 4 ∧ |t3Rate rate accel jerk c| ≤ res) ∨
         tmid accel jerk ≤ 7 / 4 ∨ (T : Rat) - 3 / 2 ≤ tmid accel jerk)
    (k : Nat) (hk1 : 1 ≤ k) (hkT : (k : Int) ≤ T) : |t3Rate rate accel jerk k| ≤ res + |jerk| := by
  have hjq : (jerk : Rat) ≠ 0 := by exact_mod_cast hj0
  have hTn : ((T.toNat : Nat) : Int) = T := Int.toNat_of_nonneg (by omega)
  have cast_le : ∀ (x : Int) (b : Int), |x| ≤ b → |2 * (x : Rat)| ≤ 2 * (b : Rat) := fun x b hx => by
    rw [abs_mul, abs_two]; exact mul_le_mul_of_nonneg_left (abs_cast_le hx) zero_le_two
  have key := quad_short (2 * (r0 rate accel jerk : Rat) - (jerk : Rat) * (tmid accel jerk) ^ 2) (jerk : Rat)
    (tmid accel jerk) hjq T (k : Int) (by omega) hkT (2 * (res : Rat))
    (by
      have := rate_vertex rate accel jerk hj0 1
      simp only [Nat.cast_one, Int.cast_one] at this
      rw [← this]; exact cast_le _ _ h1)
    (by
      have := rate_vertex rate accel jerk hj0 T.toNat
      rw [hTn] at this
      rw [← this]; exact cast_le _ _ hT)
    (by
      rcases h with ⟨c, hc, hm⟩ | ht | ht
      · left
        refine ⟨(c : Int), hc, ?_⟩
        rw [← rate_vertex rate accel jerk hj0 c]; exact cast_le _ _ hm
      · right; left; exact ht
      · right; right; exact ht)
  rw [← rate_vertex rate accel jerk hj0 k, abs_mul] at key
  have h2 : |(2 : Rat)| = 2 := by norm_num
  rw [h2] at key
  have : |((t3Rate rate accel jerk k : Int) : Rat)| ≤ ((res + |jerk| : Int) : Rat) := by
    push_cast; linarith
  rw [← Int.cast_abs] at this
  exact_mod_cast this

theorem short_lin (rate accel T : Int) (res : Int)
    (h1 : |t3Rate rate accel 0 1| ≤ res) (hT : |t3Rate rate accel 0 T.toNat| ≤ res) (hT1 : 1 ≤ T)
    (k : Nat) (hk1 : 1 ≤ k) (hkT : (k : Int) ≤ T) : |t3Rate rate accel 0 k| ≤ res := by
  have hTn : ((T.toNat : Nat) : Int) = T := Int.toNat_of_nonneg (by omega)
  have hr : ∀ n : Nat, ((t3Rate rate accel 0 n : Int) : Rat) = (r0 rate accel 0 : Rat) + (((n : Nat) : Int) : Rat) * (accel : Rat) := by
    intro n
    have hc := rate_closed rate accel 0 n
    have : t3Rate rate accel 0 n = r0 rate accel 0 + n * accel := by linarith
    rw [this]; push_cast; ring
  have key := lin_short (r0 rate accel 0 : Rat) (accel : Rat) T (k : Int) (by omega) hkT (res : Rat)
    (by
      have := hr 1
      simp only [Nat.cast_one, Int.cast_one] at this
      rw [← this]; exact abs_cast_le h1)
    (by
      have := hr T.toNat
      rw [hTn] at this
      rw [← this]; exact abs_cast_le hT)
  rw [← hr k, ← Int.cast_abs] at key
  exact_mod_cast key

theorem max_main {R : Rounding} (hR : Contract R) (amb : Nat) (T rate accel jerk : Int)
    (hE : EnvT3 rate accel jerk T) :
    ∃ res : Int, Gen.max_rate_t3 R amb (.int T) (.int rate) (.int accel) (.int jerk) = .int res ∧
      (∃ k : Nat, 1 ≤ k ∧ (k : Int) ≤ T ∧ res = |t3Rate rate accel jerk k|) ∧
      |t3Rate rate accel jerk 1| ≤ res ∧ |t3Rate rate accel jerk T.toNat| ≤ res ∧
      ∀ k : Nat, 1 ≤ k → (k : Int) ≤ T → |t3Rate rate accel jerk k| ≤ res + |jerk| := by
  have hT1 := hE.hT1
  have hTn : ((T.toNat : Nat) : Int) = T := Int.toNat_of_nonneg (by omega)
  have hone : Int.toNat 1 = 1 := rfl
  -- the rates at the first and the last tick; what is left is the code's own case distinction (`t_mid` and the probed
  -- rate need `jerk ≠ 0` resp. a probe inside the move)
  unfold Gen.max_rate_t3
  simp only [int_int, rate_main hR amb 1 rate accel jerk (hE.mono 1 (le_refl _) hT1), rate_main hR amb T rate accel jerk hE,
    abs_int, le_int_int, eq_int_int, decide_eq_true_eq, max_int_int, hone]
  set A := |t3Rate rate accel jerk 1| with hA
  set B := |t3Rate rate accel jerk T.toNat| with hB
  have att1 : ∃ k : Nat, 1 ≤ k ∧ (k : Int) ≤ T ∧ A = |t3Rate rate accel jerk k| := ⟨1, le_refl _, hT1, rfl⟩
  have attT : ∃ k : Nat, 1 ≤ k ∧ (k : Int) ≤ T ∧ B = |t3Rate rate accel jerk k| := ⟨T.toNat, by omega, hTn.le, rfl⟩
  by_cases hT : T ≤ 1
  · rw [if_pos hT]
    refine ⟨A, rfl, att1, le_refl _, ?_, fun k hk1 hkT => ?_⟩
    · obtain rfl : T = 1 := le_antisymm hT hT1
      exact le_refl _
    · obtain rfl : k = 1 := by omega
      exact le_add_of_nonneg_right (abs_nonneg jerk)
  rw [if_neg hT]
  have attM := max_rec' (fun M => ∃ k : Nat, 1 ≤ k ∧ (k : Int) ≤ T ∧ M = |t3Rate rate accel jerk k|) att1 attT
  by_cases hj0 : jerk = 0
  · rw [if_pos hj0]
    subst hj0
    refine ⟨max A B, rfl, attM, le_max_left A B, le_max_right A B, fun k hk1 hkT => ?_⟩
    rw [abs_zero, add_zero]
    exact short_lin rate accel T _ (le_max_left A B) (le_max_right A B) hT1 k hk1 hkT
  rw [if_neg hj0]
  -- non-zero jerk: `t_mid` and the upper end of the window in binary64
  obtain ⟨e0, tt, htt, hnear, hupper⟩ := tmid_facts hR accel jerk T hE.ha hE.hj hj0 hT1 hE.hT
  simp only [div_int_int _ _ _ _ (by norm_num : ((2:Int):Rat) ≠ 0), sub_flt_int, div_flt_int _ _ _ _ hj0, sub_int_flt,
    lt_flt_flt, Int.cast_ofNat, htt, e0, Bool.and_eq_true, decide_eq_true_eq]
  by_cases hW : 3 / 2 < tt ∧ tt < (T : Rat) - 3 / 2
  · -- the vertex probe
    rw [if_pos hW]
    obtain ⟨hc1, hcT, hcm⟩ := probe_tick tt (tmid accel jerk) T hW.1 hW.2 hnear
    set c := ceilRat tt with hc
    have hcn : ((c.toNat : Nat) : Int) = c := Int.toNat_of_nonneg (le_trans zero_le_one hc1)
    rw [← hcn] at hcm
    refine ⟨max (max A B) |t3Rate rate accel jerk c.toNat|, ?_,
      max_rec' (fun M => ∃ k : Nat, 1 ≤ k ∧ (k : Int) ≤ T ∧ M = |t3Rate rate accel jerk k|) attM
        ⟨c.toNat, by omega, hcn.le.trans hcT, rfl⟩,
      (le_max_left A B).trans (le_max_left _ _), (le_max_right A B).trans (le_max_left _ _),
      short_all rate accel jerk T hj0 _ ((le_max_left A B).trans (le_max_left _ _))
        ((le_max_right A B).trans (le_max_left _ _)) hT1 (Or.inl ⟨c.toNat, hcm, le_max_right _ _⟩)⟩
    simp only [Py.math_ceil, ← hc, rate_main hR amb c rate accel jerk (hE.mono c hc1 hcT), abs_int, max_int3]
  · -- no probe: the vertex is (up to rounding) within 3/2 of an end or outside the move
    rw [if_neg hW]
    refine ⟨max A B, rfl, attM, le_max_left A B, le_max_right A B,
      short_all rate accel jerk T hj0 _ (le_max_left A B) (le_max_right A B) hT1 (Or.inr ?_)⟩
    by_cases h1 : 3 / 2 < tt
    · exact Or.inr (hupper (fun h2 => hW ⟨h1, h2⟩))
    · exact Or.inl (by linarith only [not_lt.mp h1, (abs_le.mp hnear).1])

end T3
end Plotink
