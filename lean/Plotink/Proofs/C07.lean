import Plotink.Model.C07
/-! Lemmas about the model of `ebb_serial.query` / `command`.

A call only ever *advances* the read side of the port (`adv m`: `m` reads made) after its one write, so the write log,
the read count and the shape of the script left all follow from one statement per function (`query_adv`,
`command_adv`).  Both `try` bodies begin with the same exchange (`sendRecv`: write, first read, retry loop), which with
a decoding loop is just `retryResp true (n + 1)` from the empty string (`sendRecv_eq`).  And the loop that skips the
trailing `OK` is the non-decoding `retryResp` with its value forgotten (`retryUnused_eq`). -/
namespace Plotink
namespace C07

def adv (m : Nat) (p : Port) : Port := { p with reads := p.reads.drop m, nread := p.nread + m }

theorem adv_adv (a b : Nat) (p : Port) : adv b (adv a p) = adv (a + b) p := by
  simp only [adv, List.drop_drop, Nat.add_assoc]

theorem readline_eq (p : Port) : readline p = ((readline p).1, adv 1 p) := by
  obtain ⟨reads, writes, log, nread⟩ := p
  cases reads with
  | nil => rfl
  | cons r rs => cases r <;> rfl

theorem write_eq (b : Bytes) (p : Port) :
    write b p = (firstWriteOk p, { p with writes := p.writes.tail, log := p.log ++ [b] }) := by
  obtain ⟨reads, writes, log, nread⟩ := p
  cases writes with
  | nil => rfl
  | cons w ws => cases w <;> rfl

theorem write_reads (b : Bytes) (p : Port) :
    (write b p).2.reads = p.reads ∧ (write b p).2.nread = p.nread := by
  rw [write_eq]
  exact ⟨rfl, rfl⟩

theorem firstWriteOk_of_head {p : Port} (h : ∀ w, p.writes.head? = some w → w = .ok) : firstWriteOk p = true := by
  unfold firstWriteOk
  split
  · next c _ heq => rw [heq] at h; cases h _ rfl
  · rfl

theorem allAscii_tail {r : Rd} {rs : List Rd} (h : allAscii (r :: rs) = true) : allAscii rs = true := by
  unfold allAscii at *
  simp only [List.all_cons, Bool.and_eq_true] at h
  exact h.2

theorem allAscii_head {b : Bytes} {rs : List Rd} (h : allAscii (.line b :: rs) = true) :
    isAscii b = true := by
  unfold allAscii at h
  simp only [List.all_cons, Bool.and_eq_true] at h
  exact h.1

theorem allAscii_drop (m : Nat) {rs : List Rd} (h : allAscii rs = true) : allAscii (rs.drop m) = true := by
  induction m generalizing rs with
  | zero => exact h
  | succ m ih =>
    cases rs with
    | nil => exact h
    | cons r rs => exact ih (allAscii_tail h)

theorem isAscii_nil : isAscii [] = true := rfl

theorem readline_ascii (p : Port) (h : allAscii p.reads = true) :
    allAscii (readline p).2.reads = true ∧ ∀ b, (readline p).1 = some b → isAscii b = true := by
  refine ⟨by rw [readline_eq]; exact allAscii_drop 1 h, ?_⟩
  obtain ⟨reads, writes, log, nread⟩ := p
  intro b hb
  cases reads with
  | nil => cases hb; rfl
  | cons r rs =>
    cases r with
    | line l => cases hb; exact allAscii_head h
    | empty => cases hb; rfl
    | raise c => cases hb

theorem arrived_nil (k : Nat) : arrived k [] = [] := by
  cases k <;> rfl

theorem arrived_succ (k : Nat) (p : Port) :
    arrived (k + 1) p.reads =
      match (readline p).1 with
      | Option.none => []
      | some b => if b = [] then arrived k (readline p).2.reads else b := by
  obtain ⟨reads, writes, log, nread⟩ := p
  cases reads with
  | nil => exact (arrived_nil k).symm
  | cons r rs => cases r <;> rfl

theorem arrived_empties (k d : Nat) (tail : List Rd) :
    arrived k (List.replicate d .empty ++ tail) = arrived (k - d) tail := by
  induction d generalizing k with
  | zero => rfl
  | succ d ih =>
    cases k with
    | zero => rw [Nat.zero_sub]; rfl
    | succ k => rw [Nat.add_sub_add_right, ← ih]; rfl

theorem retryResp_nonempty (dec : Bool) (n : Nat) (v : Val) (p : Port) (h : v.len ≠ 0) :
    retryResp dec n v p = (.done, v, p) := by
  cases n with
  | zero => rfl
  | succ n => rw [retryResp, if_pos h]

theorem retryResp_succ (dec : Bool) (n : Nat) {v : Val} (p : Port) (h : v.len = 0) :
    retryResp dec (n + 1) v p =
      match readline p with
      | (Option.none, p') => (.io, v, p')
      | (some b, p') =>
        if dec then
          match decode b with
          | Option.none => (.py .unicodeDecodeError, v, p')
          | some s => retryResp dec n (.str s) p'
        else retryResp dec n (.bytes b) p' := by
  rw [retryResp, if_neg (not_not_intro h)]
  rfl

theorem retryResp_adv (dec : Bool) (n : Nat) (v : Val) (p : Port) :
    ∃ m, m ≤ n ∧ (retryResp dec n v p).2.2 = adv m p := by
  induction n generalizing v p with
  | zero => exact ⟨0, Nat.le_refl _, rfl⟩
  | succ n ih =>
    by_cases hv : v.len = 0
    · have step : ∀ v', ∃ m, m ≤ n + 1 ∧ (retryResp dec n v' (adv 1 p)).2.2 = adv m p := fun v' => by
        obtain ⟨m, hm, e⟩ := ih v' (adv 1 p)
        exact ⟨1 + m, by omega, by rw [e, adv_adv]⟩
      rw [retryResp_succ dec n p hv, readline_eq]
      rcases (readline p).1 with _ | b
      · exact ⟨1, by omega, rfl⟩
      · simp only
        cases dec
        · exact step _
        · simp only [↓reduceIte]
          cases decode b with
          | none => exact ⟨1, by omega, rfl⟩
          | some s => exact step _
    · rw [retryResp_nonempty _ _ _ _ hv]
      exact ⟨0, Nat.zero_le _, rfl⟩

theorem retryResp_text (n : Nat) (s : Str) (p : Port) (h : allAscii p.reads = true) :
    ∃ f p', retryResp true n (.str s) p = (f, .str (if s = [] then arrived n p.reads else s), p') ∧
      (f = .done ∨ f = .io) := by
  induction n generalizing s p with
  | zero => exact ⟨.done, p, by cases s <;> rfl, Or.inl rfl⟩
  | succ n ih =>
    by_cases hs : s = []
    · subst hs
      obtain ⟨hrs, hb⟩ := readline_ascii p h
      rw [retryResp_succ true n p rfl, arrived_succ]
      simp only [↓reduceIte]
      generalize readline p = r at hrs hb ⊢
      obtain ⟨_ | b, p'⟩ := r
      · exact ⟨.io, _, rfl, Or.inr rfl⟩
      · simp only [decode, hb b rfl, ↓reduceIte]
        exact ih b p' hrs
    · rw [retryResp_nonempty _ _ _ _ (by simpa [Val.len] using hs), if_neg hs]
      exact ⟨.done, p, rfl, Or.inl rfl⟩

theorem retryResp_skip (dec : Bool) (d n : Nat) (v : Val) (b : Bytes) (rest : List Rd) (writes : List Wr)
    (log : List Bytes) (nread : Nat) (hv : v.len = 0) (hb : b ≠ []) (ha : dec = true → isAscii b = true)
    (hd : d + 1 ≤ n) :
    retryResp dec n v ⟨List.replicate d .empty ++ .line b :: rest, writes, log, nread⟩
      = (.done, if dec then .str b else .bytes b, ⟨rest, writes, log, nread + d + 1⟩) := by
  obtain ⟨m, rfl⟩ : ∃ m, n = m + 1 := ⟨n - 1, by omega⟩
  rw [retryResp_succ dec m _ hv]
  induction d generalizing m v nread with
  | zero =>
    cases dec
    · exact retryResp_nonempty _ _ _ _ (by simpa [Val.len] using hb)
    · simp only [List.replicate_zero, List.nil_append, readline, decode, ha rfl, ↓reduceIte]
      exact retryResp_nonempty _ _ _ _ (by simpa [Val.len] using hb)
  | succ d ih =>
    obtain ⟨k, rfl⟩ : ∃ k, m = k + 1 := ⟨m - 1, by omega⟩
    rw [show nread + (d + 1) + 1 = nread + 1 + d + 1 by omega]
    cases dec
    · exact (retryResp_succ false k _ rfl).trans (ih (.bytes []) (nread + 1) rfl k (by omega))
    · exact (retryResp_succ true k _ rfl).trans (ih (.str []) (nread + 1) rfl k (by omega))

theorem retryUnused_eq (n : Nat) (u : Bytes) (p : Port) :
    ∃ u', retryResp false n (.bytes u) p
      = ((if (retryUnused n u p).1 = true then .done else .io), .bytes u', (retryUnused n u p).2) := by
  induction n generalizing u p with
  | zero => exact ⟨u, rfl⟩
  | succ n ih =>
    by_cases h : u.length = 0
    · rw [retryResp_succ false n (v := .bytes u) p h, retryUnused, if_neg (not_not_intro h)]
      rcases readline p with ⟨ol, p'⟩
      cases ol with
      | none => exact ⟨u, rfl⟩
      | some b => exact ih b p'
    · rw [retryResp_nonempty false _ (.bytes u) _ h, retryUnused, if_pos h]
      exact ⟨u, rfl⟩

def sendRecv (dec : Bool) (n : Nat) (req : Bytes) (p : Port) : Flow × Val × Port :=
  match write req p with
  | (false, p1) => (.io, .str [], p1)
  | (true, p1) =>
    match readline p1 with
    | (Option.none, p2) => (.io, .str [], p2)
    | (some l, p2) =>
      match decode l with
      | Option.none => (.py .unicodeDecodeError, .str [], p2)
      | some s => retryResp dec n (.str s) p2

theorem queryBody_eq (P : Params) (c : Str) (p : Port) (hc : isAscii c = true) :
    queryBody P c p =
      match sendRecv P.decodeRetry P.retry c p with
      | (.done, v, p3) => queryTrail P c v p3
      | (f, v, p3) => (f, v, p3) := by
  unfold queryBody sendRecv
  simp only [encode, hc, ↓reduceIte]
  rcases write c p with ⟨_ | _, p1⟩
  · rfl
  · simp only
    rcases readline p1 with ⟨_ | l, p2⟩
    · rfl
    · simp only
      cases decode l <;> rfl

theorem commandBody_eq (P : Params) (c : Str) (p : Port) (hc : isAscii c = true) :
    commandBody P c p = ((sendRecv true P.retry c p).1, (sendRecv true P.retry c p).2.2) := by
  unfold commandBody sendRecv
  simp only [encode, hc, ↓reduceIte]
  rcases write c p with ⟨_ | _, p1⟩
  · rfl
  · simp only
    rcases readline p1 with ⟨_ | l, p2⟩
    · rfl
    · simp only
      cases decode l <;> rfl

theorem sendRecv_eq (n : Nat) (req : Bytes) (p : Port) :
    sendRecv true n req p =
      match write req p with
      | (false, p1) => (.io, .str [], p1)
      | (true, p1) => retryResp true (n + 1) (.str []) p1 := by
  unfold sendRecv
  rcases write req p with ⟨_ | _, p1⟩
  · rfl
  · exact (retryResp_succ true n p1 rfl).symm

theorem sendRecv_true (n : Nat) (req : Bytes) (p : Port) :
    sendRecv true n req p =
      if firstWriteOk p = true then
        retryResp true (n + 1) (.str []) { p with writes := p.writes.tail, log := p.log ++ [req] }
      else (.io, .str [], { p with writes := p.writes.tail, log := p.log ++ [req] }) := by
  rw [sendRecv_eq, write_eq]
  cases firstWriteOk p <;> rfl

theorem retryResp_true_str (n : Nat) (s : Str) (p : Port) : ∃ s', (retryResp true n (.str s) p).2.1 = .str s' := by
  induction n generalizing s p with
  | zero => exact ⟨s, rfl⟩
  | succ n ih =>
    by_cases h : (Val.str s).len = 0
    · rw [retryResp_succ true n p h]
      rcases readline p with ⟨_ | b, p'⟩
      · exact ⟨s, rfl⟩
      · simp only [↓reduceIte]
        cases decode b with
        | none => exact ⟨s, rfl⟩
        | some s2 => exact ih s2 p'
    · rw [retryResp_nonempty _ _ _ _ h]
      exact ⟨s, rfl⟩

theorem sendRecv_str (n : Nat) (c : Bytes) (p : Port) : ∃ s, (sendRecv true n c p).2.1 = .str s := by
  rw [sendRecv_true]
  split
  · exact retryResp_true_str _ _ _
  · exact ⟨[], rfl⟩

theorem sendRecv_adv (dec : Bool) (n : Nat) (req : Bytes) (p : Port) :
    ∃ m, m ≤ n + 1 ∧ (sendRecv dec n req p).2.2 = adv m (write req p).2 := by
  unfold sendRecv
  rcases write req p with ⟨_ | _, p1⟩
  · exact ⟨0, Nat.zero_le _, rfl⟩
  · simp only
    rw [readline_eq]
    rcases (readline p1).1 with _ | l
    · exact ⟨1, by omega, rfl⟩
    · simp only
      cases decode l with
      | none => exact ⟨1, by omega, rfl⟩
      | some s =>
        obtain ⟨m, hm, e⟩ := retryResp_adv dec n (.str s) (adv 1 p1)
        exact ⟨1 + m, by omega, by rw [e, adv_adv]⟩

/-- the skip of the trailing `OK`, as a loop: the first read is its first pass -/
theorem queryTrail_eq (P : Params) (c : Str) (v : Val) (p : Port) :
    queryTrail P c v p =
      if P.noOK.contains (reqName c) = true then (.done, v, p)
      else ((retryResp false (P.retry + 1) (.bytes []) p).1, v, (retryResp false (P.retry + 1) (.bytes []) p).2.2) := by
  unfold queryTrail
  split
  · rfl
  · rw [retryResp_succ false _ p rfl]
    rcases readline p with ⟨_ | u, p4⟩
    · rfl
    · obtain ⟨u', e⟩ := retryUnused_eq P.retry u p4
      simp only [Bool.false_eq_true, ↓reduceIte, e]
      rcases retryUnused P.retry u p4 with ⟨_ | _, p5⟩ <;> rfl

theorem retryResp_bytes (n : Nat) (b : Bytes) (q : Port) :
    ∃ f b' q', retryResp false n (.bytes b) q = (f, .bytes b', q') ∧ (f = .done ∨ f = .io) := by
  obtain ⟨u', e⟩ := retryUnused_eq n b q
  exact ⟨_, u', _, e, by split <;> simp⟩

theorem queryTrail_val (P : Params) (c : Str) (v : Val) (p : Port) :
    ∃ f p', queryTrail P c v p = (f, v, p') ∧ (f = .done ∨ f = .io) := by
  rw [queryTrail_eq]
  split
  · exact ⟨_, _, rfl, Or.inl rfl⟩
  · obtain ⟨f, b', q', e, hf⟩ := retryResp_bytes (P.retry + 1) [] p
    rw [e]
    exact ⟨f, q', rfl, hf⟩

theorem query_port (P : Params) (c : Str) (p : Port) : (query P c p).2 = (queryBody P c p).2.2 := by
  unfold query
  rcases queryBody P c p with ⟨_ | _ | e, v, p'⟩
  · simp only
    cases errIn v <;> rfl
  · simp only
    cases errIn v <;> rfl
  · rfl

theorem command_port (P : Params) (c : Str) (p : Port) : (command P c p).2 = (commandBody P c p).2 := by
  unfold command
  rcases commandBody P c p with ⟨_ | _ | e, p'⟩ <;> rfl

/-- the port after `query`: the request written, then at most `retry + 1` reads per line awaited -/
theorem query_adv (P : Params) (c : Str) (p : Port) (hc : isAscii c = true) :
    ∃ m, m ≤ (if P.noOK.contains (reqName c) then P.retry + 1 else 2 * (P.retry + 1)) ∧
      (query P c p).2 = adv m (write c p).2 := by
  rw [query_port, queryBody_eq P c p hc]
  obtain ⟨m, hm, e⟩ := sendRecv_adv P.decodeRetry P.retry c p
  generalize sendRecv P.decodeRetry P.retry c p = r at e ⊢
  obtain ⟨f, v, p3⟩ := r
  subst e
  cases f with
  | io => exact ⟨m, by split <;> omega, rfl⟩
  | py e => exact ⟨m, by split <;> omega, rfl⟩
  | done =>
    simp only [queryTrail_eq]
    split
    · exact ⟨m, by omega, rfl⟩
    · obtain ⟨m', hm', e'⟩ := retryResp_adv false (P.retry + 1) (.bytes []) (adv m (write c p).2)
      exact ⟨m + m', by omega, by rw [e', adv_adv]⟩

theorem command_adv (P : Params) (c : Str) (p : Port) (hc : isAscii c = true) :
    ∃ m, m ≤ P.retry + 1 ∧ (command P c p).2 = adv m (write c p).2 := by
  rw [command_port, commandBody_eq P c p hc]
  exact sendRecv_adv true P.retry c p

theorem command_val (P : Params) (c : Str) (p : Port) (v : Val) (h : (command P c p).1 = .ok v) :
    v = .none := by
  unfold command at h
  generalize commandBody P c p = r at h
  obtain ⟨f, p'⟩ := r
  cases f with
  | done => cases h; rfl
  | io => cases h; rfl
  | py e => cases h

theorem query_log (P : Params) (c : Str) (p : Port) (hc : isAscii c = true) :
    (query P c p).2.log = p.log ++ [c] := by
  obtain ⟨m, _, e⟩ := query_adv P c p hc
  rw [e, write_eq]
  rfl

theorem command_log (P : Params) (c : Str) (p : Port) (hc : isAscii c = true) :
    (command P c p).2.log = p.log ++ [c] := by
  obtain ⟨m, _, e⟩ := command_adv P c p hc
  rw [e, write_eq]
  rfl

/-- a non-ASCII request text: `encode` raises before anything is written -/
theorem query_nonascii (P : Params) (c : Str) (p : Port) (hc : isAscii c = false) :
    query P c p = (.error .unicodeEncodeError, p) ∧ command P c p = (.error .unicodeEncodeError, p) := by
  unfold query queryBody command commandBody
  simp only [encode, hc, Bool.false_eq_true, ↓reduceIte, and_self]

theorem query_nread (P : Params) (c : Str) (p : Port) :
    (query P c p).2.nread ≤ p.nread +
      (if P.noOK.contains (reqName c) then P.retry + 1 else 2 * (P.retry + 1)) := by
  cases hc : isAscii c
  · rw [(query_nonascii P c p hc).1]
    exact Nat.le_add_right _ _
  · obtain ⟨m, hm, e⟩ := query_adv P c p hc
    rw [e, write_eq]
    exact Nat.add_le_add_left hm _

theorem command_nread (P : Params) (c : Str) (p : Port) :
    (command P c p).2.nread ≤ p.nread + (P.retry + 1) := by
  cases hc : isAscii c
  · rw [(query_nonascii P c p hc).2]
    exact Nat.le_add_right _ _
  · obtain ⟨m, hm, e⟩ := command_adv P c p hc
    rw [e, write_eq]
    exact Nat.add_le_add_left hm _

theorem sendRecv_text (n : Nat) (c : Bytes) (p : Port) (h : allAscii p.reads = true) :
    ∃ f p', sendRecv true n c p = (f, .str (if firstWriteOk p = true then arrived (n + 1) p.reads else []), p') ∧
      (f = .done ∨ f = .io) := by
  rw [sendRecv_true]
  split
  · exact retryResp_text (n + 1) [] _ h
  · exact ⟨.io, _, rfl, Or.inr rfl⟩

theorem query_text (P : Params) (c : Str) (p : Port) (hdec : P.decodeRetry = true)
    (hc : isAscii c = true) (h : allAscii p.reads = true) :
    (query P c p).1 = .ok (.str (if firstWriteOk p = true then arrived (P.retry + 1) p.reads else [])) ∧
      allAscii (query P c p).2.reads = true := by
  constructor
  · obtain ⟨f, p3, e, hf⟩ := sendRecv_text P.retry c p h
    unfold query
    rw [queryBody_eq P c p hc, hdec, e]
    generalize (if firstWriteOk p = true then arrived (P.retry + 1) p.reads else []) = s
    rcases hf with rfl | rfl
    · obtain ⟨f', p', e', hf'⟩ := queryTrail_val P c (.str s) p3
      simp only [e']
      rcases hf' with rfl | rfl <;> rfl
    · rfl
  · obtain ⟨m, _, e⟩ := query_adv P c p hc
    rw [e, write_eq]
    exact allAscii_drop m h

theorem command_ok (P : Params) (c : Str) (p : Port) (hc : isAscii c = true)
    (h : allAscii p.reads = true) :
    (command P c p).1 = .ok .none ∧ allAscii (command P c p).2.reads = true := by
  constructor
  · obtain ⟨f, p3, e, hf⟩ := sendRecv_text P.retry c p h
    unfold command
    rw [commandBody_eq P c p hc, e]
    rcases hf with rfl | rfl <;> rfl
  · obtain ⟨m, _, e⟩ := command_adv P c p hc
    rw [e, write_eq]
    exact allAscii_drop m h

theorem sendRecv_skip {d n : Nat} {c b : Bytes} {rest : List Rd} {writes : List Wr} {log : List Bytes} {nread : Nat}
    (hb : b ≠ []) (ha : isAscii b = true) (hd : d ≤ n)
    (hw : ∀ w, writes.head? = some w → w = .ok) :
    sendRecv true n c ⟨List.replicate d .empty ++ .line b :: rest, writes, log, nread⟩
      = (.done, .str b, ⟨rest, writes.tail, log ++ [c], nread + d + 1⟩) := by
  rw [sendRecv_true, if_pos (firstWriteOk_of_head hw)]
  exact retryResp_skip true d (n + 1) (.str []) b rest _ _ nread rfl hb (fun _ => ha) (by omega)

theorem query_reads_ordinary {P : Params} {c : Str} {d1 d2 : Nat} {data trail : Bytes} {rest : List Rd}
    {writes : List Wr} {log : List Bytes} {nread : Nat}
    (hdec : P.decodeRetry = true) (hc : isAscii c = true) (hno : P.noOK.contains (reqName c) = false)
    (h1 : d1 ≤ P.retry) (h2 : d2 ≤ P.retry) (hd : data ≠ []) (ht : trail ≠ []) (ha : isAscii data = true)
    (hw : ∀ w, writes.head? = some w → w = .ok) :
    query P c ⟨List.replicate d1 .empty ++ .line data :: (List.replicate d2 .empty ++ .line trail :: rest),
        writes, log, nread⟩
      = (.ok (.str data), ⟨rest, writes.tail, log ++ [c], nread + d1 + d2 + 2⟩) := by
  unfold query
  rw [queryBody_eq P c _ hc, hdec, sendRecv_skip hd ha h1 hw]
  simp only [queryTrail_eq, hno, Bool.false_eq_true, ↓reduceIte,
    retryResp_skip false d2 (P.retry + 1) (.bytes []) trail rest _ _ _ rfl ht (fun h => by cases h) (by omega), errIn]
  rw [show nread + d1 + 1 + d2 + 1 = nread + d1 + d2 + 2 by omega]

theorem query_reads_noOK {P : Params} {c : Str} {d1 : Nat} {data : Bytes} {rest : List Rd}
    {writes : List Wr} {log : List Bytes} {nread : Nat}
    (hdec : P.decodeRetry = true) (hc : isAscii c = true) (hno : P.noOK.contains (reqName c) = true)
    (h1 : d1 ≤ P.retry) (hd : data ≠ []) (ha : isAscii data = true)
    (hw : ∀ w, writes.head? = some w → w = .ok) :
    query P c ⟨List.replicate d1 .empty ++ .line data :: rest, writes, log, nread⟩
      = (.ok (.str data), ⟨rest, writes.tail, log ++ [c], nread + d1 + 1⟩) := by
  unfold query
  rw [queryBody_eq P c _ hc, hdec, sendRecv_skip hd ha h1 hw]
  simp only [queryTrail_eq, hno, ↓reduceIte, errIn]

theorem command_reads {P : Params} {c : Str} {d1 : Nat} {trail : Bytes} {rest : List Rd}
    {writes : List Wr} {log : List Bytes} {nread : Nat}
    (hc : isAscii c = true) (h1 : d1 ≤ P.retry) (ht : trail ≠ []) (ha : isAscii trail = true)
    (hw : ∀ w, writes.head? = some w → w = .ok) :
    command P c ⟨List.replicate d1 .empty ++ .line trail :: rest, writes, log, nread⟩
      = (.ok .none, ⟨rest, writes.tail, log ++ [c], nread + d1 + 1⟩) := by
  unfold command
  rw [commandBody_eq P c _ hc, sendRecv_skip ht ha h1 hw]

theorem exch_step (P : Params) (hdec : P.decodeRetry = true) (e : Exch) (hce : e.Conforms P)
    (writes : List Wr) (log : List Bytes) (nread : Nat) (hw : ∀ w ∈ writes, w = .ok) :
    ∃ n', (if e.isQuery then query P e.cmd else command P e.cmd) ⟨[] ++ e.reply P, writes, log, nread⟩
      = (e.expected, ⟨[], writes.tail, log ++ [e.cmd], n'⟩) := by
  obtain ⟨hc, h1, hrest⟩ := hce
  have hwok : ∀ w, writes.head? = some w → w = .ok := fun w h => hw w (List.mem_of_mem_head? h)
  unfold Exch.reply Exch.expected
  cases hq : e.isQuery
  · simp only [hq, Bool.false_eq_true, ↓reduceIte] at hrest
    simp only [Bool.false_eq_true, ↓reduceIte, List.nil_append]
    exact ⟨_, command_reads hc h1 hrest.1 hrest.2 hwok⟩
  · simp only [hq, ↓reduceIte] at hrest
    obtain ⟨hd, ha, hord⟩ := hrest
    cases hno : P.noOK.contains (reqName e.cmd)
    · obtain ⟨h2, ht⟩ := hord hno
      simp only [↓reduceIte, Bool.false_eq_true, List.nil_append, List.append_assoc,
        List.cons_append]
      exact ⟨_, query_reads_ordinary hdec hc hno h1 h2 hd ht ha hwok⟩
    · simp only [↓reduceIte, List.nil_append]
      exact ⟨_, query_reads_noOK hdec hc hno h1 hd ha hwok⟩

theorem reply_no_raise (P : Params) (e : Exch) (c : PyIO.ExcClass) : PyIO.Rd.raise c ∉ e.reply P := by
  have line : ∀ (d : Nat) (b : Bytes) (rest : List Rd), PyIO.Rd.raise c ∉ rest →
      PyIO.Rd.raise c ∉ List.replicate d PyIO.Rd.empty ++ (.line b :: rest) := by
    intro d b rest hr hm
    rcases List.mem_append.mp hm with h | h
    · cases List.eq_of_mem_replicate h
    · rcases List.mem_cons.mp h with h | h
      · cases h
      · exact hr h
  unfold Exch.reply
  split
  · split
    · exact line _ _ [] (by simp)
    · rw [List.append_assoc]
      exact line _ _ _ (line _ _ [] (by simp))
  · exact line _ _ [] (by simp)

end C07
end Plotink
