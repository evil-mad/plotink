import Plotink.Gen.vb_scale
import Plotink.Proofs.C12Gen
import Plotink.Proofs.C20Gen
import Plotink.Proofs.C11Core

/-! # C11 — the source-regenerated `vb_scale` against the hand model `C11.vbScale`, case by case

`Gen.vb_scale` is regenerated from `plotink/plot_utils.py`.  Strings are `Py.Val.str` over `String`, the model is over
`List Char`: `strip().replace(',', ' ')[.lower()].split()` in the generated code is
`pySplit (… (commaToBlank (pyStrip …)))` of the model (Python's general `replace` on a one-character pattern).
A missing attribute, fewer than four tokens, or a token that the generated `float()` rejects (`try`/`except ValueError`,
translated as `err`-tests) give the tuple `(1, 1, 0, 0)` in every rounding mode (`vb_none`, `vb_short`, `vb_err`).  On
four finite numbers, in exact arithmetic, the generated function is the two sign tests of the model, then the block that
reads the preserveAspectRatio attribute (it computes `parTokens`) and the numeric tail (it computes `vbCore`)
(`vb_scale_ok`).

viewBox numbers that `float()` reads as `inf`/`nan` are outside the generated code's value domain (`parseVB = nonfinite`
is excluded by hypothesis; the model makes no claim there either). -/

namespace Plotink
namespace C11
open Py Py.Val PyFloat

theorem replaceL_comma (l : List Char) : Py.replaceL [','] [' '] l = commaToBlank l := by
  rw [C20.replaceL_single]
  unfold commaToBlank
  induction l with
  | nil => rfl
  | cons x xs ih =>
    rw [C20.replaceChar_cons, ih, List.map_cons]
    by_cases h : x = ',' <;> simp [h]

theorem litc_comma : ("," : String).toList = [','] := by decide +kernel
theorem litc_blank : (" " : String).toList = [' '] := by decide +kernel

theorem str_replace_comma (l : List Char) :
    Py.str_replace (Py.ofL l) (.str ",") (.str " ") = Py.ofL (commaToBlank l) := by
  show Py.ofL (Py.replaceL (",":String).toList (" ":String).toList (String.ofList l).toList) = _
  rw [litc_comma, litc_blank, String.toList_ofList, replaceL_comma]
theorem str_lower_ofL (l : List Char) : Py.str_lower (Py.ofL l) = Py.ofL (lower l) := by
  show Py.ofL (lower (String.ofList l).toList) = _
  rw [String.toList_ofList]
theorem str_split_ofL (l : List Char) : Py.str_split (Py.ofL l) = .tup ((pySplit l).map Py.ofL) := by
  show Val.tup ((pySplit (String.ofList l).toList).map Py.ofL) = _
  rw [String.toList_ofList]

theorem vb_tokens (s : String) :
    Py.str_split (Py.str_replace (Py.str_strip (.str s)) (.str ",") (.str " "))
      = .tup ((pySplit (commaToBlank (pyStrip s.toList))).map Py.ofL) := by
  rw [C12.str_strip_str, str_replace_comma, str_split_ofL]
theorem par_tokens (s : String) :
    Py.str_split (Py.str_lower (Py.str_replace (Py.str_strip (.str s)) (.str ",") (.str " ")))
      = .tup ((pySplit (lower (commaToBlank (pyStrip s.toList)))).map Py.ofL) := by
  rw [C12.str_strip_str, str_replace_comma, str_lower_ofL, str_split_ofL]

def encOS : Option String → Val
  | none => .none_
  | some s => .str s

/-- the four numbers of a transform as a Python tuple of `int`s / `float`s -/
def EncXf (r : Val) (t : Xf) : Prop :=
  ∃ a b c d, r = .tup [a, b, c, d] ∧ IsNum a t.sx ∧ IsNum b t.sy ∧ IsNum c t.ox ∧ IsNum d t.oy

def identityVal : Val := .tup [.int 1, .int 1, .int 0, .int 0]
theorem encXf_identity : EncXf identityVal identity :=
  ⟨_, _, _, _, rfl, Or.inr ⟨1, rfl, by norm_num [identity]⟩, Or.inr ⟨1, rfl, by norm_num [identity]⟩,
    Or.inr ⟨0, rfl, by norm_num [identity]⟩, Or.inr ⟨0, rfl, by norm_num [identity]⟩⟩

theorem vb_none (R : Rounding) (amb : Nat) (parv Wv Hv : Val) :
    Gen.vb_scale R amb .none_ parv Wv Hv = identityVal := rfl

theorem len_lt4 (l : List Val) : Py.lt (Py.len_ (.tup l)) (.int 4) = decide (l.length < 4) := by
  simp only [Py.len_, Py.lt_int_int]
  congr 1
  exact propext (by omega)

theorem vb_short (R : Rounding) (amb : Nat) (s : String) (parv Wv Hv : Val)
    (h : (pySplit (commaToBlank (pyStrip s.toList))).length < 4) :
    Gen.vb_scale R amb (.str s) parv Wv Hv = identityVal := by
  unfold Gen.vb_scale
  simp only [Py.isNone, Bool.false_eq_true, if_false, vb_tokens, len_lt4, List.length_map, h, decide_true, if_true]
  rfl

theorem isErr_err : Py.isErr .err = true := rfl
theorem isErr_flt (q : Rat) : Py.isErr (.flt q) = false := rfl

theorem vb_err (R : Rounding) (amb : Nat) (s : String) (parv Wv Hv : Val) (t0 t1 t2 t3 : List Char)
    (rest : List (List Char)) (hs : pySplit (commaToBlank (pyStrip s.toList)) = t0 :: t1 :: t2 :: t3 :: rest)
    (he : parseFloat t0 = none ∨ parseFloat t1 = none ∨ parseFloat t2 = none ∨ parseFloat t3 = none) :
    Gen.vb_scale R amb (.str s) parv Wv Hv = identityVal := by
  unfold Gen.vb_scale
  simp only [Py.isNone, Bool.false_eq_true, if_false, vb_tokens, hs, List.map_cons, len_lt4, not_short, decide_false,
    Py.getItem_cons_zero, Py.getItem_cons_succ, C12.float_ofL]
  rcases he with e | e | e | e <;> simp only [e, C12.fltOf, isErr_err, if_true, ite_self] <;> rfl

theorem le_flt_int0 (q : Rat) : Py.le (.flt q) (.int 0) = decide (q ≤ 0) := by
  simp [Py.le, Py.num]

theorem litc_defer : ("defer" : String).toList = sDefer := by decide +kernel

theorem gt_len (l : List (List Char)) (k : Nat) :
    Py.gt (Py.len_ (.tup (l.map Py.ofL))) (.int (k : Int)) = decide (l.length > k) := by
  rw [Py.len_map, Py.gt_int_int]
  exact decide_eq_decide.2 Int.ofNat_lt
-- the instances the generated text contains: `simp` does not match `.int 1` against `.int ((k : Nat) : Int)`
theorem gt_len0 (l : List (List Char)) : Py.gt (Py.len_ (.tup (l.map Py.ofL))) (.int 0) = decide (l.length > 0) := gt_len l 0
theorem gt_len1 (l : List (List Char)) : Py.gt (Py.len_ (.tup (l.map Py.ofL))) (.int 1) = decide (l.length > 1) := gt_len l 1
theorem gt_len2 (l : List (List Char)) : Py.gt (Py.len_ (.tup (l.map Py.ofL))) (.int 2) = decide (l.length > 2) := gt_len l 2
theorem getItem_map (l : List (List Char)) (i : Nat) (t : List Char) (h : l[i]? = some t) :
    Py.getItem (.tup (l.map Py.ofL)) i = Py.ofL t := by
  simp [Py.getItem, List.getD, h]

theorem litc_none : ("none" : String).toList = sNone := by decide +kernel
theorem litc_meet : ("meet" : String).toList = sMeet := by decide +kernel
theorem litc_slice : ("slice" : String).toList = sSlice := by decide +kernel
theorem litc_xminymin : ("xminymin" : String).toList = sXminYmin := by decide +kernel
theorem litc_xmidymin : ("xmidymin" : String).toList = sXmidYmin := by decide +kernel
theorem litc_xmaxymin : ("xmaxymin" : String).toList = sXmaxYmin := by decide +kernel
theorem litc_xminymid : ("xminymid" : String).toList = sXminYmid := by decide +kernel
theorem litc_xmidymid : ("xmidymid" : String).toList = sXmidYmid := by decide +kernel
theorem litc_xmaxymid : ("xmaxymid" : String).toList = sXmaxYmid := by decide +kernel
theorem litc_xminymax : ("xminymax" : String).toList = sXminYmax := by decide +kernel
theorem litc_xmidymax : ("xmidymax" : String).toList = sXmidYmax := by decide +kernel
theorem litc_xmaxymax : ("xmaxymax" : String).toList = sXmaxYmax := by decide +kernel

theorem str_eq_ofL (s : String) : Val.str s = Py.ofL s.toList := by unfold Py.ofL; rw [String.ofList_toList]
theorem str_xmidymid : Val.str "xmidymid" = Py.ofL sXmidYmid := litc_xmidymid ▸ str_eq_ofL _
theorem str_meet : Val.str "meet" = Py.ofL sMeet := litc_meet ▸ str_eq_ofL _

def xfVal (t : Xf) : Val := .tup [.flt t.sx, .flt t.sy, .flt t.ox, .flt t.oy]

theorem ge_flt_flt (a b : Rat) : Py.ge (.flt a) (.flt b) = decide (a ≥ b) := rfl
theorem lt_flt_flt (a b : Rat) : Py.lt (.flt a) (.flt b) = decide (a < b) := rfl
theorem neg_flt (a : Rat) : Py.neg (.flt a) = .flt (-a) := rfl
theorem add_exact (p : Nat) (a b : Rat) : Py.add Rounding.exact p (.flt a) (.flt b) = .flt (a + b) := rfl
theorem sub_exact (p : Nat) (a b : Rat) : Py.sub Rounding.exact p (.flt a) (.flt b) = .flt (a - b) := rfl
theorem div2_exact (p : Nat) (a : Rat) : Py.truediv Rounding.exact p (.flt a) (.int 2) = .flt (a / 2) := by
  simpa using Py.truediv_flt_int p a 2 (by decide)

theorem xfVal_mk (a b c d : Rat) : xfVal ⟨a, b, c, d⟩ = .tup [.flt a, .flt b, .flt c, .flt d] := rfl
theorem ite_flt (c : Prop) [Decidable c] (a b : Rat) : (if c then Val.flt a else Val.flt b) = Val.flt (if c then a else b) :=
  (apply_ite Val.flt c a b).symm

theorem vb_scale_ok (amb : Nat) (s : String) (par : Option String) (Wv Hv : Val) (x y w h W H : Rat)
    (hW : IsNum Wv W) (hH : IsNum Hv H) (hvb : parseVB (some s.toList) = .ok x y w h) :
    Gen.vb_scale Rounding.exact amb (.str s) (encOS par) Wv Hv =
      if w ≤ 0 ∨ h ≤ 0 then identityVal
      else if W ≤ 0 ∨ H ≤ 0 then identityVal
      else xfVal (vbCore (parTokens (par.map String.toList)).1 (parTokens (par.map String.toList)).2 x y w h W H) := by
  obtain ⟨t0, t1, t2, t3, rest, hs, h0, h1, h2, h3⟩ := parseVB_ok_inv hvb
  unfold Gen.vb_scale
  simp only [Py.isNone, Bool.false_eq_true, if_false, vb_tokens, hs, List.map_cons, len_lt4, not_short, decide_false,
    Py.getItem_cons_zero, Py.getItem_cons_succ, C12.float_ofL, h0, h1, h2, h3, C12.fltOf, C12.exact_f64, isErr_flt,
    hW.float, hH.float, le_flt_int0, Bool.or_eq_true, decide_eq_true_eq]
  refine ite_congr rfl (fun _ => rfl) fun c1 => ite_congr rfl (fun _ => rfl) fun c2 => ?_
  rw [not_or, not_le, not_le] at c1 c2
  -- `X = (par_array, par0, par_align, par_mos)`: what the block reading the preserveAspectRatio attribute computes (the
  -- only `if` of the generated text on a negated Boolean); its last two components are the model's `parTokens`
  generalize hX : (if (!_ : Bool) = true then _ else _ : Val × Val × Val × Val) = X
  have hpar : X.2.2.1 = Py.ofL (parTokens (par.map String.toList)).1 ∧
      X.2.2.2 = Py.ofL (parTokens (par.map String.toList)).2 := by
    subst hX
    cases par with
    | none => exact ⟨str_xmidymid, str_meet⟩
    | some p =>
      unfold encOS parTokens
      simp only [Bool.not_false, if_true, Option.map_some, par_tokens, gt_len0, gt_len1, gt_len2, str_xmidymid, str_meet]
      generalize pySplit (lower (commaToBlank (pyStrip p.toList))) = l
      match l with
      | [] => simp
      | [p0] => by_cases hd : p0 = sDefer <;> simp [C12.eq_ofL_str, litc_defer, hd]
      | [p0, p1] => by_cases hd : p0 = sDefer <;> simp [C12.eq_ofL_str, litc_defer, hd]
      | p0 :: p1 :: p2 :: r => by_cases hd : p0 = sDefer <;> simp [C12.eq_ofL_str, litc_defer, hd]
  rw [hpar.1, hpar.2]
  -- the numeric tail (from `if par_align == "none"` on) is the model's `vbCore`
  have nw : w ≠ 0 := c1.1.ne'
  have nh : h ≠ 0 := c1.2.ne'
  have nW : W ≠ 0 := c2.1.ne'
  have nar : H / W ≠ 0 := div_ne_zero c2.2.ne' nW
  unfold vbCore
  simp only [C12.eq_ofL_str, litc_none, litc_meet, litc_slice, litc_xminymin, litc_xmidymin, litc_xmaxymin, litc_xminymid,
    litc_xmaxymid, litc_xminymax, litc_xmidymax, litc_xmaxymax, ge_flt_flt, lt_flt_flt, neg_flt, add_exact, sub_exact,
    C12.mul_exact, div2_exact, Py.truediv_flt_flt _ _ _ nW, Py.truediv_flt_flt _ _ _ nw, Py.truediv_flt_flt _ _ _ nh,
    Py.truediv_flt_flt _ _ _ nar, Bool.and_eq_true, decide_eq_true_eq, or_assoc, apply_ite xfVal, xfVal_mk, ite_flt]

theorem encXf_xfVal (t : Xf) : EncXf (xfVal t) t := ⟨_, _, _, _, rfl, Or.inl rfl, Or.inl rfl, Or.inl rfl, Or.inl rfl⟩

end C11
end Plotink
