import Plotink.Proofs.C03Roots
import Mathlib.Tactic.SplitIfs
/-! # C03 — the model's root selection (`quadTime`) returns the least admissible tick -/
namespace Plotink
namespace C03

def qq (a k c t : Int) : Int := a * t * t + k * t + 2 * c

/-- the two ceiled roots of `quadTime` before discarding, as functions of the scaled discriminant -/
def pr0Of (a K D4 : Int) : Int :=
  if 0 < a then cdiv (csqrt D4 - K) (2 * a) else cdiv (K - fsqrt D4) (-(2 * a))
def nr0Of (a K D4 : Int) : Int :=
  if 0 < a then cdiv (-fsqrt D4 - K) (2 * a) else cdiv (csqrt D4 + K) (-(2 * a))

def discard (τe x : Int) : Int := if 0 < τe ∧ x ≤ τe then -1 else x

theorem quadTime_eq (a K c τe : Int) :
    quadTime a K c τe = if K * K - 8 * a * c < 0 then 0 else
      pick (discard τe (nr0Of a K (K * K - 8 * a * c))) (discard τe (pr0Of a K (K * K - 8 * a * c))) := rfl

theorem discard_of_lt {τe x : Int} (h : τe < x ∨ τe ≤ 0) : discard τe x = x := if_neg (by omega)

theorem discard_of_pos {τe x : Int} (h : 0 < discard τe x) : discard τe x = x := by
  unfold discard at h ⊢; split_ifs at h ⊢ <;> omega

theorem pr0Of_neg (a K D4 : Int) (ha : a ≠ 0) : pr0Of (-a) (-K) D4 = nr0Of a K D4 := by
  unfold pr0Of nr0Of
  rcases lt_or_gt_of_ne ha with h | h
  · rw [if_pos (by omega), if_neg (by omega)]; congr 1 <;> ring
  · rw [if_neg (by omega), if_pos h]; congr 1 <;> ring

theorem nr0Of_neg (a K D4 : Int) (ha : a ≠ 0) : nr0Of (-a) (-K) D4 = pr0Of a K D4 := by
  unfold pr0Of nr0Of
  rcases lt_or_gt_of_ne ha with h | h
  · rw [if_pos (by omega), if_neg (by omega)]; congr 1 <;> ring
  · rw [if_neg (by omega), if_pos h]; congr 1; ring

theorem pick_comm (x y : Int) : pick x y = pick y x := by
  unfold pick; split_ifs <;> omega

theorem pick_of_nonpos {nr pr : Int} (hn : nr ≤ 0) (hp : 0 < pr) : pick nr pr = pr := by
  unfold pick; rw [if_pos hp, if_neg (by omega)]

theorem pick_of_pos_le {nr pr : Int} (hn : 0 < nr) (h : nr ≤ pr) : pick nr pr = nr := by
  unfold pick; rw [if_pos (by omega), if_pos hn, if_neg (by omega)]

theorem pick_cases (nr pr : Int) : pick nr pr = 0 ∨ (pick nr pr = nr ∧ 0 < nr) ∨ (pick nr pr = pr ∧ 0 < pr) := by
  unfold pick; split_ifs <;> omega

theorem disc_nonneg (a K c t : Int) (ha : 0 < a) (hq : qq a K c t ≤ 0) : 0 ≤ K * K - 8 * a * c :=
  (mul_self_nonneg _).trans ((sq_le_disc_iff a K c t ha).mpr hq)

/-- upward case (`a > 0`): the answer is the ceiled larger root; `s` is a tick (the reversal tick, or 0)
at which the level is not yet reached -/
theorem quadTime_up (a K c τe s T : Int) (ha : 0 < a) (hs : 0 ≤ s)
    (hτ : τe = s ∨ (τe ≤ 0 ∧ s = 0)) (hqs : qq a K c s < 0) (hT : s < T)
    (hv : 0 ≤ 2 * a * T + K) (hqT : 0 ≤ qq a K c T)
    (hmin : ∀ t, s < t → 0 ≤ qq a K c t → T ≤ t) : quadTime a K c τe = T := by
  have hD := disc_nonneg a K c s ha hqs.le
  have hbig := big_root_spec a K c ha hD
  have hpr : pr0Of a K (K * K - 8 * a * c) = T := by
    rw [pr0Of, if_pos ha]
    refine le_antisymm ((hbig T).mpr ⟨hv, hqT⟩) (hmin _ ?_ ((hbig _).mp le_rfl).2)
    by_contra hc
    exact absurd ((hbig s).mp (not_lt.mp hc)).2 (not_le.mpr hqs)
  have hnr : nr0Of a K (K * K - 8 * a * c) ≤ s := by
    rw [nr0Of, if_pos ha]
    exact (small_root_spec a K c ha hD s).mpr (Or.inr hqs.le)
  rw [quadTime_eq, if_neg (not_lt.mpr hD), hpr, discard_of_lt (x := T) (by omega)]
  refine pick_of_nonpos ?_ (by omega : 0 < T)
  unfold discard
  split_ifs <;> omega

/-- downward case on an upward parabola (`a > 0`): the budget is reached before the turning point; the
answer is the ceiled smaller root -/
theorem quadTime_down (a K c τe T : Int) (ha : 0 < a) (hτ : τe ≤ 0)
    (hq0 : 0 < qq a K c 0) (hK : K < 0) (hT : 1 ≤ T) (hqT : qq a K c T ≤ 0)
    (hmin : ∀ t, 1 ≤ t → t ≤ T → (qq a K c t ≤ 0 ∨ 0 ≤ 2 * a * t + K) → T ≤ t) :
    quadTime a K c τe = T := by
  have hD := disc_nonneg a K c T ha hqT
  have hsmall := small_root_spec a K c ha hD
  have h1 : cdiv (-fsqrt (K * K - 8 * a * c) - K) (2 * a) ≤ T := (hsmall T).mpr (Or.inr hqT)
  have h2 : 1 ≤ cdiv (-fsqrt (K * K - 8 * a * c) - K) (2 * a) := by
    by_contra hc
    rcases (hsmall 0).mp (by omega) with h | h
    · rw [mul_zero, zero_add] at h; omega
    · exact absurd h (not_le.mpr hq0)
  have hnr : nr0Of a K (K * K - 8 * a * c) = T := by
    rw [nr0Of, if_pos ha]
    exact le_antisymm h1 (hmin _ h2 h1 ((hsmall _).mp le_rfl).symm)
  have hle : nr0Of a K (K * K - 8 * a * c) ≤ pr0Of a K (K * K - 8 * a * c) := by
    rw [nr0Of, pr0Of, if_pos ha, if_pos ha]; exact small_le_big a K c ha hD
  rw [quadTime_eq, if_neg (not_lt.mpr hD), discard_of_lt (Or.inr hτ), discard_of_lt (Or.inr hτ)]
  rw [hnr] at hle ⊢
  exact pick_of_pos_le (by omega) hle

theorem quadTime_neg (a K c τe : Int) (ha : a ≠ 0) : quadTime (-a) (-K) (-c) τe = quadTime a K c τe := by
  have e : -K * -K - 8 * -a * -c = K * K - 8 * a * c := by ring
  rw [quadTime_eq, quadTime_eq, e, pr0Of_neg a K _ ha, nr0Of_neg a K _ ha, pick_comm]

end C03
end Plotink
