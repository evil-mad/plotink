import Plotink.Model.PyFloat
/-! # `str.strip()`

`stripBy p s` (`Model/PyFloat.lean`) removes the characters satisfying `p` from both ends.  Three facts say what it does:
the text is blanks, the stripped text, blanks (`stripBy_decomp`); the stripped text has no blank at either end
(`trimmed_stripBy`); and a text of that shape strips to its middle (`stripBy_core`).  The other models of `strip()`
(`C15.strip`, `C16.strip`, `Ebb3.strip`) are `pyStrip`, that is `stripBy isPySpace`; that is proved next to their own
lemmas (`C15Version`, `C16Basic`, `Ebb3Str`).  Core Lean only. -/
namespace Plotink
namespace PyFloat
variable (p : Char → Bool)

def Trimmed (s : List Char) : Prop :=
  (∀ c, s.head? = some c → p c = false) ∧ (∀ c, s.getLast? = some c → p c = false)

theorem dropWhile_of_head {s : List Char} (h : ∀ c, s.head? = some c → p c = false) : s.dropWhile p = s := by
  cases s with
  | nil => rfl
  | cons c s => rw [List.dropWhile_cons, h c rfl]; rfl

theorem head_dropWhile (s : List Char) (c : Char) (h : (s.dropWhile p).head? = some c) : p c = false := by
  have := List.head?_dropWhile_not p s
  rwa [h] at this

theorem getLast?_dropWhile {s : List Char} {c : Char} (h : (s.dropWhile p).getLast? = some c) : s.getLast? = some c := by
  rw [← List.takeWhile_append_dropWhile (p := p) (l := s), List.getLast?_append, h]; rfl

theorem stripBy_core (l m r : List Char) (hl : ∀ c ∈ l, p c = true) (hr : ∀ c ∈ r, p c = true) (hm : Trimmed p m) :
    stripBy p (l ++ (m ++ r)) = m := by
  unfold stripBy
  rw [List.dropWhile_append_of_pos hl]
  cases m with
  | nil =>
    have := List.dropWhile_append_of_pos (l₂ := []) hr
    rw [List.append_nil] at this
    rw [List.nil_append, this]; rfl
  | cons c m =>
    rw [dropWhile_of_head p (s := c :: m ++ r) fun d hd => hm.1 d hd, List.reverse_append,
      List.dropWhile_append_of_pos fun d hd => hr d (List.mem_reverse.1 hd),
      dropWhile_of_head p fun d hd => hm.2 d (List.head?_reverse ▸ hd), List.reverse_reverse]

theorem stripBy_decomp (s : List Char) :
    ∃ l r, (∀ c ∈ l, p c = true) ∧ (∀ c ∈ r, p c = true) ∧ s = l ++ (stripBy p s ++ r) := by
  refine ⟨s.takeWhile p, ((s.dropWhile p).reverse.takeWhile p).reverse,
    List.all_eq_true.1 List.all_takeWhile, fun c hc => List.all_eq_true.1 List.all_takeWhile c (List.mem_reverse.1 hc), ?_⟩
  unfold stripBy
  rw [← List.reverse_append, List.takeWhile_append_dropWhile, List.reverse_reverse, List.takeWhile_append_dropWhile]

theorem trimmed_stripBy (s : List Char) : Trimmed p (stripBy p s) := by
  unfold stripBy
  refine ⟨fun c hc => ?_, fun c hc => head_dropWhile p _ c (List.getLast?_reverse ▸ hc)⟩
  rw [List.head?_reverse] at hc
  exact head_dropWhile p s c (List.getLast?_reverse ▸ getLast?_dropWhile p hc)

theorem stripBy_of_trimmed {s : List Char} (h : Trimmed p s) : stripBy p s = s := by
  have := stripBy_core p [] s [] (fun _ h => nomatch h) (fun _ h => nomatch h) h
  rwa [List.nil_append, List.append_nil] at this

theorem stripBy_idem (s : List Char) : stripBy p (stripBy p s) = stripBy p s :=
  stripBy_of_trimmed p (trimmed_stripBy p s)

theorem trimmed_of_none {s : List Char} (h : ∀ c ∈ s, p c = false) : Trimmed p s :=
  ⟨fun c hc => h c (List.mem_of_head? hc), fun c hc => h c (List.mem_of_getLast? hc)⟩

theorem getLast?_append_ne {a b : List Char} (hb : b ≠ []) : (a ++ b).getLast? = b.getLast? := by
  rw [List.getLast?_append]
  cases h : b.getLast? with
  | none => exact absurd (List.getLast?_eq_none_iff.mp h) hb
  | some d => rfl

theorem stripBy_keeps_last (t : List Char) (c : Char) (hc : t.getLast? = some c) (hp : p c = false) :
    (stripBy p t).getLast? = some c := by
  obtain ⟨l, r, hl, hr, hs⟩ := stripBy_decomp p t
  have no : ∀ {x : List Char}, x.getLast? = some c → (∀ d ∈ x, p d = true) → False := fun h ha => by
    rw [ha c (List.mem_of_getLast? h)] at hp; cases hp
  rw [hs, ← List.append_assoc, List.getLast?_append] at hc
  cases hr' : r.getLast? with
  | some d => rw [hr'] at hc; exact (no (hr' ▸ hc ▸ rfl) hr).elim
  | none =>
    rw [hr', Option.none_or, List.getLast?_append] at hc
    cases hm : (stripBy p t).getLast? with
    | some d => rw [hm] at hc; exact hc
    | none => rw [hm] at hc; exact (no hc hl).elim

/-- `s.rstrip()`; `stripBy p s` is `rstripBy p (s.dropWhile p)` by definition -/
def rstripBy (s : List Char) : List Char := (s.reverse.dropWhile p).reverse

theorem rstripBy_cons {c : Char} (h : p c = false) (s : List Char) : rstripBy p (c :: s) = c :: rstripBy p s := by
  unfold rstripBy
  rw [List.reverse_cons, List.dropWhile_append]
  split
  · rename_i he
    rw [List.isEmpty_iff.1 he, List.dropWhile_cons, h]; rfl
  · rw [List.reverse_append]; rfl

theorem stripBy_cons {c : Char} (h : p c = false) (s : List Char) : stripBy p (c :: s) = c :: rstripBy p s := by
  show rstripBy p ((c :: s).dropWhile p) = _
  rw [List.dropWhile_cons, h]; exact rstripBy_cons p h s

theorem rstripBy_decomp (s : List Char) : ∃ z, (∀ c ∈ z, p c = true) ∧ s = rstripBy p s ++ z :=
  ⟨(s.reverse.takeWhile p).reverse, fun c hc => List.all_eq_true.1 List.all_takeWhile c (List.mem_reverse.1 hc), by
    rw [rstripBy, ← List.reverse_append, List.takeWhile_append_dropWhile, List.reverse_reverse]⟩

theorem rstripBy_last (s : List Char) (c : Char) (h : (rstripBy p s).getLast? = some c) : p c = false :=
  head_dropWhile p s.reverse c (List.getLast?_reverse ▸ h)

theorem stripBy_rstripBy (s : List Char) : stripBy p (rstripBy p s) = stripBy p s := by
  obtain ⟨z, hz, e⟩ := rstripBy_decomp p s
  obtain ⟨l, r, hl, hr, e'⟩ := stripBy_decomp p (rstripBy p s)
  have := stripBy_core p l _ (r ++ z) hl (fun c hc => (List.mem_append.1 hc).elim (hr c) (hz c))
    (trimmed_stripBy p (rstripBy p s))
  rw [← List.append_assoc (stripBy p _), ← List.append_assoc l, ← e', ← e] at this
  exact this.symm

theorem toNat_ofNat_valid {n : Nat} (h : n.isValidChar) : (Char.ofNat n).toNat = n := by
  rw [Char.ofNat, dif_pos h]; rfl

theorem isDigit_iff (c : Char) : c.isDigit = true ↔ 48 ≤ c.toNat ∧ c.toNat ≤ 57 := by
  simp only [Char.isDigit, Bool.and_eq_true, decide_eq_true_eq, ge_iff_le, UInt32.le_iff_toNat_le]
  rfl

theorem not_space_of_isDigit {c : Char} (h : c.isDigit = true) : isPySpace c = false := by
  have := (isDigit_iff c).mp h
  simp only [isPySpace, isCSpace, Bool.or_eq_false_iff, beq_eq_false_iff_ne, Bool.and_eq_false_iff,
    decide_eq_false_iff_not]
  omega

end PyFloat
end Plotink
