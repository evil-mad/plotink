import Plotink.Proofs.Keeps

/-! # A frame property of regenerated code

Whatever a regenerated method does, it leaves the external inputs (`World.ext`) alone and it only *consumes* the
scripts of the port: every read / write outcome still pending afterwards was pending before.  `Fr` is reflexive and
transitive and does not look at the attributes, so it is an instance `frRel` of the relations of `Keeps`, with running
out of fuel allowed; the two leaves that consume a script have it.  `FrE` / `FrS` / `FrM` are `KeepsE` / `KeepsS` /
`KeepsM frRel True` (the `_iff` lemmas, in the set `fr`), so `fr_walk` proves the frame property of a generated term. -/

namespace Plotink
namespace Ebb3Gen
open PyObj

section
variable {ω σ : Type}

def Fr (w w' : World ω) : Prop :=
  w'.ext = w.ext ∧ (∀ r, r ∈ w'.port.reads → r ∈ w.port.reads) ∧ (∀ x, x ∈ w'.port.writes → x ∈ w.port.writes)

theorem Fr.ext {w w' : World ω} (h : Fr w w') : w'.ext = w.ext := h.1
theorem Fr.reads {w w' : World ω} (h : Fr w w') {r} (hr : r ∈ w'.port.reads) : r ∈ w.port.reads := h.2.1 r hr
theorem Fr.writes {w w' : World ω} (h : Fr w w') {x} (hx : x ∈ w'.port.writes) : x ∈ w.port.writes := h.2.2 x hx

theorem Fr.refl (w : World ω) : Fr w w := ⟨rfl, fun _ h => h, fun _ h => h⟩
theorem Fr.trans {a b c : World ω} (h1 : Fr a b) (h2 : Fr b c) : Fr a c :=
  ⟨h2.ext.trans h1.ext, fun _ h => h1.reads (h2.reads h), fun _ h => h1.writes (h2.writes h)⟩
theorem Fr.setObj {a b : World ω} (h : Fr a b) (o : ω) : Fr a { b with obj := o } := h

def FrE (e : Eff ω) : Prop := ∀ w, Fr w (e w).2

def FrF (w : World ω) : Flow ω σ → Prop
  | .norm _ w' => Fr w w'
  | .ret _ w' => Fr w w'
  | .exc _ _ w' => Fr w w'
  | .brk _ w' => Fr w w'
  | .cont _ w' => Fr w w'
  | .fuelOut => True

def FrS (s : Stmt ω σ) : Prop := ∀ fuel env w, FrF w (s fuel env w)

def FrO (w : World ω) : Out ω → Prop
  | .val _ w' => Fr w w'
  | .exc _ w' => Fr w w'
  | .fuelOut => True

/-- a generated method (after its arguments) -/
def FrM (f : World ω → Out ω) : Prop := ∀ w, FrO w (f w)

def FrEs : List (Eff ω) → Prop
  | [] => True
  | a :: r => FrE a ∧ FrEs r

def FrSs : List (Stmt ω σ) → Prop
  | [] => True
  | a :: r => FrS a ∧ FrSs r

def FrHs : List (Handler ω σ) → Prop
  | [] => True
  | h :: r => FrS h.body ∧ FrHs r

def frRel : WRel ω := ⟨Fr, Fr.refl, Fr.trans⟩

theorem frRel_objFree : (frRel (ω := ω)).ObjFree := fun _ _ _ h => h

theorem frE_iff {e : Eff ω} : FrE e ↔ KeepsE frRel True e :=
  ⟨fun h w => ⟨h w, fun _ => trivial⟩, fun h w => (h w).1⟩
theorem frF_iff {w : World ω} {fl : Flow ω σ} : FrF w fl ↔ KeepsF frRel True w fl := by cases fl <;> exact Iff.rfl
theorem frS_iff {s : Stmt ω σ} : FrS s ↔ KeepsS frRel True s :=
  forall_congr' fun _ => forall_congr' fun _ => forall_congr' fun _ => frF_iff
theorem frM_iff {f : World ω → Out ω} : FrM f ↔ KeepsM frRel True f :=
  forall_congr' fun w => by cases f w <;> exact Iff.rfl
theorem frEs_iff : ∀ {l : List (Eff ω)}, FrEs l ↔ KeepsEs frRel True l
  | [] => Iff.rfl
  | _ :: _ => and_congr frE_iff frEs_iff
theorem frSs_iff : ∀ {l : List (Stmt ω σ)}, FrSs l ↔ KeepsSs frRel True l
  | [] => Iff.rfl
  | _ :: _ => and_congr frS_iff frSs_iff
theorem frHs_iff : ∀ {l : List (Handler ω σ)}, FrHs l ↔ KeepsHs frRel True l
  | [] => Iff.rfl
  | _ :: _ => and_congr frS_iff frHs_iff

theorem FrE.meth_readline (v : Val) : FrE (meth_readline v : Eff ω) := by
  intro w
  cases v <;> try exact Fr.refl w
  unfold PyObj.meth_readline
  simp only
  split
  · exact Fr.refl w
  all_goals next h => exact ⟨rfl, fun r hr => h ▸ List.mem_cons_of_mem _ hr, fun _ h => h⟩

theorem FrE.meth_write (a b : Val) : FrE (meth_write a b : Eff ω) := by
  intro w
  cases a <;> try exact Fr.refl w
  cases b <;> try exact Fr.refl w
  unfold PyObj.meth_write
  simp only
  split
  · exact Fr.refl w
  all_goals next h => exact ⟨rfl, fun _ h => h, fun r hr => h ▸ List.mem_cons_of_mem _ hr⟩

theorem keepsE_readline (v : Val) : KeepsE frRel True (meth_readline v : Eff ω) := frE_iff.mp (.meth_readline v)
theorem keepsE_write (a b : Val) : KeepsE frRel True (meth_write a b : Eff ω) := frE_iff.mp (.meth_write a b)

theorem FrE.dropCall {l : List (Eff ω)} (h : FrEs l) : FrE (dropCall l) := frE_iff.mpr (.dropCall (frEs_iff.mp h))
theorem FrE.mcall3 {f : Val → Val → Val → World ω → Out ω} {a b c : Eff ω} (hf : ∀ x y z, FrM (f x y z))
    (ha : FrE a) (hb : FrE b) (hc : FrE c) : FrE (mcall3 f a b c) :=
  frE_iff.mpr (.mcall3 (fun x y z => frM_iff.mp (hf x y z)) (frE_iff.mp ha) (frE_iff.mp hb) (frE_iff.mp hc))
theorem FrS.assign (set : σ → Val → σ) {e : Expr ω σ} (he : ∀ fuel env, FrE (e fuel env)) : FrS (assign set e) :=
  frS_iff.mpr (.assign set fun fuel env => frE_iff.mp (he fuel env))
theorem FrS.continue_ : FrS (continue_ : Stmt ω σ) := frS_iff.mpr .continue_
theorem FrS.dispatch : ∀ (hs : List (Handler ω σ)), FrHs hs → ∀ e, FrS (dispatch hs e) :=
  fun hs h e => frS_iff.mpr (.dispatch hs (frHs_iff.mp h) e)

end

attribute [fr ↓] keepsE_readline keepsE_write
attribute [fr] frRel_objFree frE_iff frS_iff frM_iff frEs_iff frSs_iff frHs_iff

end Ebb3Gen
end Plotink
