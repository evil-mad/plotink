import Plotink.Model.Firmware
import Plotink.Proofs.PySeq
import Plotink.Proofs.Contract
import Plotink.Proofs.RoundHE
import Mathlib.Tactic.SplitIfs
import Mathlib.Data.Rat.Floor
import Mathlib.Algebra.Order.Floor.Ring

/-! What the numeric bridges of C01, C02, C03 and C17 share: the division of `Py` where a side condition is needed,
`int()`/`floor`/`ceil` of exact values, and the rounding sites that drop out under `ContractExact` because their
argument is an integer or half-integer below `2^103` (resp. `2^53`). -/

namespace Plotink
open Py Py.Val

theorem div_int_int (R : Rounding) (p) (a b : Int) (hb : (b : Rat) ≠ 0) :
    Py.truediv R p (.int a) (.int b) = .flt (R.f64 ((a : Rat) / (b : Rat))) := by
  simp [Py.truediv, Py.num, hb, Py.join, Py.kind]
theorem div_mpf_int (R : Rounding) (p) (a : Rat) (b : Int) (hb : (b : Rat) ≠ 0) :
    Py.truediv R p (.mpf a) (.int b) = .mpf (R.mp p (a / (b : Rat))) := by
  simp [Py.truediv, Py.num, hb, Py.join, Py.kind, Py.pack]
theorem div_mpf_mpf (R : Rounding) (p) (a b : Rat) (hb : b ≠ 0) :
    Py.truediv R p (.mpf a) (.mpf b) = .mpf (R.mp p (a / b)) := by
  simp [Py.truediv, Py.num, hb, Py.join, Py.kind, Py.pack]

/-- `mp.dps = 30` in `ebb_calc`: every `mpf` operation of C01, C02 and C03 rounds to 103 bits -/
theorem dpsToPrec_30 : Py.dpsToPrec 30 = 103 := by decide

theorem tdiv_abs (a d : Int) (hd : 0 ≤ d) : |Fw.tdiv a d| ≤ |a| := by
  unfold Fw.tdiv
  split_ifs with h
  · rw [abs_of_nonneg (Int.ediv_nonneg h hd), abs_of_nonneg h]; exact Int.ediv_le_self d h
  · have h' : 0 ≤ -a := by omega
    rw [abs_neg, abs_of_nonneg (Int.ediv_nonneg h' hd), abs_of_neg (by omega)]; exact Int.ediv_le_self d h'

theorem tdiv2_near (a : Int) : -1 ≤ a - 2 * Fw.tdiv a 2 ∧ a - 2 * Fw.tdiv a 2 ≤ 1 := by
  unfold Fw.tdiv; split <;> omega

theorem tdiv2_bound (a : Int) : |Fw.tdiv a 2| ≤ |a| := tdiv_abs a 2 (by norm_num)

theorem abs_mul_le {a b : Int} {x y : Int} (hx : |x| ≤ a) (hy : |y| ≤ b) : |x * y| ≤ a * b := by
  rw [abs_mul]
  exact mul_le_mul hx hy (abs_nonneg _) (le_trans (abs_nonneg _) hx)

theorem abs_cast_le {n b : Int} (h : |n| ≤ b) : |(n : Rat)| ≤ (b : Rat) := by
  rw [← Int.cast_abs]; exact_mod_cast h

theorem abs_intCast_le {n : Int} {k : Nat} (h : |n| ≤ 2 ^ k) : |(n : Rat)| ≤ 2 ^ k := by
  exact_mod_cast abs_cast_le h

theorem abs_cast_div_le {n : Int} {k : Nat} (h : |n| ≤ 2 ^ k) (d : Rat) (hd : 1 ≤ d) : |(n : Rat) / d| ≤ 2 ^ k := by
  rw [abs_div, abs_of_pos (lt_of_lt_of_le one_pos hd)]
  exact (div_le_self (abs_nonneg _) hd).trans (abs_intCast_le h)

theorem intOfRat_int (n : Int) : Py.intOfRat (n : Rat) = n := by
  unfold Py.intOfRat
  split
  · simp [Rat.floor_intCast]
  · have : (-(n : Rat)) = ((-n : Int) : Rat) := by push_cast; ring
    rw [this, Rat.floor_intCast]; ring

theorem intOfRat_half (a : Int) : Py.intOfRat ((a : Rat) / 2) = Fw.tdiv a 2 := by
  have fl : ∀ b : Int, ((b : Rat) / 2).floor = b / 2 := fun b => by
    have := Rat.floor_intCast_div_natCast b 2
    rwa [Nat.cast_ofNat, Nat.cast_ofNat] at this
  unfold Py.intOfRat Fw.tdiv
  by_cases h : 0 ≤ a
  · rw [if_pos (div_nonneg (Int.cast_nonneg h) zero_le_two), if_pos h, fl]
  · have hq : ¬ 0 ≤ (a : Rat) / 2 := not_le.mpr (div_neg_of_neg_of_pos (Int.cast_lt_zero.mpr (not_le.mp h)) two_pos)
    rw [if_neg hq, if_neg h, ← neg_div 2 (a : Rat), ← Int.cast_neg a, fl]

theorem ceilRat_eq_iff (q : Rat) (m : Int) : Py.ceilRat q = m ↔ ((m : Rat) - 1 < q ∧ q ≤ m) := by
  unfold Py.ceilRat
  constructor
  · intro h
    have h1 : (-q).floor = -m := by omega
    have a := Rat.floor_le (-q)
    have b := Rat.lt_floor_add_one (-q)
    rw [h1] at a b
    push_cast at a b
    constructor <;> linarith
  · rintro ⟨h1, h2⟩
    have : (-q).floor = -m := by
      apply le_antisymm
      · have : (-q).floor < -m + 1 := by
          rw [Rat.floor_lt_iff]; push_cast; linarith
        omega
      · rw [Rat.le_floor_iff]; push_cast; linarith
    omega

theorem ceilRat_int (m : Int) : Py.ceilRat (m : Rat) = m := by
  rw [ceilRat_eq_iff]; constructor <;> linarith

theorem floor_div_two31 (tot : Int) : ((tot : Rat) / 2147483648).floor = tot / 2147483648 := by
  have := Rat.floor_intCast_div_natCast tot 2147483648
  have e : ((tot : Rat) / 2147483648).floor = ⌊((tot : Rat) / ((2147483648 : Nat) : Rat))⌋ := by norm_num; rfl
  rw [e, this]; norm_num

section
variable {R : Rounding} (hR : ContractExact R)
include hR

theorem mp_int (n : Int) (h : |n| < 2 ^ 103) : R.mp 103 (n : Rat) = n :=
  hR.mp_exact 103 _ (rep_int 103 n h)

theorem mp_half (n : Int) (h : |n| < 2 ^ 103) : R.mp 103 ((n : Rat) / 2) = (n : Rat) / 2 :=
  hR.mp_exact 103 _ (rep_half 103 n h)

/-- the same for a value that is an integer or a half-integer up to `push_cast; ring` -/
theorem mp_int_eq (x : Rat) (n : Int) (hx : x = (n : Rat)) (hn : |n| < 2 ^ 103) : R.mp 103 x = (n : Rat) :=
  hx ▸ mp_int hR n hn

theorem mp_half_eq (x : Rat) (n : Int) (hx : x = (n : Rat) / 2) (hn : |n| < 2 ^ 103) :
    R.mp 103 x = (n : Rat) / 2 :=
  hx ▸ mp_half hR n hn

theorem mp_mul_int (a b : Int) (h : |a * b| < 2 ^ 103) : R.mp 103 ((a : Rat) * (b : Rat)) = ((a * b : Int) : Rat) :=
  mp_int_eq hR _ _ (Int.cast_mul a b).symm h

theorem f64_int (n : Int) (h : |n| < 2 ^ 53) : R.f64 (n : Rat) = n := hR.f64_exact _ (rep_int 53 n h)

theorem f64_half (n : Int) (h : |n| < 2 ^ 53) : R.f64 ((n : Rat) / 2) = (n : Rat) / 2 :=
  hR.f64_exact _ (rep_half 53 n h)

theorem f64_half_eq (x : Rat) (n : Int) (hx : x = (n : Rat) / 2) (hn : |n| < 2 ^ 53) : R.f64 x = (n : Rat) / 2 :=
  hx ▸ f64_half hR n hn

theorem half_exact (accel : Int) (ha : |accel| ≤ 2 ^ 32) :
    R.f64 ((accel : Rat) / 2) = (accel : Rat) / 2 :=
  f64_half hR accel (lt_of_le_of_lt ha (by norm_num))

theorem mp_two31 : R.mp 103 (2147483648 : Rat) = 2147483648 := by
  have := mp_int hR 2147483648 (by norm_num)
  rwa [Int.cast_ofNat] at this

/-- the last lines of `move_dist_lt` / `move_dist_t3` split an exact integer total into
`(tot / 2^31, tot % 2^31)` by an `mpf` quotient, `floor`, product and difference: all four are exact. (`2^100` is what
both callers have; any bound that keeps `2^31·⌊tot/2^31⌋` below `2^103` would do.) -/
theorem split_two31 (tot : Int) (hb : |tot| < 2 ^ 100) :
    Py.intOfRat (((R.mp 103 ((tot : Rat) / 2147483648)).floor : Int) : Rat) = tot / 2147483648 ∧
    Py.intOfRat (R.mp 103 ((tot : Rat) - R.mp 103 ((2147483648 : Rat) *
      R.mp 103 (((R.mp 103 ((tot : Rat) / 2147483648)).floor : Int) : Rat)))) = tot % 2147483648 := by
  have btot : |tot| < 2 ^ 103 := lt_trans hb (by norm_num)
  rw [abs_lt] at hb
  have e13 : R.mp 103 ((tot : Rat) / 2147483648) = (tot : Rat) / 2147483648 := by
    rw [show (2147483648 : Rat) = 2 ^ 31 by norm_num]
    exact hR.mp_exact 103 _ (rep_div_pow2 103 tot 31 btot)
  rw [e13, floor_div_two31, intOfRat_int, mp_int hR _ (by rw [abs_lt]; omega),
    mp_int_eq hR ((2147483648 : Rat) * ((tot / 2147483648 : Int) : Rat)) (2147483648 * (tot / 2147483648))
      (by push_cast; ring) (by rw [abs_lt]; omega),
    mp_int_eq hR _ (tot % 2147483648) (by rw [Int.emod_def]; push_cast; ring) (by rw [abs_lt]; omega),
    intOfRat_int]
  exact ⟨rfl, rfl⟩

end

end Plotink
