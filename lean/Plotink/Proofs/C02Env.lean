import Plotink.Proofs.C02Rate

/-! # C02 — firmware validity implies the magnitude envelope (a discrete Markov inequality)

If every per-tick rate of a T3 move stays within the signed 32-bit range then the second difference
`jerk` of the rate parabola is at most `24·2^32 / T²` (`second_diff_sq`), hence `|jerk|·T² ≤ 2^38` and
`|accel|·T ≤ 2^40`, far below the `2^50` of `EnvT3`, and every intermediate of the Python computation is exactly
representable / negligibly rounded. -/

namespace Plotink
namespace T3
open Fw

/-- The firmware-valid domain of the property statement: `1 ≤ T` (a 32-bit tick count), every per-tick
rate within the signed 32-bit range `[−2^31, 2^31−1]` (asymmetric: `−2^31` is a valid rate) and every
per-tick acceleration within `±2^31`. -/
structure ValidT3 (rate accel jerk T : Int) : Prop where
  hT1 : 1 ≤ T
  hT : T ≤ 2 ^ 32
  hrate : ∀ k : Nat, 1 ≤ k → (k : Int) ≤ T →
    -2 ^ 31 ≤ t3Rate rate accel jerk k ∧ t3Rate rate accel jerk k ≤ 2 ^ 31 - 1
  haccel : ∀ k : Nat, (k : Int) ≤ T → |t3Accel rate accel jerk k| ≤ 2 ^ 31

theorem validT3_of_ticks (rate accel jerk : Int) (n : Nat) (hn1 : 1 ≤ n) (hn : (n : Int) ≤ 2 ^ 32)
    (h : ∀ k ∈ List.range (n + 1),
      (1 ≤ k → -2 ^ 31 ≤ t3Rate rate accel jerk k ∧ t3Rate rate accel jerk k ≤ 2 ^ 31 - 1) ∧
      |t3Accel rate accel jerk k| ≤ 2 ^ 31) : ValidT3 rate accel jerk n :=
  ⟨by exact_mod_cast hn1, hn, fun k h1 hk => (h k (List.mem_range.mpr (by omega))).1 h1,
    fun k hk => (h k (List.mem_range.mpr (by omega))).2⟩

/-- A quadratic `P k = 2q + 2ka + jk(k−1)` bounded by `B` at `1`, `m` and `T`: the three-point (divided
difference) identity `P 1·(T−m) − P m·(T−1) + P T·(m−1) = j·(m−1)(T−m)(T−1)` bounds its second difference `j`. -/
theorem second_diff_bound (q a j m T B : Int) (hm1 : 1 ≤ m) (hmT : m ≤ T) (hT : 1 < T)
    (p1 : |2 * q + 2 * 1 * a + j * 1 * (1 - 1)| ≤ B) (pm : |2 * q + 2 * m * a + j * m * (m - 1)| ≤ B)
    (pT : |2 * q + 2 * T * a + j * T * (T - 1)| ≤ B) : |j| * ((m - 1) * (T - m)) ≤ 2 * B := by
  have hTm : 0 ≤ T - m := by omega
  have hT1 : 0 ≤ T - 1 := by omega
  have hm1' : 0 ≤ m - 1 := by omega
  have id3 : (2 * q + 2 * 1 * a + j * 1 * (1 - 1)) * (T - m) - (2 * q + 2 * m * a + j * m * (m - 1)) * (T - 1)
      + (2 * q + 2 * T * a + j * T * (T - 1)) * (m - 1) = j * ((m - 1) * (T - m) * (T - 1)) := by ring
  have habs : |j| * ((m - 1) * (T - m) * (T - 1)) ≤ B * (T - m) + B * (T - 1) + B * (m - 1) := by
    rw [← abs_of_nonneg (mul_nonneg (mul_nonneg hm1' hTm) hT1), ← abs_mul, ← id3]
    refine le_trans (abs_add_le _ _) (add_le_add (le_trans (abs_sub _ _) (add_le_add ?_ ?_)) ?_)
    · rw [abs_mul, abs_of_nonneg hTm]; exact mul_le_mul_of_nonneg_right p1 hTm
    · rw [abs_mul, abs_of_nonneg hT1]; exact mul_le_mul_of_nonneg_right pm hT1
    · rw [abs_mul, abs_of_nonneg hm1']; exact mul_le_mul_of_nonneg_right pT hm1'
  rw [show B * (T - m) + B * (T - 1) + B * (m - 1) = 2 * B * (T - 1) by ring, ← mul_assoc, ← mul_assoc] at habs
  rw [← mul_assoc]
  exact le_of_mul_le_mul_right habs (by omega)

/-- with `m = ⌈T/2⌉`, both `m − 1` and `T − m` are a fixed fraction of `T` -/
theorem second_diff_sq (q a j T B : Int) (hT : 3 ≤ T)
    (hp : ∀ k : Int, 1 ≤ k → k ≤ T → |2 * q + 2 * k * a + j * k * (k - 1)| ≤ B) : |j| * T * T ≤ 24 * B := by
  obtain ⟨m, hm1, hm2⟩ : ∃ m : Int, T ≤ 2 * m ∧ 2 * m ≤ T + 1 := ⟨(T + 1) / 2, by omega, by omega⟩
  have hcore := second_diff_bound q a j m T B (by omega) (by omega) (by omega) (hp 1 (le_refl _) (by omega))
    (hp m (by omega) (by omega)) (hp T (by omega) (le_refl _))
  have hTT := mul_le_mul (show T ≤ 4 * (m - 1) by omega) (show T ≤ 3 * (T - m) by omega) (by omega) (by omega)
  linarith only [mul_le_mul_of_nonneg_left hTT (abs_nonneg j), hcore]

/-- the difference of the quadratic's end values bounds the mean slope `2a + jT`, hence `a` once `j` is bounded -/
theorem first_diff_bound (q a j T B : Int) (hT : 1 < T)
    (p1 : |2 * q + 2 * 1 * a + j * 1 * (1 - 1)| ≤ B) (pT : |2 * q + 2 * T * a + j * T * (T - 1)| ≤ B) :
    2 * (|a| * T) ≤ 4 * B + |j| * T * T := by
  have hT0 : (0 : Int) ≤ T := by omega
  have id2 : (2 * q + 2 * T * a + j * T * (T - 1)) - (2 * q + 2 * 1 * a + j * 1 * (1 - 1))
      = (2 * a + j * T) * (T - 1) := by ring
  have h1 : |2 * a + j * T| * (T - 1) ≤ B + B := by
    rw [← abs_of_pos (show 0 < T - 1 by omega), ← abs_mul, ← id2]
    exact (abs_sub _ _).trans (add_le_add pT p1)
  have h2 : |2 * a + j * T| * T ≤ |2 * a + j * T| * (2 * (T - 1)) := mul_le_mul_of_nonneg_left (by omega) (abs_nonneg _)
  have h3 := mul_le_mul_of_nonneg_right (abs_sub (2 * a + j * T) (j * T)) hT0
  rw [add_sub_cancel_right, add_mul, abs_mul j, abs_of_nonneg hT0, abs_mul, abs_two] at h3
  linarith only [h1, h2, h3]

theorem envelope_of_valid {rate accel jerk T : Int} (hv : ValidT3 rate accel jerk T) :
    EnvT3 rate accel jerk T := by
  obtain ⟨hT1, hT, hrate, haccel⟩ := hv
  have ha : |accel| ≤ 2 ^ 31 := by
    have := haccel 0 (by omega)
    rwa [accel_closed, Nat.cast_zero, zero_mul, add_zero] at this
  have hj : |jerk| ≤ 2 ^ 32 := by
    have h1 := haccel 1 (by omega)
    rw [accel_closed, Nat.cast_one, one_mul] at h1
    rw [abs_le] at ha h1 ⊢
    omega
  have hr : |rate| ≤ 2 ^ 40 := by
    have h1 := hrate 1 (le_refl _) (by omega)
    have h2 := (tdiv2_bound accel).trans ha
    have h3 := (tdiv6_abs jerk).trans hj
    rw [rate_one, r0] at h1
    rw [abs_le] at h2 h3 ha ⊢
    omega
  -- twice the rate at tick `k`, as a quadratic in `k`
  have hp : ∀ k : Int, 1 ≤ k → k ≤ T →
      |2 * r0 rate accel jerk + 2 * k * accel + jerk * k * (k - 1)| ≤ 2 ^ 32 := by
    intro k hk1 hkT
    have hkn : ((k.toNat : Nat) : Int) = k := Int.toNat_of_nonneg (by omega)
    have h := hrate k.toNat (by omega) (hkn.le.trans hkT)
    have hc := rate_closed rate accel jerk k.toNat
    rw [hkn] at hc
    rw [← hc, abs_le]
    omega
  have hjT : |jerk| * T * T ≤ 2 ^ 38 := by
    by_cases hT3 : T ≤ 2
    · have h0 := abs_nonneg jerk
      have := mul_le_mul (mul_le_mul_of_nonneg_left hT3 h0) hT3 (by omega) (mul_nonneg h0 zero_le_two)
      linarith only [this, hj]
    · linarith only [second_diff_sq _ accel jerk T _ (by omega) hp]
  have haT : |accel| * T ≤ 2 ^ 40 := by
    by_cases hT2 : T = 1
    · rw [hT2]; linarith only [ha]
    · linarith only [first_diff_bound _ accel jerk T _ (by omega) (hp 1 (le_refl _) hT1) (hp T hT1 (le_refl _)), hjT]
  exact ⟨hT1, hT, hr, ha.trans (by norm_num), hj.trans (by norm_num), haT.trans (by norm_num), hjT.trans (by norm_num)⟩

end T3
end Plotink
