import Plotink.Proofs.C16Exch
/-! The hub of C16: the request trace of an operation as a function of board and operation (`opReqs`; `w32Reqs`, `r32Reqs`,
`meReqs` for the composite methods) and the board after it, which is the board of `Spec.step` (`after_opReqs`; for
`motors_enable` `after_meReqs`, the one case analysis over the clamped requests).  In front the pure glue both the modelled
and the regenerated methods use: decimal text, the four bytes of an int32, the clamp, what `QE` reports (`qeRes`), the board
`motors_enable` has to reach (`meBoard`).  Nothing here speaks of a `World` or of the regenerated code. -/
namespace Plotink.C16

theorem pyInt_showNat (x : Nat) : pyInt (showNat x) = .ok (x : Int) := by
  unfold pyInt
  rw [strip_of_noEdge (noEdge_showNat x), parseInt?_showNat]

theorem beByte_cast (v : Int) (k : Nat) : (Spec.beByte v k : Int) = v % 4294967296 / 256 ^ (3 - k) % 256 :=
  Int.toNat_of_nonneg (Int.emod_nonneg _ (by decide))

theorem beByte_le (v : Int) (k : Nat) : Spec.beByte v k ≤ 255 := by
  have := beByte_cast v k
  have := Int.emod_lt_of_pos (v % 4294967296 / 256 ^ (3 - k)) (b := 256) (by decide)
  omega

theorem word_digits {u : Int} (h0 : 0 ≤ u) (h : u < 4294967296) :
    u / 16777216 % 256 * 16777216 + u / 65536 % 256 * 65536 + u / 256 % 256 * 256 + u % 256 = u := by
  -- as successive quotients by 256 the digits telescope; a direct `omega` on the four divisors is dear to check
  have e2 : u / 65536 = u / 256 / 256 := by rw [Int.ediv_ediv_of_nonneg (by decide)]; rfl
  have e3 : u / 16777216 = u / 256 / 256 / 256 := by rw [← e2, Int.ediv_ediv_of_nonneg (by decide)]; rfl
  have hc : u / 16777216 % 256 = u / 16777216 :=
    Int.emod_eq_of_lt (Int.ediv_nonneg h0 (by decide)) (Int.ediv_lt_of_lt_mul (by decide) h)
  rw [hc, e3, e2, Int.emod_def (u / 256 / 256), Int.emod_def (u / 256), Int.emod_def u]
  generalize u / 256 / 256 / 256 = c
  generalize u / 256 / 256 = b
  generalize u / 256 = a
  omega

/-- two's complement of a signed 32-bit value, as `to_bytes` computes it -/
theorem wrap32 {v : Int} (hv : IsInt32 v) : (if v < 0 then v + 4294967296 else v) = v % 4294967296 := by
  have := hv.1; have := hv.2
  by_cases h : v < 0
  · rw [if_pos h, ← Int.add_emod_right, Int.emod_eq_of_lt (by omega) (by omega)]
  · rw [if_neg h, Int.emod_eq_of_lt (Int.not_lt.mp h) (by omega)]

theorem toBytes4_eq {v : Int} (hv : IsInt32 v) :
    toBytes4 v = .ok [(Spec.beByte v 0 : Int), (Spec.beByte v 1 : Int), (Spec.beByte v 2 : Int), (Spec.beByte v 3 : Int)] := by
  simp only [toBytes4, if_pos (show _ ∧ _ from hv), beByte_cast, wrap32 hv, Nat.sub_zero, Nat.reduceSub,
    Int.reducePow, Int.pow_zero, Int.ediv_one]

theorem decode_beByte {v : Int} (hv : IsInt32 v) :
    Spec.decode32 (Spec.beByte v 0) (Spec.beByte v 1) (Spec.beByte v 2) (Spec.beByte v 3) = v := by
  have h0 : 0 ≤ v % 4294967296 := Int.emod_nonneg _ (by decide)
  have h1 : v % 4294967296 < 4294967296 := Int.emod_lt_of_pos _ (by decide)
  unfold Spec.decode32
  simp only [beByte_cast, Nat.sub_zero, Nat.reduceSub, Int.reducePow, Int.pow_zero, Int.ediv_one,
    word_digits h0 h1]
  rw [← wrap32 hv]
  have := hv.1
  by_cases h : v < 0
  · rw [if_pos h, if_neg (by omega), Int.add_sub_cancel]
  · rw [if_neg h, if_pos hv.2]

theorem fromBytes4_nat {a b c d : Nat} (ha : a ≤ 255) (hb : b ≤ 255) (hc : c ≤ 255) (hd : d ≤ 255) :
    fromBytes4 [.int a, .int b, .int c, .int d] = .ok (Spec.decode32 a b c d) := by
  have hr : (0 ≤ (a : Int) ∧ (a : Int) ≤ 255 ∧ 0 ≤ (b : Int) ∧ (b : Int) ≤ 255 ∧ 0 ≤ (c : Int) ∧ (c : Int) ≤ 255 ∧
      0 ≤ (d : Int) ∧ (d : Int) ≤ 255) :=
    ⟨Int.natCast_nonneg a, Int.ofNat_le.mpr ha, Int.natCast_nonneg b, Int.ofNat_le.mpr hb, Int.natCast_nonneg c,
      Int.ofNat_le.mpr hc, Int.natCast_nonneg d, Int.ofNat_le.mpr hd⟩
  simp only [fromBytes4, if_pos hr]
  unfold Spec.decode32
  generalize (a : Int) * 16777216 + b * 65536 + c * 256 + d = u
  show Except.ok (if u ≥ 2147483648 then u - 4294967296 else u) =
    .ok (if u < 2147483648 then u else u - 4294967296)
  by_cases h : u < 2147483648
  · rw [if_pos h, if_neg (Int.not_le.mpr h)]
  · rw [if_neg h, if_pos (Int.not_lt.mp h)]

theorem getD_byte {b : Board} (hwf : b.WF) (n : Nat) : b.vars.getD n 0 ≤ 255 := by
  by_cases h : n < b.vars.length
  · have := hwf.byte (b.vars.getD n 0) (List.mem_of_getElem? (getD_of_lt h))
    omega
  · simp [List.getD_eq_getElem?_getD, List.getElem?_eq_none (by omega : b.vars.length ≤ n)]

theorem resMap_qe {mode : Nat} (hm : 1 ≤ mode ∧ mode ≤ 5) (m : Bool) :
    resMap (((if m = true then qeCode mode else 0 : Nat)) : Int) = .ok (if m = true then (mode : Int) else 0) := by
  have : mode = 1 ∨ mode = 2 ∨ mode = 3 ∨ mode = 4 ∨ mode = 5 := by omega
  cases m <;> rcases this with h | h | h | h | h <;> subst h <;> rfl

theorem clamp05_eq (r : Int) : clamp05 r = Spec.clamp r := by
  unfold clamp05 Spec.clamp
  by_cases h : r < 0
  · rw [if_pos h, Int.max_eq_right (Int.le_of_lt h)]; rfl
  · rw [if_neg h, Int.max_eq_left (Int.not_lt.mp h)]
    by_cases h5 : r > 5
    · rw [if_pos h5, Int.min_eq_right (Int.le_of_lt h5)]
    · rw [if_neg h5, Int.min_eq_left (Int.not_lt.mp h5)]

theorem clamp_range (r : Int) : 0 ≤ Spec.clamp r ∧ Spec.clamp r ≤ 5 := by
  unfold Spec.clamp
  split
  · omega
  · split <;> omega

/-- the board required after `motors_enable r1 r2` -/
def meBoard (b : Board) (c1 c2 : Int) : Board :=
  { b with m1 := decide (c1 ≠ 0), m2 := decide (c2 ≠ 0),
           mode := if c1 ≠ 0 then c1.toNat else if c2 ≠ 0 then c2.toNat else b.mode,
           autoEnable := if c1 ≠ c2 ∧ (c1 = 0 ∨ c2 = 0) then false else b.autoEnable }

theorem meBoard_m1 (b : Board) (c1 c2 : Int) : (meBoard b c1 c2).m1 = decide (c1 ≠ 0) := rfl

theorem meBoard_m2 (b : Board) (c1 c2 : Int) : (meBoard b c1 c2).m2 = decide (c2 ≠ 0) := rfl

theorem meBoard_mode (b : Board) (hm : 1 ≤ b.mode ∧ b.mode ≤ 5) {c1 c2 : Int} (h1 : 0 ≤ c1 ∧ c1 ≤ 5)
    (h2 : 0 ≤ c2 ∧ c2 ≤ 5) :
    (c1 ≠ 0 → ((meBoard b c1 c2).mode : Int) = c1) ∧
    (c1 = 0 → c2 ≠ 0 → ((meBoard b c1 c2).mode : Int) = c2) ∧
    (c1 = 0 → c2 = 0 → (meBoard b c1 c2).mode = b.mode) ∧
    (1 ≤ (meBoard b c1 c2).mode ∧ (meBoard b c1 c2).mode ≤ 5) := by
  have e1 : c1 ≠ 0 → ((meBoard b c1 c2).mode : Int) = c1 := fun h => by
    simp only [meBoard, ne_eq, h, not_false_eq_true, if_true]; exact Int.toNat_of_nonneg h1.1
  have e2 : c1 = 0 → c2 ≠ 0 → ((meBoard b c1 c2).mode : Int) = c2 := fun h h' => by
    simp only [meBoard, ne_eq, h, h', not_true_eq_false, not_false_eq_true, if_true, if_false]
    exact Int.toNat_of_nonneg h2.1
  have e0 : c1 = 0 → c2 = 0 → (meBoard b c1 c2).mode = b.mode := fun h h' => by
    simp only [meBoard, ne_eq, h, h', not_true_eq_false, if_false]
  refine ⟨e1, e2, e0, ?_⟩
  by_cases z1 : c1 = 0
  · by_cases z2 : c2 = 0
    · rw [e0 z1 z2]; exact hm
    · have := e2 z1 z2; omega
  · have := e1 z1; omega

/-! how the boards after the accepted `EM` requests of each branch of `motors_enable` make up `meBoard` -/

theorem emBoard_both (b : Board) {c1 c2 : Int} (h1 : c1 ≠ 0) (h2 : c2 ≠ 0) : emBoard b c1 c2 = meBoard b c1 c2 := by
  simp [emBoard, meBoard, h1, h2]

theorem emBoard_none (b : Board) : emBoard b 0 0 = meBoard b 0 0 := by
  simp [emBoard, meBoard]

theorem emBoard_only1 (b : Board) {c1 : Int} (h : c1 ≠ 0) :
    emBoard { b with autoEnable := false } c1 0 = meBoard b c1 0 := by
  simp [emBoard, meBoard, h]

/-- motor 2 alone, the global mode already being the requested one -/
theorem emBoard_only2 (b : Board) {c2 : Int} (h : c2 ≠ 0) (hm : b.mode = c2.toNat) :
    emBoard { b with autoEnable := false } 0 c2 = meBoard b 0 c2 := by
  simp [emBoard, meBoard, h, Ne.symm h, hm]

/-- motor 2 alone, after `EM,c2,c2` has set the global mode -/
theorem emBoard_preset (b : Board) {c2 : Int} (h : c2 ≠ 0) :
    emBoard (emBoard { b with autoEnable := false } c2 c2) 0 c2 = meBoard b 0 c2 := by
  simp [emBoard, meBoard, h, Ne.symm h]

/-- the requests of `var_write_int32 v i`, oldest first -/
def w32Reqs (v : Int) (i : Nat) : List Str :=
  [lineSL (Spec.beByte v 0) i, lineSL (Spec.beByte v 1) (i + 1), lineSL (Spec.beByte v 2) (i + 2),
    lineSL (Spec.beByte v 3) (i + 3)]

/-- the requests of `var_read_int32 i`, oldest first -/
def r32Reqs (i : Nat) : List Str := [lineQL i, lineQL (i + 1), lineQL (i + 2), lineQL (i + 3)]

/-- what `motors_query_enabled` decodes on board `b` -/
def qeRes (b : Board) : Int × Int :=
  (if b.m1 = true then (b.mode : Int) else 0, if b.m2 = true then (b.mode : Int) else 0)

/-- what `motors_query_enabled` decoded is the requested resolution only if that is the global mode -/
theorem mode_of_oldRes {b : Board} {c2 : Int} (z2 : c2 ≠ 0) (hold : oldRes (qeRes b).1 (qeRes b).2 = c2) :
    b.mode = c2.toNat := by
  unfold oldRes qeRes at hold
  cases hm1 : b.m1 <;> cases hm2 : b.m2 <;> simp [hm1, hm2] at hold <;> omega

/-- the requests of `motors_enable` after clamping, statement by statement: `CU,50,0` when exactly one motor is asked
for; for motor 2 alone `QE`, then `EM,c2,c2` unless the mode in use is `c2` already; `EM,c1,c2`. -/
def meReqs (b : Board) (c1 c2 : Int) : List Str :=
  (if c1 ≠ c2 ∧ c1 * c2 = 0 then [cmdCU50] else []) ++
    ((if c1 = 0 ∧ c2 ≠ 0 then cQE :: (if oldRes (qeRes b).1 (qeRes b).2 ≠ c2 then [cmdEM c2 c2] else []) else []) ++
      [cmdEM c1 c2])

/-- the optional `CU,50,0` in front changes neither what `QE` reports nor the mode -/
theorem optCU_motors (b : Board) (A : Prop) [Decidable A] :
    qeRes (boardAfter b (if A then [cmdCU50] else [])) = qeRes b ∧
      (boardAfter b (if A then [cmdCU50] else [])).mode = b.mode := by
  split
  · rw [(exch_CU50 b).after]; exact ⟨rfl, rfl⟩
  · exact ⟨rfl, rfl⟩

theorem after_meReqs (b : Board) {c1 c2 : Int} (h1 : 0 ≤ c1 ∧ c1 ≤ 5) (h2 : 0 ≤ c2 ∧ c2 ≤ 5) :
    boardAfter b (meReqs b c1 c2) = meBoard b c1 c2 := by
  have hCU := fun b => (exch_CU50 b).after
  have hQE := fun b => (exch_QE b).after
  have hEM := fun b (a c : Int) ha hc => (exch_EM b (a := a) (c := c) ha hc).after
  unfold meReqs
  by_cases z1 : c1 = 0 <;> by_cases z2 : c2 = 0
  · simp [z1, z2, hEM, emBoard_none, boardAfter_nil]
  · have hc : ¬ (0 = c2) := fun h => z2 h.symm
    simp only [z1, ne_eq, hc, z2, not_false_eq_true, Int.zero_mul, and_self, if_true, hCU, List.cons_append,
      List.nil_append, hQE]
    split
    · simp [h2, hEM, boardAfter_nil, emBoard_preset _ z2]
    · next hold =>
      simp [h2, hEM, boardAfter_nil, emBoard_only2 _ z2 (mode_of_oldRes z2 (Classical.not_not.mp hold))]
  · simp [z1, z2, h1, hEM, hCU, boardAfter_nil, emBoard_only1 _ z1]
  · have hm : ¬ (c1 * c2 = 0) := fun h => (Int.mul_eq_zero.mp h).elim z1 z2
    simp [z1, z2, hm, h1, h2, hEM, boardAfter_nil, emBoard_both _ z1 z2]

def opReqs (b : Board) : Op → List Str
  | .varWrite v i => [lineSL v.toNat i.toNat]
  | .varRead i => [lineQL i.toNat]
  | .writeInt32 v i => w32Reqs v i.toNat
  | .readInt32 i => r32Reqs i.toNat
  | .motorsEnable r1 r2 => meReqs b (Spec.clamp r1) (Spec.clamp r2)
  | .motorsQuery => [cQE]
  | .writeNick s => [cST ++ ',' :: strip s]
  | .queryNick => [cQT]

theorem after_opReqs {b : Board} (hwf : b.WF) (nm : Option Str) (op : Op) (hop : OpOK op) :
    boardAfter b (opReqs b op) = (Spec.step ⟨b, nm⟩ op).2.board := by
  have hSL := fun (b : Board) (v i : Nat) hv hi hl => (exch_SL b (v := v) (i := i) hv hi hl).after
  cases op with
  | varWrite v i => exact hSL b _ _ (by have := hop.1; omega) (by have := hop.2; omega) hwf.len []
  | varRead i => exact after_QL b _ []
  | writeInt32 v i =>
    have hi : i.toNat ≤ 28 := by have := hop.2; omega
    have hb := beByte_le v
    simp only [opReqs, w32Reqs]
    rw [hSL b _ _ (hb 0) (by omega) hwf.len, hSL _ _ _ (hb 1) (by omega) (by simp [hwf.len]),
      hSL _ _ _ (hb 2) (by omega) (by simp [hwf.len]), hSL _ _ _ (hb 3) (by omega) (by simp [hwf.len])]
    rfl
  | readInt32 i => simp only [opReqs, r32Reqs, after_QL]; rfl
  | motorsEnable r1 r2 => exact after_meReqs b (clamp_range r1) (clamp_range r2)
  | motorsQuery => exact (exch_QE b).after []
  | writeNick s => exact (exch_ST b hop).after []
  | queryNick => exact after_QT b []

end Plotink.C16
