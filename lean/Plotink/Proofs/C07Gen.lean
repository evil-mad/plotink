import Plotink.Gen.ebb_serial_query
import Plotink.Gen.ebb_serial_command
import Plotink.Proofs.PyIOLemmas
import Plotink.Proofs.C07
import Plotink.Proofs.RuleSets

/-! # C07 — bridge: the source-regenerated `ebb_serial.query` / `ebb_serial.command` = the hand model

`Gen.ebb_serial_query`, `Gen.ebb_serial_command` are regenerated from `plotink/ebb_serial.py` on every run by
`translator/pyio2lean.py`, as terms over the combinators of `Plotink/PyIO.lean` with real exception semantics.  On every
script whose `raise` outcomes are of classes the handlers name (`IoScript`), with fuel ≥ 101, they compute exactly what
the hand model `C07.command` / `C07.query` computes with the parameters `C07.std` (retry 100, the no-OK list, decode in
the retry loop): same return value and type, same escaping exception, same final port (script left, write log, read
count).  The parameters are therefore read off the regenerated code by the proof itself: a source with another bound or
list does not satisfy `*_bridge` and the build fails.

The retry loop is simulated once, generically in the record of locals (`Lens`, `Proofs/PyIOLemmas.lean`): any loop of the
shape `while len(x) == 0 and n < K: x = port.readline()[.decode('ascii')]; n += 1` simulates `C07.retryResp`.  With the
first read and `n = 0` in front it is one more pass of the model's loop, from an empty value; that is the skip of the
trailing `OK`, and with the write of the request in front, the common beginning of the two `try` bodies
(`C07.sendRecv`).  `Proofs/Ebb3GenCommand.lean` does the same for the `EBB3` class over the other runtime. -/

namespace Plotink
namespace C07Gen

def encVal : C07.Val → PyIO.Val
  | .str s => .str s
  | .bytes b => .bytes b
  | .none => .none

def encExc : C07.PyExc → PyIO.ExcClass
  | .typeError => .typeError
  | .unicodeDecodeError => .unicodeDecodeError
  | .unicodeEncodeError => .unicodeEncodeError

def encOut : Except C07.PyExc C07.Val × PyIO.Port → PyIO.Out
  | (.ok v, p) => .val (encVal v) p
  | (.error e, p) => .exc (encExc e) p

theorem encOut_ok {r : Except C07.PyExc C07.Val × PyIO.Port} {v : C07.Val} (h : r.1 = .ok v) :
    encOut r = .val (encVal v) r.2 := by
  obtain ⟨x, p⟩ := r
  cases h
  rfl

/-- the classes named by the handlers of `query` and `command`, `except (serial.SerialException, IOError, RuntimeError,
OSError)`: `IOError` is `OSError` -/
def handlerClasses : List PyIO.ExcClass := [.serialException, .osError, .runtimeError, .osError]

/-- a serial I/O exception class: one the handlers catch (`SerialException` and subclasses, `OSError`, `RuntimeError`) -/
def IoClass (c : PyIO.ExcClass) : Prop := PyIO.catches handlerClasses c = true

def IoReads (rs : List PyIO.Rd) : Prop := ∀ c, PyIO.Rd.raise c ∈ rs → IoClass c
def IoWrites (ws : List PyIO.Wr) : Prop := ∀ c, PyIO.Wr.raise c ∈ ws → IoClass c
def IoScript (p : PyIO.Port) : Prop := IoReads p.reads ∧ IoWrites p.writes

theorem IoReads.tail {r : PyIO.Rd} {rs : List PyIO.Rd} (h : IoReads (r :: rs)) : IoReads rs :=
  fun c hc => h c (List.mem_cons_of_mem _ hc)
theorem IoReads.head {c : PyIO.ExcClass} {rs : List PyIO.Rd} (h : IoReads (.raise c :: rs)) : IoClass c :=
  h c List.mem_cons_self
theorem IoReads.nil : IoReads [] := fun c hc => by cases hc
theorem IoReads.skip {d : Nat} {b : List Char} {rest : List PyIO.Rd} (h : IoReads rest) :
    IoReads (List.replicate d .empty ++ .line b :: rest) := by
  intro c hc
  rcases List.mem_append.mp hc with hc | hc
  · cases List.eq_of_mem_replicate hc
  · rcases List.mem_cons.mp hc with hc | hc
    · cases hc
    · exact h c hc
theorem IoWrites.tail {r : PyIO.Wr} {rs : List PyIO.Wr} (h : IoWrites (r :: rs)) : IoWrites rs :=
  fun c hc => h c (List.mem_cons_of_mem _ hc)
theorem IoWrites.head {c : PyIO.ExcClass} {rs : List PyIO.Wr} (h : IoWrites (.raise c :: rs)) : IoClass c :=
  h c List.mem_cons_self

theorem not_io_encExc (e : C07.PyExc) : PyIO.catches handlerClasses (encExc e) = false := by
  cases e <;> rfl

/-- the classes of the exceptions with which the generated code may end where the model's flow is `f` -/
def ExcOf : C07.Flow → PyIO.ExcClass → Prop
  | .py e, cl => cl = encExc e
  | _, cl => IoClass cl

def ascii : PyIO.Val := .str ['a', 's', 'c', 'i', 'i']

/-- `port.readline().decode('ascii')` resp. `port.readline()` -/
def readE : Bool → PyIO.Val → PyIO.Eff
  | true, p => PyIO.call2 PyIO.meth_decode (PyIO.call1 PyIO.meth_readline (PyIO.ok p)) (PyIO.ok ascii)
  | false, p => PyIO.call1 PyIO.meth_readline (PyIO.ok p)

section Retry
variable {σ : Type} (getR getN getP : σ → PyIO.Val) (setR setN : σ → PyIO.Val → σ)

/-- `len(x) == 0 and n < K` -/
def retryTest (K : Int) : σ → PyIO.Eff :=
  fun env => PyIO.and_ (PyIO.call2 PyIO.op_eq (PyIO.call1 PyIO.op_len (PyIO.load (getR env))) (PyIO.ok (.int 0)))
    (PyIO.call2 PyIO.op_lt (PyIO.load (getN env)) (PyIO.ok (.int K)))

/-- `x = port.readline()[.decode('ascii')]; n += 1` -/
def retryBody (dec : Bool) : PyIO.Stmt σ :=
  PyIO.block [
    PyIO.assign setR (fun env => readE dec (getP env)),
    PyIO.assign setN (fun env => PyIO.call2 PyIO.op_add (PyIO.load (getN env)) (PyIO.ok (.int 1)))]

/-- how the generated retry loop ends, against `C07.retryResp` -/
def LoopSim (env : σ) (fl : PyIO.Flow σ) : C07.Flow × C07.Val × PyIO.Port → Prop
  | (.done, v', p') => ∃ m : Int, fl = .norm (setN (setR env (encVal v')) (.int m)) p' ∧ IoReads p'.reads
  | (f, v', p') => ∃ (m : Int) (c : PyIO.ExcClass), ExcOf f c ∧ fl = .exc c (setN (setR env (encVal v')) (.int m)) p'

variable {getR getN getP setR setN}

theorem encVal_ne_unbound (v : C07.Val) : encVal v ≠ .unbound := by cases v <;> intro h <;> cases h

theorem op_len_encVal {v : C07.Val} (hv : v ≠ .none) : PyIO.op_len (encVal v) = PyIO.ok (.int v.len) := by
  cases v <;> first | rfl | exact absurd rfl hv

theorem retryTest_eval (K a : Int) (env : σ) (v : C07.Val) (hv : v ≠ .none)
    (hR : getR env = encVal v) (hN : getN env = .int a) :
    retryTest getR getN K env = PyIO.ok (.bool (decide (v.len = 0) && decide (a < K))) := by
  unfold retryTest
  rw [hR, hN, PyIO.load_of_bound (encVal_ne_unbound v)]
  have heq : PyIO.op_eq (.int v.len) (.int 0) = PyIO.ok (.bool ((v.len : Int) == 0)) := rfl
  have hlt : PyIO.op_lt (.int a) (.int K) = PyIO.ok (.bool (decide (a < K))) := rfl
  simp only [PyIO.load_int, PyIO.call1_ok, op_len_encVal hv, PyIO.call2_ok, heq, hlt, PyIO.and_ok, PyIO.truthy]
  by_cases h : v.len = 0
  · simp [h]
  · have : ((v.len : Int) == 0) = false := by rw [beq_eq_false_iff_ne]; omega
    simp [h, this]

theorem readline_sim (p : PyIO.Port) (hio : IoReads p.reads) :
    ∃ p', IoReads p'.reads ∧
      ((∃ c, IoClass c ∧ PyIO.meth_readline .port p = (.error c, p') ∧ C07.readline p = (Option.none, p')) ∨
       (∃ b, PyIO.meth_readline .port p = (.ok (.bytes b), p') ∧ C07.readline p = (some b, p'))) := by
  obtain ⟨reads, writes, log, nread⟩ := p
  cases reads with
  | nil => exact ⟨⟨[], writes, log, nread + 1⟩, hio, Or.inr ⟨[], rfl, rfl⟩⟩
  | cons r rs =>
    cases r with
    | line b => exact ⟨_, hio.tail, Or.inr ⟨b, rfl, rfl⟩⟩
    | empty => exact ⟨_, hio.tail, Or.inr ⟨[], rfl, rfl⟩⟩
    | raise c => exact ⟨_, hio.tail, Or.inl ⟨c, hio.head, rfl, rfl⟩⟩

theorem readE_sim (dec : Bool) (n : Nat) (v : C07.Val) (hv : v.len = 0) (p : PyIO.Port) (hio : IoReads p.reads) :
    ∃ p', IoReads p'.reads ∧
      ((∃ c, IoClass c ∧ readE dec .port p = (.error c, p') ∧ C07.retryResp dec (n + 1) v p = (.io, v, p')) ∨
       (∃ e, readE dec .port p = (.error (encExc e), p') ∧ C07.retryResp dec (n + 1) v p = (.py e, v, p')) ∨
       (∃ x, x ≠ .none ∧ readE dec .port p = (.ok (encVal x), p') ∧
          C07.retryResp dec (n + 1) v p = C07.retryResp dec n x p')) := by
  rw [C07.retryResp_succ dec n p hv]
  obtain ⟨p', hio', ⟨c, hc, h1, h2⟩ | ⟨b, h1, h2⟩⟩ := readline_sim p hio <;> rw [h2] <;> refine ⟨p', hio', ?_⟩
  · exact Or.inl ⟨c, hc, by cases dec <;> simp only [readE, PyIO.call2, PyIO.call1, PyIO.bind, PyIO.ok, h1], rfl⟩
  · cases dec
    · exact Or.inr (Or.inr ⟨.bytes b, (by intro h; cases h), h1, rfl⟩)
    · simp only [readE, PyIO.call2, PyIO.call1, PyIO.bind, PyIO.ok, h1, ascii, PyIO.meth_decode, C07.decode, ↓reduceIte]
      cases PyIO.isAscii b
      · exact Or.inr (Or.inl ⟨.unicodeDecodeError, rfl, rfl⟩)
      · exact Or.inr (Or.inr ⟨.str b, (by intro h; cases h), rfl, rfl⟩)

theorem retryBody_ok (dec : Bool) (fuel : Nat) (env : σ) (a : Int) (x : PyIO.Val) (p p' : PyIO.Port)
    (hP : getP env = .port) (hN : getN (setR env x) = .int a) (h : readE dec .port p = (.ok x, p')) :
    retryBody getN getP setR setN dec fuel env p = .norm (setN (setR env x) (.int (a + 1))) p' := by
  unfold retryBody
  rw [PyIO.block_cons2, PyIO.block_one, PyIO.seq_norm (env' := setR env x) (st' := p') (by simp only [PyIO.assign, hP, h])]
  exact PyIO.assign_ok (by simp only [hN, PyIO.load_int, PyIO.call2_ok, PyIO.op_add, PyIO.intOf]) fuel p'

theorem retryBody_exc (dec : Bool) (fuel : Nat) (env : σ) (c : PyIO.ExcClass) (p p' : PyIO.Port)
    (hP : getP env = .port) (h : readE dec .port p = (.error c, p')) :
    retryBody getN getP setR setN dec fuel env p = .exc c env p' := by
  unfold retryBody
  rw [PyIO.block_cons2]
  exact PyIO.seq_exc (by simp only [PyIO.assign, hP, h])

/-- the loop overwrites both fields, so what they held at its start does not matter -/
theorem LoopSim.of_set (L : Lens getR getN setR setN) {env : σ} {x a : PyIO.Val} {fl : PyIO.Flow σ}
    {r : C07.Flow × C07.Val × PyIO.Port} (h : LoopSim setR setN (setN (setR env x) a) fl r) :
    LoopSim setR setN env fl r := by
  obtain ⟨f, v', p'⟩ := r
  cases f <;> simp only [LoopSim, L.set_set] at h ⊢ <;> exact h

theorem retryLoop_sim (L : Lens getR getN setR setN) (LP : ∀ e r n, getP (setN (setR e r) n) = getP e) (K : Nat)
    (dec : Bool) (fuel k : Nat) (hk : k ≤ K) (n : Nat) (hn : k + 1 ≤ n) (env : σ) (v : C07.Val) (hv : v ≠ .none)
    (hP : getP env = .port) (hR : getR env = encVal v) (hN : getN env = .int ((K : Int) - k)) (p : PyIO.Port)
    (hio : IoReads p.reads) :
    LoopSim setR setN env (PyIO.whileLoop (retryTest getR getN K) (retryBody getN getP setR setN dec) fuel n env p)
      (C07.retryResp dec k v p) := by
  induction k generalizing n env v p with
  | zero =>
    obtain ⟨n', rfl⟩ : ∃ n', n = n' + 1 := ⟨n - 1, by omega⟩
    have hfalse : (decide (v.len = 0) && decide ((K : Int) - (0 : Nat) < K)) = false := by simp
    rw [PyIO.whileLoop, retryTest_eval K _ env v hv hR hN, hfalse]
    simp only [PyIO.ok, PyIO.truthy, Bool.false_eq_true, ↓reduceIte]
    exact ⟨_, by rw [L.eq_set hR hN], hio⟩
  | succ k ih =>
    obtain ⟨n', rfl⟩ : ∃ n', n = n' + 1 := ⟨n - 1, by omega⟩
    have henv : env = setN (setR env (encVal v)) (.int ((K : Int) - ((k + 1 : Nat) : Int))) := (L.eq_set hR hN).symm
    have hlt : decide ((K : Int) - ((k + 1 : Nat) : Int) < K) = true := by
      simp only [decide_eq_true_eq]; omega
    rw [PyIO.whileLoop, retryTest_eval K _ env v hv hR hN, hlt, Bool.and_true]
    simp only [PyIO.ok, PyIO.truthy, decide_eq_true_eq]
    by_cases hlen : v.len = 0
    · rw [if_pos hlen]
      obtain ⟨p', hio', ⟨c, hc, e1, e2⟩ | ⟨e, e1, e2⟩ | ⟨x, hx, e1, e2⟩⟩ := readE_sim dec k v hlen p hio
      · rw [retryBody_exc dec fuel env c p p' hP e1, e2]
        exact ⟨_, c, hc, by rw [← henv]⟩
      · rw [retryBody_exc dec fuel env _ p p' hP e1, e2]
        exact ⟨_, _, rfl, by rw [← henv]⟩
      · rw [retryBody_ok dec fuel env _ _ p p' hP (by rw [L.getN_setR, hN]) e1, e2]
        exact LoopSim.of_set L (ih (by omega) n' (by omega) _ x hx (by rw [LP, hP]) (L.getR_set _ _ _)
          (by rw [L.getN_setN]; congr 1; omega) p' hio')
    · rw [if_neg hlen, C07.retryResp_nonempty _ _ _ _ hlen]
      exact ⟨_, by rw [← henv], hio⟩

end Retry

theorem truthy_str (s : List Char) : PyIO.truthy (.str s) = !s.isEmpty := rfl
theorem truthy_bool (b : Bool) : PyIO.truthy (.bool b) = b := rfl

attribute [pyio_eval] PyIO.ifte PyIO.assign PyIO.expr PyIO.return_ PyIO.pass PyIO.seq PyIO.block PyIO.load_str
  PyIO.load_bytes PyIO.load_int PyIO.load_exc PyIO.call1_ok PyIO.call2_ok PyIO.call2_ok_left PyIO.bind_ok PyIO.and_ok
  PyIO.not_ok PyIO.meth_strip PyIO.meth_lower PyIO.meth_format1 PyIO.meth_join PyIO.meth_startswith PyIO.mkList
  PyIO.logCall PyIO.strsOf PyIO.op_not_in PyIO.op_in PyIO.op_is_not_none PyIO.isNone PyIO.ok truthy_str truthy_bool
  ite_self Option.map_some Bool.not_eq_true' List.any_cons List.any_nil Bool.not_false Bool.not_true

theorem write_sim (c : List Char) (p : PyIO.Port) (hio : IoWrites p.writes) :
    ∃ p1, p1.reads = p.reads ∧ IoWrites p1.writes ∧
      ((C07.write c p = (true, p1) ∧ PyIO.meth_write .port (.bytes c) p = (.ok (.int c.length), p1)) ∨
       (∃ cl, IoClass cl ∧ C07.write c p = (false, p1) ∧ PyIO.meth_write .port (.bytes c) p = (.error cl, p1))) := by
  obtain ⟨reads, writes, log, nread⟩ := p
  simp only at hio
  cases writes with
  | nil => exact ⟨⟨reads, [], log ++ [c], nread⟩, rfl, hio, Or.inl ⟨rfl, rfl⟩⟩
  | cons w ws =>
    cases w with
    | ok => exact ⟨⟨reads, ws, log ++ [c], nread⟩, rfl, hio.tail, Or.inl ⟨rfl, rfl⟩⟩
    | raise cl => exact ⟨⟨reads, ws, log ++ [c], nread⟩, rfl, hio.tail, Or.inr ⟨cl, hio.head, rfl, rfl⟩⟩

section TryHead
variable {σ : Type} (getR getN getP getC : σ → PyIO.Val) (setR setN : σ → PyIO.Val → σ)

/-- `x = port.readline()[.decode('ascii')]`, `n = 0`, the retry loop -/
def firstLoop (dec : Bool) (K : Nat) : PyIO.Stmt σ :=
  PyIO.block [
    PyIO.assign setR (fun env => readE dec (getP env)),
    PyIO.assign setN (fun _ => PyIO.ok (.int 0)),
    PyIO.while_ (retryTest getR getN K) (retryBody getN getP setR setN dec)]

/-- `port.write(cmd.encode('ascii'))`, first read, retry loop, and then `rest` -/
def tryHead (K : Nat) (rest : PyIO.Stmt σ) : PyIO.Stmt σ :=
  PyIO.seq (PyIO.expr (fun env => PyIO.call2 PyIO.meth_write (PyIO.ok (getP env))
      (PyIO.call2 PyIO.meth_encode (PyIO.ok (getC env)) (PyIO.ok ascii))))
    (PyIO.seq (firstLoop getR getN getP setR setN true K) rest)

/-- the locals when these statements are left by an exception: untouched (nothing was read yet, the model's value is
still the initial `v0`), or `x` holds the model's value -/
def HeadExc (env : σ) (v0 v' : C07.Val) (env' : σ) : Prop :=
  (env' = env ∧ v' = v0) ∨ ∃ m : Int, env' = setN (setR env (encVal v')) (.int m)

/-- how these statements end, against the model; `k` is what follows a normal end -/
def HeadSim (env : σ) (v0 : C07.Val) (k : σ → PyIO.Port → PyIO.Flow σ) (fl : PyIO.Flow σ) :
    C07.Flow × C07.Val × PyIO.Port → Prop
  | (.done, v', p') => ∃ m : Int, IoReads p'.reads ∧ fl = k (setN (setR env (encVal v')) (.int m)) p'
  | (f, v', p') => ∃ env' c, HeadExc setR setN env v0 v' env' ∧ ExcOf f c ∧ fl = .exc c env' p'

variable {getR getN getP setR setN}

theorem HeadSim.seq {env : σ} {v0 : C07.Val} {a rest : PyIO.Stmt σ} {fuel : Nat} {p : PyIO.Port}
    {r : C07.Flow × C07.Val × PyIO.Port} (h : HeadSim setR setN env v0 .norm (a fuel env p) r) :
    HeadSim setR setN env v0 (rest fuel) (PyIO.seq a rest fuel env p) r := by
  obtain ⟨f, v', p'⟩ := r
  cases f with
  | done =>
    obtain ⟨m, hio, e⟩ := h
    exact ⟨m, hio, PyIO.seq_norm e⟩
  | _ =>
    obtain ⟨env', c, henv, hc, e⟩ := h
    exact ⟨env', c, henv, hc, PyIO.seq_exc e⟩

/-- first read and loop are the model's loop with one pass more, from an empty value -/
theorem firstLoop_sim (L : Lens getR getN setR setN) (LP : ∀ e r n, getP (setN (setR e r) n) = getP e) (dec : Bool)
    (K fuel : Nat) (hf : K + 1 ≤ fuel) (v0 : C07.Val) (hv0 : v0.len = 0) (env : σ) (hP : getP env = .port)
    (p : PyIO.Port) (hio : IoReads p.reads) :
    HeadSim setR setN env v0 .norm (firstLoop getR getN getP setR setN dec K fuel env p)
      (C07.retryResp dec (K + 1) v0 p) := by
  unfold firstLoop
  simp only [PyIO.block_cons2, PyIO.block_one]
  have hread : PyIO.assign setR (fun env => readE dec (getP env)) fuel env p
      = (match readE dec .port p with
         | (.ok v, st') => .norm (setR env v) st'
         | (.error e, st') => .exc e env st') := by
    simp only [PyIO.assign, hP]
    rfl
  obtain ⟨p', hio', ⟨c, hc, e1, e2⟩ | ⟨e, e1, e2⟩ | ⟨x, hx, e1, e2⟩⟩ := readE_sim dec K v0 hv0 p hio
  · rw [PyIO.seq_exc (by rw [hread, e1]), e2]
    exact ⟨env, c, Or.inl ⟨rfl, rfl⟩, hc, rfl⟩
  · rw [PyIO.seq_exc (by rw [hread, e1]), e2]
    exact ⟨env, _, Or.inl ⟨rfl, rfl⟩, rfl, rfl⟩
  · rw [PyIO.seq_norm (by rw [hread, e1]),
      PyIO.seq_norm (PyIO.assign_ok (set := setN) (e := fun _ => PyIO.ok (.int 0)) (v := .int 0) rfl fuel p'), e2]
    have hloop := LoopSim.of_set L (retryLoop_sim L LP K dec fuel K (Nat.le_refl _)
      fuel hf (setN (setR env (encVal x)) (.int 0)) x hx (by rw [LP, hP])
      (L.getR_set _ _ _) (by rw [L.getN_setN, Int.sub_self]) p' hio')
    generalize C07.retryResp dec K x p' = r at hloop ⊢
    obtain ⟨f, v', p3⟩ := r
    cases f with
    | done =>
      obtain ⟨m, e5, hio3⟩ := hloop
      exact ⟨m, hio3, e5⟩
    | _ =>
      obtain ⟨m, cl, hcl, e5⟩ := hloop
      exact ⟨_, cl, Or.inr ⟨m, rfl⟩, hcl, e5⟩

theorem tryHead_nonascii (K fuel : Nat) (c : List Char) (hc : PyIO.isAscii c = false) (env : σ) (hC : getC env = .str c)
    (p : PyIO.Port) (rest : PyIO.Stmt σ) :
    tryHead getR getN getP getC setR setN K rest fuel env p = .exc .unicodeEncodeError env p := by
  refine PyIO.seq_exc ?_
  simp only [PyIO.expr, hC, ascii, PyIO.call2_ok_left, PyIO.meth_encode, hc, PyIO.bind_ok, PyIO.bind_raise,
    Bool.false_eq_true, ↓reduceIte]
  rfl

theorem tryHead_sim (L : Lens getR getN setR setN) (LP : ∀ e r n, getP (setN (setR e r) n) = getP e) (K fuel : Nat)
    (hf : K + 1 ≤ fuel) (c : List Char) (hc : PyIO.isAscii c = true) (env : σ) (hP : getP env = .port)
    (hC : getC env = .str c) (p : PyIO.Port) (hio : IoScript p) (rest : PyIO.Stmt σ) :
    HeadSim setR setN env (.str []) (rest fuel) (tryHead getR getN getP getC setR setN K rest fuel env p)
      (C07.sendRecv true K c p) := by
  obtain ⟨p1, hr1, hw1, hwr⟩ := write_sim c p hio.2
  have hexpr : PyIO.expr (fun env => PyIO.call2 PyIO.meth_write (PyIO.ok (getP env))
        (PyIO.call2 PyIO.meth_encode (PyIO.ok (getC env)) (PyIO.ok ascii))) fuel env p
      = (match PyIO.meth_write .port (.bytes c) p with
         | (.ok _, st') => .norm env st'
         | (.error e, st') => .exc e env st') := by
    simp only [PyIO.expr, hP, hC, ascii, PyIO.call2_ok, PyIO.meth_encode, hc, ↓reduceIte]
    rfl
  rw [C07.sendRecv_eq, tryHead]
  rcases hwr with ⟨e1, e2⟩ | ⟨cl, hcl, e1, e2⟩
  · rw [PyIO.seq_norm (by rw [hexpr, e2]), e1]
    exact (firstLoop_sim L LP true K fuel hf (.str []) rfl env hP p1
      (by rw [hr1]; exact hio.1)).seq
  · rw [PyIO.seq_exc (by rw [hexpr, e2]), e1]
    exact ⟨env, cl, Or.inl ⟨rfl, rfl⟩, hcl, rfl⟩

end TryHead

/-- how a `try` body ends, against the model's flow; `Ok` is what is known of the locals afterwards -/
def TrySim {σ : Type} (Ok : σ → Prop) (fl : PyIO.Flow σ) (p' : PyIO.Port) : C07.Flow → Prop
  | .done => ∃ env', fl = .norm env' p' ∧ Ok env'
  | f => ∃ env' cl, ExcOf f cl ∧ fl = .exc cl env' p' ∧ Ok env'

/-- when the handlers catch exactly the serial I/O exceptions and then only log, the `try` statement ends normally
unless the model lets an exception escape -/
theorem tryExcept_sim {σ : Type} {Ok : σ → Prop} {body : PyIO.Stmt σ} {hs : List (PyIO.Handler σ)} {unbind : σ → σ}
    {fuel : Nat} (hd : ∀ cl env p, Ok env → PyIO.dispatch hs cl fuel env p =
      if PyIO.catches handlerClasses cl = true then .norm (unbind env) p else .exc cl env p)
    (hu : ∀ env, Ok env → Ok (unbind env)) {env : σ} {p p' : PyIO.Port} {f : C07.Flow}
    (h : TrySim Ok (body fuel env p) p' f) :
    ∃ env', Ok env' ∧ PyIO.tryExcept body hs fuel env p =
      match (generalizing := false) f with
      | .py e => .exc (encExc e) env' p'
      | _ => .norm env' p' := by
  unfold PyIO.tryExcept
  cases f with
  | done =>
    obtain ⟨env', e, hok⟩ := h
    exact ⟨env', hok, by rw [e]⟩
  | io =>
    obtain ⟨env', cl, hcl, e, hok⟩ := h
    exact ⟨unbind env', hu _ hok, by rw [e]; simp only [hd cl env' p' hok, show PyIO.catches handlerClasses cl = true from hcl, ↓reduceIte]⟩
  | py e0 =>
    obtain ⟨env', cl, rfl, e, hok⟩ := h
    exact ⟨env', hok, by rw [e]; simp only [hd _ env' p' hok, not_io_encExc, Bool.false_eq_true, ↓reduceIte]⟩

section Command
open Gen

theorem cmd_lens : Lens (σ := ebb_serial_command_Env) (·.response) (·.n_retry_count)
    (fun env v => { env with response := v }) (fun env v => { env with n_retry_count := v }) := by
  constructor <;> intros <;> rfl

theorem cmd_test1_eq : ebb_serial_command_test1 = retryTest (σ := ebb_serial_command_Env) (·.response) (·.n_retry_count) 100 := rfl
theorem cmd_body1_eq : ebb_serial_command_body1 = retryBody (σ := ebb_serial_command_Env) (·.n_retry_count) (·.port_name)
    (fun env v => { env with response := v }) (fun env v => { env with n_retry_count := v }) true := rfl

theorem cmd_if3 (fuel : Nat) (env : ebb_serial_command_Env) (s c : List Char) (hr : env.response = .str s)
    (hc : env.cmd = .str c) (p : PyIO.Port) :
    ∃ em, ebb_serial_command_if3 fuel env p = .norm { env with error_msg := em } p ∧ em ≠ .unbound := by
  unfold ebb_serial_command_if3
  simp only [pyio_eval, hr, hc]
  split <;> exact ⟨_, rfl, by intro h; cases h⟩

theorem cmd_if4 (fuel : Nat) (env : ebb_serial_command_Env) (em : PyIO.Val) (he : env.error_msg = em) (hb : em ≠ .unbound)
    (p : PyIO.Port) : ebb_serial_command_if4 fuel env p = .norm env p := by
  unfold ebb_serial_command_if4
  simp only [pyio_eval, he, PyIO.load_of_bound hb]

theorem cmd_if2 (fuel : Nat) (env : ebb_serial_command_Env) (s c : List Char) (hr : env.response = .str s)
    (hc : env.cmd = .str c) (p : PyIO.Port) :
    ∃ em, ebb_serial_command_if2 fuel env p = .norm { env with error_msg := em } p := by
  unfold ebb_serial_command_if2
  simp only [pyio_eval, hr]
  by_cases h : PyIO.isPrefixOf ['O', 'K'] (PyIO.strip s) = true
  · simp only [h, ↓reduceIte]
    exact ⟨env.error_msg, by rw [← hr]⟩
  · simp only [h, Bool.false_eq_true, ↓reduceIte]
    obtain ⟨em, h3, hb⟩ := cmd_if3 fuel env s c hr hc p
    rw [h3]
    simp only []
    exact ⟨em, by rw [cmd_if4 fuel _ em rfl hb p, ← hr]⟩

theorem cmd_if5 (fuel : Nat) (env : ebb_serial_command_Env) (c : List Char) (cl : PyIO.ExcClass) (hc : env.cmd = .str c)
    (he : env.err = .exc cl) (p : PyIO.Port) : ebb_serial_command_if5 fuel env p = .norm env p := by
  unfold ebb_serial_command_if5 ebb_serial_command_if6
  simp only [pyio_eval, hc, he]

/-- the `except` clause: serial I/O exceptions are logged and swallowed, everything else propagates -/
theorem cmd_dispatch (fuel : Nat) (env : ebb_serial_command_Env) (c : List Char) (cl : PyIO.ExcClass)
    (hc : env.cmd = .str c) (p : PyIO.Port) :
    PyIO.dispatch ebb_serial_command_handlers1 cl fuel env p =
      if PyIO.catches handlerClasses cl = true then .norm { env with err := .unbound } p else .exc cl env p := by
  unfold ebb_serial_command_handlers1
  simp only [PyIO.dispatch, PyIO.Handler.matches, PyIO.runHandler]
  show (if PyIO.catches handlerClasses cl = true then _ else _) = _
  split
  · have h5 := cmd_if5 fuel { env with err := .exc cl } c cl hc rfl p
    rw [h5]
  · rfl

def cmdEnv0 (c : List Char) (vb : PyIO.Val) : ebb_serial_command_Env :=
  { port_name := .port, cmd := .str c, verbose := vb, response := .unbound, n_retry_count := .unbound,
    error_msg := .unbound, err := .unbound }

def CmdTrySim (c : List Char) (fl : PyIO.Flow ebb_serial_command_Env) : C07.Flow × PyIO.Port → Prop
  | (f, p') => TrySim (·.cmd = .str c) fl p' f

theorem cmd_try1_eq : ebb_serial_command_try1 = tryHead (σ := ebb_serial_command_Env) (·.response) (·.n_retry_count)
    (·.port_name) (·.cmd) (fun env v => { env with response := v }) (fun env v => { env with n_retry_count := v }) 100
    ebb_serial_command_if2 := by
  unfold ebb_serial_command_try1 tryHead firstLoop
  simp only [PyIO.block_cons2, PyIO.block_one, PyIO.seq_assoc]
  rfl

theorem cmd_try1 (fuel : Nat) (hf : 101 ≤ fuel) (c : List Char) (vb : PyIO.Val) (p : PyIO.Port) (hio : IoScript p) :
    CmdTrySim c (ebb_serial_command_try1 fuel (cmdEnv0 c vb) p) (C07.commandBody C07.std c p) := by
  rw [cmd_try1_eq]
  cases hc : PyIO.isAscii c
  · -- `encode` raises before anything is written
    rw [tryHead_nonascii _ 100 fuel c hc (cmdEnv0 c vb) rfl, C07.commandBody]
    simp only [C07.encode, hc, Bool.false_eq_true, ↓reduceIte]
    exact ⟨_, _, rfl, rfl, rfl⟩
  · have h := tryHead_sim (getP := (·.port_name)) (·.cmd) cmd_lens (fun _ _ _ => rfl) 100 fuel hf c hc (cmdEnv0 c vb)
      rfl rfl p hio ebb_serial_command_if2
    rw [C07.commandBody_eq _ c p hc, show C07.std.retry = 100 from rfl]
    obtain ⟨s, hs⟩ := C07.sendRecv_str 100 c p
    generalize C07.sendRecv true 100 c p = r at h hs ⊢
    obtain ⟨f, v', p3⟩ := r
    obtain rfl : v' = .str s := hs
    cases f with
    | done =>
      obtain ⟨m, _, e⟩ := h
      obtain ⟨em, e6⟩ := cmd_if2 fuel { cmdEnv0 c vb with response := .str s, n_retry_count := .int m } s c rfl rfl p3
      exact ⟨_, e.trans e6, rfl⟩
    | _ =>
      obtain ⟨env', cl, henv, hcl, e⟩ := h
      exact ⟨env', cl, hcl, e, by rcases henv with ⟨rfl, _⟩ | ⟨m, rfl⟩ <;> rfl⟩

/-- **bridge for `command`**: with a port and a text, on every script whose faults are serial I/O exceptions and
with fuel ≥ 101, the regenerated function is the hand model with the parameters `C07.std` -/
theorem command_bridge (fuel : Nat) (hf : 101 ≤ fuel) (c : List Char) (vb : PyIO.Val) (p : PyIO.Port)
    (hio : IoScript p) :
    ebb_serial_command fuel .port (.str c) vb p = encOut (C07.command C07.std c p) := by
  have h := cmd_try1 fuel hf c vb p hio
  unfold ebb_serial_command ebb_serial_command_main ebb_serial_command_if1 C07.command
  unfold cmdEnv0 at h
  simp only [PyIO.run, pyio_eval, ↓reduceIte]
  generalize C07.commandBody C07.std c p = r at h ⊢
  obtain ⟨f, p'⟩ := r
  obtain ⟨env', _, e⟩ := tryExcept_sim (hs := ebb_serial_command_handlers1) (unbind := fun env => { env with err := .unbound })
    (fun cl env p hc => cmd_dispatch fuel env c cl hc p) (fun _ h => h) h
  rw [e]
  cases f <;> rfl

/-- no port or no text: nothing happens, `None` is returned (any fuel, any script) -/
theorem command_noop (fuel : Nat) (pv cmd vb : PyIO.Val) (p : PyIO.Port)
    (h : pv = .none ∨ ((pv = .port ∨ pv = .none) ∧ cmd = .none)) :
    ebb_serial_command fuel pv cmd vb p = .val .none p := by
  unfold ebb_serial_command ebb_serial_command_main ebb_serial_command_if1
  rcases h with rfl | ⟨rfl | rfl, rfl⟩ <;>
    simp only [PyIO.run, pyio_eval, Bool.false_eq_true, ↓reduceIte]

end Command

section Query
open Gen

theorem qry_lens1 : Lens (σ := ebb_serial_query_Env) (·.response) (·.n_retry_count)
    (fun env v => { env with response := v }) (fun env v => { env with n_retry_count := v }) := by
  constructor <;> intros <;> rfl

theorem qry_lens2 : Lens (σ := ebb_serial_query_Env) (·.unused_response) (·.n_retry_count)
    (fun env v => { env with unused_response := v }) (fun env v => { env with n_retry_count := v }) := by
  constructor <;> intros <;> rfl

theorem splitChar_head (d : Char) (c : List Char) :
    ∃ t, PyIO.splitChar d c = (c.takeWhile (· ≠ d)) :: t := by
  induction c with
  | nil => exact ⟨[], rfl⟩
  | cons a r ih =>
    unfold PyIO.splitChar
    by_cases h : a = d
    · simp [h]
    · obtain ⟨t, ht⟩ := ih
      simp only [h, ↓reduceIte, ht, List.takeWhile_cons, ne_eq, not_false_eq_true, decide_true]
      exact ⟨t, rfl⟩

/-- `cmd.split(",")[0].strip().lower() not in [… the no-OK list …]` evaluates to the model's test -/
theorem qry_if2_test (c : List Char) :
    (PyIO.call2 PyIO.op_not_in (PyIO.call1 PyIO.meth_lower (PyIO.call1 PyIO.meth_strip (PyIO.call2 PyIO.op_index
        (PyIO.call1 (PyIO.meth_split_char ',') (PyIO.ok (.str c))) (PyIO.ok (.int 0)))))
      (PyIO.mkList [PyIO.ok (.str ['a']), PyIO.ok (.str ['i']), PyIO.ok (.str ['m', 'r']), PyIO.ok (.str ['p', 'i']),
        PyIO.ok (.str ['q', 'm']), PyIO.ok (.str ['q', 'g']), PyIO.ok (.str ['v'])]))
    = PyIO.ok (.bool (!(C07.std.noOK.contains (C07.reqName c)))) := by
  obtain ⟨t, ht⟩ := splitChar_head ',' c
  have hidx : PyIO.op_index (.list ((PyIO.splitChar ',' c).map PyIO.Val.str)) (.int 0) = PyIO.ok (.str (C07.firstField c)) := by
    rw [ht]
    rfl
  have hnot : ∀ (n : List Char) (l : List PyIO.Val),
      PyIO.op_not_in (.str n) (.list l) = PyIO.ok (.bool (!(l.any fun x => PyIO.pyEq (.str n) x))) := fun _ _ => rfl
  simp only [PyIO.call1_ok, PyIO.meth_split_char, hidx, PyIO.meth_strip, PyIO.meth_lower, PyIO.mkList,
    PyIO.bind_ok, PyIO.call2_ok_left, hnot]
  simp only [C07.std, C07.reqName, List.contains_cons, List.contains_nil, List.any_cons, List.any_nil, PyIO.pyEq,
    Bool.or_false]

def qryEnv1 (c : List Char) (vb : PyIO.Val) : ebb_serial_query_Env :=
  { port_name := .port, cmd := .str c, verbose := vb, response := .str [], n_retry_count := .unbound,
    unused_response := .unbound, err := .unbound, error_msg := .unbound }

/-- what the rest of the function needs to know about the locals: the parameters are untouched, `response` holds
the model's value, which is a `str` -/
def QryEnvOk (c : List Char) (vb : PyIO.Val) (v : C07.Val) (env : ebb_serial_query_Env) : Prop :=
  env.port_name = .port ∧ env.cmd = .str c ∧ env.verbose = vb ∧ env.response = encVal v ∧ ∃ s, v = .str s

def QrySim (c : List Char) (vb : PyIO.Val) (fl : PyIO.Flow ebb_serial_query_Env) : C07.Flow × C07.Val × PyIO.Port → Prop
  | (f, v, p') => TrySim (QryEnvOk c vb v) fl p' f

/-- the skip of the trailing `OK` line (`if … not in [no-OK list]: …`) against `C07.queryTrail` -/
theorem qry_if2 (fuel : Nat) (hf : 101 ≤ fuel) (c : List Char) (vb : PyIO.Val) (v : C07.Val) (env : ebb_serial_query_Env)
    (henv : QryEnvOk c vb v env) (p : PyIO.Port) (hio : IoReads p.reads) :
    QrySim c vb (ebb_serial_query_if2 fuel env p) (C07.queryTrail C07.std c v p) := by
  obtain ⟨hP, hC, hV, hR, hs⟩ := henv
  unfold ebb_serial_query_if2
  rw [C07.queryTrail_eq]
  simp only [PyIO.ifte, hC, qry_if2_test, PyIO.ok, truthy_bool]
  cases hno : C07.std.noOK.contains (C07.reqName c)
  · -- an ordinary query: read the trailing line, retrying while it is empty
    simp only [Bool.not_false, ↓reduceIte, Bool.false_eq_true]
    have h := firstLoop_sim qry_lens2 (fun _ _ _ => rfl) false 100 fuel hf (.bytes []) rfl env hP p hio
    rw [show C07.std.retry = 100 from rfl]
    generalize C07.retryResp false (100 + 1) (.bytes []) p = r at h ⊢
    obtain ⟨f, v', p'⟩ := r
    cases f with
    | done =>
      obtain ⟨m, _, e⟩ := h
      exact ⟨_, e, hP, hC, hV, hR, hs⟩
    | _ =>
      obtain ⟨env', cl, henv, hcl, e⟩ := h
      exact ⟨env', cl, hcl, e, by rcases henv with ⟨rfl, _⟩ | ⟨m, rfl⟩ <;> exact ⟨hP, hC, hV, hR, hs⟩⟩
  · -- a query of the no-OK list: nothing more to read
    simp only [Bool.not_true, Bool.false_eq_true, ↓reduceIte, PyIO.pass]
    exact ⟨env, rfl, hP, hC, hV, hR, hs⟩

theorem qry_try1_eq : ebb_serial_query_try1 = tryHead (σ := ebb_serial_query_Env) (·.response) (·.n_retry_count)
    (·.port_name) (·.cmd) (fun env v => { env with response := v }) (fun env v => { env with n_retry_count := v }) 100
    ebb_serial_query_if2 := by
  unfold ebb_serial_query_try1 tryHead firstLoop
  simp only [PyIO.block_cons2, PyIO.block_one, PyIO.seq_assoc]
  rfl

theorem qry_try1 (fuel : Nat) (hf : 101 ≤ fuel) (c : List Char) (vb : PyIO.Val) (p : PyIO.Port) (hio : IoScript p) :
    QrySim c vb (ebb_serial_query_try1 fuel (qryEnv1 c vb) p) (C07.queryBody C07.std c p) := by
  have hok0 : QryEnvOk c vb (.str []) (qryEnv1 c vb) := ⟨rfl, rfl, rfl, rfl, [], rfl⟩
  rw [qry_try1_eq]
  cases hc : PyIO.isAscii c
  · rw [tryHead_nonascii _ 100 fuel c hc (qryEnv1 c vb) rfl, C07.queryBody]
    simp only [C07.encode, hc, Bool.false_eq_true, ↓reduceIte]
    exact ⟨_, _, rfl, rfl, hok0⟩
  · have h := tryHead_sim (getP := (·.port_name)) (·.cmd) qry_lens1 (fun _ _ _ => rfl) 100 fuel hf c hc (qryEnv1 c vb)
      rfl rfl p hio ebb_serial_query_if2
    rw [C07.queryBody_eq _ c p hc, show C07.std.decodeRetry = true from rfl, show C07.std.retry = 100 from rfl]
    obtain ⟨s, hs⟩ := C07.sendRecv_str 100 c p
    generalize C07.sendRecv true 100 c p = r at h hs ⊢
    obtain ⟨f, v', p3⟩ := r
    obtain rfl : v' = .str s := hs
    cases f with
    | done =>
      obtain ⟨m, hio3, e⟩ := h
      rw [e]
      exact qry_if2 fuel hf c vb (.str s) _ ⟨rfl, rfl, rfl, rfl, s, rfl⟩ p3 hio3
    | _ =>
      obtain ⟨env', cl, henv, hcl, e⟩ := h
      refine ⟨env', cl, hcl, e, ?_⟩
      rcases henv with ⟨rfl, hv⟩ | ⟨m, rfl⟩
      · cases hv
        exact hok0
      · exact ⟨rfl, rfl, rfl, rfl, s, rfl⟩

/-- the `except` clause of `query` -/
theorem qry_dispatch (fuel : Nat) (env : ebb_serial_query_Env) (cl : PyIO.ExcClass) (p : PyIO.Port) :
    PyIO.dispatch ebb_serial_query_handlers1 cl fuel env p =
      if PyIO.catches handlerClasses cl = true then .norm { env with err := .unbound } p else .exc cl env p := by
  unfold ebb_serial_query_handlers1
  simp only [PyIO.dispatch, PyIO.Handler.matches, PyIO.runHandler]
  show (if PyIO.catches handlerClasses cl = true then _ else _) = _
  split
  · unfold ebb_serial_query_if3
    simp only [pyio_eval]
  · rfl

/-- `if 'Err:' in response: …` only builds and logs a message -/
theorem qry_if4 (fuel : Nat) (env : ebb_serial_query_Env) (s c : List Char) (hr : env.response = .str s)
    (hc : env.cmd = .str c) (p : PyIO.Port) :
    ∃ em, ebb_serial_query_if4 fuel env p = .norm { env with error_msg := em } p := by
  unfold ebb_serial_query_if4 ebb_serial_query_if5
  simp only [pyio_eval, hr, hc]
  by_cases h : PyIO.isInfix ['E', 'r', 'r', ':'] s = true
  · simp only [h, ↓reduceIte]
    exact ⟨_, by rw [← hr, ← hc]⟩
  · simp only [h, Bool.false_eq_true, ↓reduceIte]
    exact ⟨env.error_msg, by rw [← hr, ← hc]⟩

/-- **bridge for `query`**: with a port and a text, on every script whose faults are serial I/O exceptions and with
fuel ≥ 101, the regenerated function is the hand model with the parameters `C07.std` -/
theorem query_bridge (fuel : Nat) (hf : 101 ≤ fuel) (c : List Char) (vb : PyIO.Val) (p : PyIO.Port)
    (hio : IoScript p) :
    ebb_serial_query fuel .port (.str c) vb p = encOut (C07.query C07.std c p) := by
  have h := qry_try1 fuel hf c vb p hio
  unfold ebb_serial_query ebb_serial_query_main ebb_serial_query_if1 C07.query
  simp only [PyIO.run, PyIO.block_cons2, PyIO.block_one]
  -- the guard holds; `response = ''`
  rw [PyIO.seq]
  simp only [PyIO.ifte, PyIO.call1_ok, PyIO.op_is_not_none, PyIO.isNone, PyIO.and_ok, PyIO.ok, truthy_bool, Bool.not_false,
    ↓reduceIte]
  rw [PyIO.seq_norm (PyIO.assign_ok (set := fun (env : ebb_serial_query_Env) v => { env with response := v })
    (e := fun _ => PyIO.ok (.str [])) (v := .str []) rfl fuel p)]
  dsimp only
  unfold qryEnv1 at h
  generalize C07.queryBody C07.std c p = r at h ⊢
  obtain ⟨f, v, p'⟩ := r
  obtain ⟨env', ⟨_, hC, _, hR, s', rfl⟩, e⟩ := tryExcept_sim (hs := ebb_serial_query_handlers1)
    (unbind := fun env => { env with err := .unbound }) (fun cl env p _ => qry_dispatch fuel env cl p) (fun _ h => h) h
  cases f with
  | py e0 =>
    rw [PyIO.seq_exc e]
    rfl
  | _ =>
    -- after the `try` statement: the `Err:` check, `return response`
    obtain ⟨em, e4⟩ := qry_if4 fuel env' s' c hR hC p'
    rw [PyIO.seq_norm e, PyIO.seq_norm e4]
    simp only [PyIO.return_, hR, PyIO.ok]
    rfl

/-- no port or no text: nothing happens, `None` is returned (any fuel, any script) -/
theorem query_noop (fuel : Nat) (pv cmd vb : PyIO.Val) (p : PyIO.Port)
    (h : pv = .none ∨ ((pv = .port ∨ pv = .none) ∧ cmd = .none)) :
    ebb_serial_query fuel pv cmd vb p = .val .none p := by
  unfold ebb_serial_query ebb_serial_query_main ebb_serial_query_if1
  rcases h with rfl | ⟨rfl | rfl, rfl⟩ <;>
    simp only [PyIO.run, pyio_eval, Bool.false_eq_true, ↓reduceIte]

end Query

end C07Gen
end Plotink
