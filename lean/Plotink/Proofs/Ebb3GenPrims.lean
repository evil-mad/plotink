import Plotink.Proofs.Ebb3Gen
import Plotink.Gen.EBB3_query_statusbyte
import Plotink.Gen.EBB3_reboot
import Plotink.Gen.EBB3_bootload
import Plotink.Gen.EBB3_disconnect

/-! # Bridges: `record_error`, `disconnect`, `reboot`, `bootload`, `query_statusbyte` -/

namespace Plotink
namespace Ebb3Gen
open PyObj Gen

theorem record_error_bridge (fuel : Nat) (m : List Char) (w : World EBB3_Obj) (hg : Good w) :
    Sim (EBB3_record_error fuel (.str m) w)
      (Ebb3.run Ebb3.srcParams Ebb3.scriptDev (.record_error m) (absWorld w)) := by
  rw [record_error_eval fuel m w hg.obj]
  show Sim _ ((Ebb3.recordError m >>= fun _ => pure Ebb3.Val.none) (absWorld w))
  rw [Ebb3.bind_ok (recordError_model m w hg.obj)]
  exact ⟨rfl, rfl, hg.setObj (objOk_recErr m _ hg.obj)⟩

theorem disconnect_eval (fuel : Nat) (w : World EBB3_Obj) (ho : ObjOk w.obj) :
    EBB3_disconnect fuel w = .val .none { w with obj := { w.obj with port := .none } } := by
  unfold EBB3_disconnect EBB3_disconnect_main EBB3_disconnect_if1 EBB3_disconnect_try1 EBB3_disconnect_handlers1
  rw [block_cons2, block_one]
  have hga := getattr_port w ho
  rcases ho.port with hp | hp <;> rw [hp] at hga
  · simp only [PyObj.run, seq, ifte, app1, PyObj.bind, hga, ofP, op_is_not_none, isNone, ok, truthy, Bool.not_false, ↓reduceIte,
      tryExcept, expr, eff1, meth_close, setattr]
  · simp only [PyObj.run, seq, ifte, app1, PyObj.bind, hga, ofP, op_is_not_none, isNone, ok, truthy, Bool.not_true,
      Bool.false_eq_true, ↓reduceIte, pass, setattr]

theorem objOk_disc (o : EBB3_Obj) (ho : ObjOk o) : ObjOk { o with port := .none } :=
  ⟨Or.inr rfl, ho.err, ho.version, ho.version_parsed, ho.name, ho.caller, ho.port_name⟩

theorem good_disc (w : World EBB3_Obj) (hg : Good w) : Good { w with obj := { w.obj with port := .none } } :=
  ⟨objOk_disc _ hg.obj, hg.ioR, hg.ioW, hg.ascii⟩

theorem disconnectM_sim (w : World EBB3_Obj) :
    (Ebb3.disconnectM : Ebb3.M Ebb3.Script Unit) (absWorld w)
      = (.ok (), absWorld { w with obj := { w.obj with port := .none } }) := rfl

theorem disconnect_bridge (fuel : Nat) (w : World EBB3_Obj) (hg : Good w) :
    Sim (EBB3_disconnect fuel w) (Ebb3.run Ebb3.srcParams Ebb3.scriptDev .disconnect (absWorld w)) := by
  rw [disconnect_eval fuel w hg.obj]
  exact ⟨rfl, rfl, good_disc w hg⟩

/-- the classes named by the handler of `reboot` / `bootload` -/
def rebootClasses : List PyIO.ExcClass := [.serialException, .portNotOpenError, .osError, .osError]

/-- the domain of `reboot` / `bootload`: if the next write raises, it raises a class their handler names (a
`RuntimeError` from the port — caught by `command` / `query` — would escape here; the model has one raise outcome) -/
def RebootOk (w : World EBB3_Obj) : Prop :=
  ∀ c ws, w.port.writes = .raise c :: ws → PyIO.catches rebootClasses c = true

/-- `reboot` / `bootload` after the guard, generic in the text and in the pieces of the two methods, which differ only
by the literal -/
theorem rawClose_sim (fuel : Nat) (text : List Char) (hasc : PyIO.isAscii text = true)
    (w : World EBB3_Obj) (hg : Good w) (hr : RebootOk w) (hb : (absSt w.obj).blocked = false)
    (σ : Type) (env : σ) (try1 : Stmt EBB3_Obj σ) (handlers : List (Handler EBB3_Obj σ))
    (htry : try1 = block [wStmt text, expr (fun fuel _ => mcall0 (EBB3_disconnect fuel)),
      return_ (fun _ _ => ok (.bool true))])
    (hh : handlers = [{ classes := some rebootClasses, bind := Option.none, body := return_ (fun _ _ => ok (.bool false)) }]) :
    SimK Sim fuel [] (tryExcept try1 handlers fuel env w) (Ebb3.rawCloseBody Ebb3.scriptDev text (absWorld w)) := by
  subst htry hh
  unfold Ebb3.rawCloseBody
  refine SimK.try_ (SimK.block (SimK.write hg (not_blocked_port _ hg.obj hb) hasc
    (fun w1 h1 => SimK.next (SimK.block ?_))
    fun cl w1 _ h1 ⟨ws, h⟩ => SimK.skip (SimK.caughtBy (hr cl ws h) (SimK.ret (v := .bool false) h1.good rfl))))
  rw [expr_of (v := .none) (w' := { w1 with obj := { w1.obj with port := .none } }) (by
    rw [mcall0_apply, disconnect_eval fuel w1 h1.good.obj, ofOut_val]), Ebb3.bind_ok (disconnectM_sim w1)]
  exact SimK.next (SimK.ret (v := .bool true) (good_disc w1 h1.good) rfl)

theorem reboot_bridge (fuel : Nat) (w : World EBB3_Obj) (hg : Good w)
    (hr : (absSt w.obj).blocked = false → RebootOk w) :
    Sim (EBB3_reboot fuel w) (Ebb3.run Ebb3.srcParams Ebb3.scriptDev .reboot (absWorld w)) := by
  unfold EBB3_reboot EBB3_reboot_main EBB3_reboot_if1
  rw [block_cons2, block_one]
  show Sim _ (Ebb3.guardM (.bool false) (Ebb3.rawCloseBody Ebb3.scriptDev "RB\r".toList) (absWorld w))
  rw [lit_RBcr]
  exact SimK.guarded (.bool false) hg fun hb => rawClose_sim fuel _ (by decide) w hg (hr hb) hb _ _ _ _ rfl rfl

theorem bootload_bridge (fuel : Nat) (w : World EBB3_Obj) (hg : Good w)
    (hr : (absSt w.obj).blocked = false → RebootOk w) :
    Sim (EBB3_bootload fuel w) (Ebb3.run Ebb3.srcParams Ebb3.scriptDev .bootload (absWorld w)) := by
  unfold EBB3_bootload EBB3_bootload_main EBB3_bootload_if1
  rw [block_cons2, block_one]
  show Sim _ (Ebb3.guardM (.bool false) (Ebb3.rawCloseBody Ebb3.scriptDev "BL\r".toList) (absWorld w))
  rw [lit_BLcr]
  exact SimK.guarded (.bool false) hg fun hb => rawClose_sim fuel _ (by decide) w hg (hr hb) hb _ _ _ _ rfl rfl

/-- a fault of the port inside the `try` block of `query_statusbyte` -/
theorem qg_fail {fs : List (Frame EBB3_Obj EBB3_query_statusbyte_Env)} (fuel : Nat)
    (env : EBB3_query_statusbyte_Env) {c : PyIO.ExcClass} (hc : IoClass c) (w : World EBB3_Obj) (hg : Good w) :
    SimK Sim fuel (.catch_ EBB3_query_statusbyte_handlers1 :: fs) (.exc c env w) (Ebb3.qgUsbFail (absWorld w)) := by
  unfold EBB3_query_statusbyte_handlers1 Ebb3.qgUsbFail Ebb3.Msg.qgUsb
  rw [String.toList_ofList]
  exact SimK.caught hc (SimK.errRet (getE := EBB3_query_statusbyte_Env.error_msg) hg rfl rfl)

theorem qg_judge (fuel : Nat) (resp : List Char) (em : Val) (w : World EBB3_Obj) (hg : Good w) :
    SimK Sim fuel [.catch_ EBB3_query_statusbyte_handlers1, .seq (block [EBB3_query_statusbyte_if4,
        tryExcept EBB3_query_statusbyte_try2 EBB3_query_statusbyte_handlers2])]
      (EBB3_query_statusbyte_if2 fuel ⟨.str resp, em⟩ w) (Ebb3.qgJudge resp (absWorld w)) := by
  unfold EBB3_query_statusbyte_if2 Ebb3.qgJudge
  rw [lit_QG]
  refine SimK.ite (p := !Ebb3.startsWith ['Q', 'G'] resp) rfl (fun _ => ?_) fun _ => SimK.leave (SimK.next (SimK.block ?_))
  · rw [← apply_ite Ebb3.recordError]
    refine SimK.errRet (getE := EBB3_query_statusbyte_Env.error_msg) hg
      (env' := ⟨.str resp, .str (if resp.isEmpty then Ebb3.Msg.qgTimeout else Ebb3.Msg.qgUnexpected resp)⟩) ?_ rfl
    unfold EBB3_query_statusbyte_if3 Ebb3.Msg.qgTimeout Ebb3.Msg.qgUnexpected
    rw [String.toList_ofList, String.toList_ofList]
    cases resp <;> simp only [ifte, assign, load_str, ok_apply, truthy_str, List.isEmpty_nil, List.isEmpty_cons, Bool.not_true,
      Bool.not_false, Bool.false_eq_true, ↓reduceIte, fstr, evalList_cons_ok, evalList_nil, app2_ok_left, bind_ok, op_add,
      ofP_ok, flatten_strs2, List.cons_append, List.nil_append]
  · unfold EBB3_query_statusbyte_if4
    refine SimK.ite (p := Ebb3.hasErr resp) (by simp only [load_str, app2_ok, op_in_Err, ofP_ok, ok_apply])
      (fun _ => ?_) fun _ => SimK.next (SimK.try_ ?_)
    · refine SimK.errRet (getE := EBB3_query_statusbyte_Env.error_msg) hg (text := Ebb3.Msg.qgErr resp) (assign_of ?_) rfl
      unfold Ebb3.Msg.qgErr
      rw [String.toList_ofList]
      simp only [load_str, fstr, evalList_cons_ok, evalList_nil, app2_ok_left, bind_ok, op_add, ofP_ok, flatten_strs2,
          ok_apply, List.cons_append, List.nil_append]
    · unfold EBB3_query_statusbyte_try2 EBB3_query_statusbyte_handlers2
      have hsl : op_slice (.str resp) (.int 3) .none = .ok (.str (resp.drop 3)) := slice_from resp 3
      cases hpi : Ebb3.pyInt 16 (resp.drop 3) with
      | some z =>
        exact SimK.ret hg (by simp only [load_str, app3_ok, hsl, ofP_ok, app2_ok, b_int_base,
          show (16 : Int).toNat = 16 from rfl, hpi]; rfl)
      | none =>
        rw [return_onRes]
        simp only [load_str, app3_ok, hsl, ofP_ok, app2_ok, b_int_base, show (16 : Int).toNat = 16 from rfl, hpi]
        exact SimK.caughtBy rfl (SimK.ret (v := .none) hg rfl)

theorem query_statusbyte_bridge (fuel : Nat) (w : World EBB3_Obj) (hg : Good w) :
    Sim (EBB3_query_statusbyte fuel w) (Ebb3.run Ebb3.srcParams Ebb3.scriptDev .query_statusbyte (absWorld w)) := by
  refine SimK.guarded .none hg (m := Ebb3.queryStatusByteBody Ebb3.scriptDev) fun hb => ?_
  have hp := not_blocked_port _ hg.obj hb
  rw [block_cons2, seq_assign_of (v := .str []) (w' := w) rfl]
  refine SimK.block (SimK.try_ ?_)
  unfold EBB3_query_statusbyte_try1 Ebb3.queryStatusByteBody
  rw [lit_QGcr]
  refine SimK.block (SimK.write hg hp (by decide) (fun w1 h1 => SimK.next (SimK.block ?_))
    fun c w1 hc h1 _ => SimK.skip (qg_fail fuel _ hc w1 h1.good))
  rw [assign_onRes]
  exact SimK.read h1.good (h1.obj ▸ hp) (fun l w2 h2 => SimK.next (qg_judge fuel _ _ w2 h2.good))
    fun c w2 hc h2 => SimK.skip (qg_fail fuel _ hc w2 h2.good)
end Ebb3Gen
end Plotink
