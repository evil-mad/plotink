import Plotink.Gen.move_dist_lt
import Plotink.Gen.moveDistLM
import Plotink.Gen.moveDistLMA
import Plotink.Proofs.FwAlg
import Plotink.Proofs.NumExact

/-! # Lemmas for C01 (timed-move prediction = firmware recurrence)

The numeric bridge: under `ContractExact R` and the magnitude envelope, every one of the rounding sites of the
*generated* `Gen.move_dist_lt` is applied to an integer or half-integer below `2^103` (resp. `2^53`) and therefore drops
out. -/

namespace Plotink
open Py Py.Val

/-- the clear value is written as `C03.startAcc · · none`: `move_dist_lt` applies the rule that `calculate_lm` calls
`initial_rate_negative` -/
theorem move_dist_lt_clear {R : Rounding} (hR : ContractExact R) (ambient : Nat) (rate accel T : Int)
    (ha : |accel| ≤ 2 ^ 32) :
    Gen.move_dist_lt R ambient (.int rate) (.int accel) (.int T) (.str "clear") =
      Gen.move_dist_lt R ambient (.int rate) (.int accel) (.int T) (.int (C03.startAcc rate accel none)) := by
  have h2 : ((2 : Int) : Rat) ≠ 0 := by norm_num
  have hs : Py.eq (.str "clear") (.str "clear") = true := by decide
  have hM : Fw.two31 - 1 = 2147483647 := rfl
  have hn := C03.isNeg_iff rate accel
  unfold Gen.move_dist_lt C03.startAcc
  simp only [int_int, eq_int_str, hs, Bool.false_eq_true, ↓reduceIte, div_int_int _ _ _ _ h2, int_flt,
    Int.cast_ofNat, half_exact hR accel ha, intOfRat_half, sub_int_int, add_int_int, lt_int_int, eq_int_int, hM]
  by_cases h1 : rate - Fw.tdiv accel 2 + accel < 0
  · simp only [h1, decide_true, ↓reduceIte, if_pos (hn.mpr (Or.inl h1))]
  · by_cases h3 : rate - Fw.tdiv accel 2 + accel = 0
    · by_cases h5 : accel < 0
      · simp only [h3, h5, decide_true, decide_false, lt_self_iff_false, Bool.false_eq_true, ↓reduceIte,
          if_pos (hn.mpr (Or.inr ⟨h3, h5⟩))]
      · simp only [h3, h5, decide_true, decide_false, lt_self_iff_false, Bool.false_eq_true, ↓reduceIte,
          if_neg (mt hn.mp (by omega))]
    · simp only [h1, h3, decide_false, Bool.false_eq_true, ↓reduceIte, if_neg (mt hn.mp (by omega))]

/-- `accum_final` of `move_dist_lt` before it is split -/
theorem lt_accum {R : Rounding} (hR : ContractExact R) (rate accel T a0 : Int)
    (hT1 : 1 ≤ T) (hT : T ≤ 2 ^ 32) (hr : |rate| ≤ 2 ^ 32) (ha : |accel| ≤ 2 ^ 32) (ha0r : 0 ≤ a0 ∧ a0 < 2 ^ 31) :
    R.mp 103 (R.mp 103 (R.mp 103 (a0 : Rat) + R.mp 103 (R.mp 103 (R.mp 103 ((rate : Rat) +
        R.mp 103 (R.mp 103 (accel : Rat) / 2)) - ((Fw.tdiv accel 2 : Int) : Rat)) * (T : Rat))) +
      R.mp 103 (R.mp 103 (R.mp 103 (R.mp 103 (accel : Rat) * (T : Rat)) * (T : Rat)) / 2))
      = ((Fw.ltTotal rate accel T.toNat a0 : Int) : Rat) ∧ |Fw.ltTotal rate accel T.toNat a0| < 2 ^ 100 := by
  have hc2 := ltTotal_closed rate accel T.toNat a0
  rw [Int.toNat_of_nonneg (by omega : 0 ≤ T)] at hc2
  have dT := Dy.int T (abs_le.mpr ⟨by omega, hT⟩)
  have d0 := Dy.int a0 (B := 2 ^ 31) (by rw [abs_le]; omega)
  have d1 := Dy.int accel ha
  have d2 := d1.half
  have d3 := (Dy.int rate hr).lift.add d2
  have d4 := d3.sub (Dy.int _ ((tdiv2_bound accel).trans ha)).lift
  have d5 := d4.mul dT
  have d6 := d0.lift.add d5
  have d7 := d1.mul dT
  have d8 := d7.mul dT
  have d9 := d8.half
  have d10 := d6.add d9
  have e : (a0 : Rat) + ((rate : Rat) + (accel : Rat) / 2 - ((Fw.tdiv accel 2 : Int) : Rat)) * (T : Rat)
      + (accel : Rat) * (T : Rat) * (T : Rat) / 2 = ((Fw.ltTotal rate accel T.toNat a0 : Int) : Rat) := by
    have := congrArg (Int.cast (R := Rat)) hc2
    push_cast at this
    linear_combination (-1 / 2 : Rat) * this
  simp only [d0.mp_eq hR, d1.mp_eq hR, d2.mp_eq hR, d3.mp_eq hR, d4.mp_eq hR, d5.mp_eq hR, d6.mp_eq hR, d7.mp_eq hR,
    d8.mp_eq hR, d9.mp_eq hR, d10.mp_eq hR]
  refine ⟨e, ?_⟩
  -- the bound `d10` has collected is `2^96 + 5·2^64 + 2^32` (`accel·T²` dominates)
  have := d10.abs_le
  rw [e, ← Int.cast_abs] at this
  exact lt_of_le_of_lt (Int.cast_le.mp this) (by norm_num)

theorem move_dist_lt_core {R : Rounding} (hR : ContractExact R) (ambient : Nat) (rate accel T a0 : Int)
    (hT1 : 1 ≤ T) (hT : T ≤ 2 ^ 32) (hr : |rate| ≤ 2 ^ 32) (ha : |accel| ≤ 2 ^ 32)
    (ha0r : 0 ≤ a0 ∧ a0 < 2 ^ 31) :
    Gen.move_dist_lt R ambient (.int rate) (.int accel) (.int T) (.int a0) =
      .tup [.int (Fw.ltTotal rate accel T.toNat a0 / 2147483648),
            .int (Fw.ltTotal rate accel T.toNat a0 % 2147483648)] := by
  have hT0 : T ≠ 0 := by omega
  have h2 : ((2 : Int) : Rat) ≠ 0 := by norm_num
  have h31 : (2147483648 : Rat) ≠ 0 := by norm_num
  obtain ⟨hacc, hb⟩ := lt_accum hR rate accel T a0 hT1 hT hr ha ha0r
  unfold Gen.move_dist_lt
  -- evaluate the dynamic typing; what remains is a nest of `R.mp 103 (…)` around rational expressions
  simp only [int_int, eq_int_int, hT0, decide_false, eq_int_str, dpsToPrec_30, Bool.false_eq_true, ↓reduceIte,
    div_int_int _ _ _ _ h2, int_flt, mpf_int, div_mpf_int _ _ _ _ h2, add_int_mpf, sub_mpf_int, mul_mpf_int,
    add_mpf_mpf, Int.cast_ofNat, mp_two31 hR, div_mpf_mpf _ _ _ _ h31, floor_mpf, mpf_mpf, mul_int_mpf, sub_mpf_mpf,
    int_mpf, half_exact hR accel ha, intOfRat_half]
  rw [hacc, (split_two31 hR _ hb).1, (split_two31 hR _ hb).2]

/-- the test tuple `(8589934, 17353403, 85, "clear") ↦ (29, 1142286978)` of `Props/C01.lean`, evaluated through the
closed form of the total instead of 85 steps of the recurrence -/
theorem ltSpec_test_vector : Fw.ltSpec 8589934 17353403 85 none = (29, 1142286978) := by
  have hc : Fw.ltClear 8589934 17353403 = 0 := by decide
  have h := ltTotal_closed 8589934 17353403 85 0
  rw [show Fw.tdiv 17353403 2 = 8676701 by decide] at h
  have : Fw.ltTotal 8589934 17353403 85 0 = 63419312770 := by push_cast at h; omega
  simp only [Fw.ltSpec, hc, this, Fw.two31]
  decide

end Plotink
