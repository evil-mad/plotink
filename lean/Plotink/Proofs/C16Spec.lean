import Plotink.Proofs.C16Methods
/-! Each modelled operation returns the value of `Spec.step` and sends `opReqs` (`runOp_trace`), which leave the board of
`Spec.step` (`after_opReqs`, `C16Trace.lean`); hence it refines `Spec.step` and keeps `Inv`.  Then, on the specification
alone: the four slots `Spec.setBytes` writes, and the frame of `Spec.steps` (operations that write none of them leave an
int32 readable, `spec_int32_frame`). -/
namespace Plotink.C16

theorem setBytes_in {vars : List Nat} {n : Nat} (v : Int) (h : n + 3 < vars.length) {k : Nat} (hk : k < 4) :
    (Spec.setBytes vars n v)[n + k]? = some (Spec.beByte v k) := by
  have : k = 0 ∨ k = 1 ∨ k = 2 ∨ k = 3 := by omega
  unfold Spec.setBytes
  rcases this with rfl | rfl | rfl | rfl
  · rw [List.getElem?_set_ne (by omega), List.getElem?_set_ne (by omega), List.getElem?_set_ne (by omega)]
    exact List.getElem?_set_self (by omega)
  · rw [List.getElem?_set_ne (by omega), List.getElem?_set_ne (by omega),
      List.getElem?_set_self (by rw [List.length_set]; omega)]
  · rw [List.getElem?_set_ne (by omega), List.getElem?_set_self (by rw [List.length_set, List.length_set]; omega)]
  · rw [List.getElem?_set_self (by rw [List.length_set, List.length_set, List.length_set]; omega)]

theorem setBytes_out {vars : List Nat} {n : Nat} (v : Int) {j : Nat} (hj : j < n ∨ n + 4 ≤ j) :
    (Spec.setBytes vars n v)[j]? = vars[j]? := by
  unfold Spec.setBytes
  rw [List.getElem?_set_ne (by omega), List.getElem?_set_ne (by omega), List.getElem?_set_ne (by omega),
    List.getElem?_set_ne (by omega)]

theorem runOp_trace (w : World) (hr : Ready w) (hwf : w.board.WF) (op : Op) (hop : OpOK op)
    (herr : op = .queryNick → isInfix sErr w.board.name = false) :
    runOp w op = .ok ((Spec.step ⟨w.board, w.py.name⟩ op).1,
      { w.after (opReqs w.board op) with py := { w.py with name := (Spec.step ⟨w.board, w.py.name⟩ op).2.pyName } }) := by
  cases op with
  | varWrite v i =>
    obtain ⟨vn, rfl⟩ := Int.eq_ofNat_of_zero_le hop.1.1
    obtain ⟨k, rfl⟩ := Int.eq_ofNat_of_zero_le hop.2.1
    exact var_write_after hr hwf [] (by have := hop.1.2; omega) (by have := hop.2.2; omega)
  | varRead i =>
    obtain ⟨k, rfl⟩ := Int.eq_ofNat_of_zero_le hop.1
    exact var_read_after hr hwf [] (by have := hop.2; omega)
  | writeInt32 v i =>
    obtain ⟨k, rfl⟩ := Int.eq_ofNat_of_zero_le hop.2.1
    exact var_write_int32_after hr hwf hop.1 (by have := hop.2.2; omega)
  | readInt32 i =>
    obtain ⟨k, rfl⟩ := Int.eq_ofNat_of_zero_le hop.1
    exact var_read_int32_after hr hwf (by have := hop.2; omega)
  | motorsEnable r1 r2 => exact motors_enable_after hr hwf.mode r1 r2
  | motorsQuery =>
    have h : motors_query_enabled w = _ := motors_query_enabled_after hr [] hwf.mode
    simp only [runOp, h, Bind.bind, Except.bind]
    rfl
  | writeNick s => exact write_nickname_after hr hop
  | queryNick => exact query_nickname_after hr (herr rfl)

theorem spec_step_noErr (s : Spec.Abs) (op : Op) (hop : OpOK op) (h : isInfix sErr s.board.name = false) :
    isInfix sErr (Spec.step s op).2.board.name = false := by
  cases op with
  | writeNick n => exact hop.2.2
  | _ => exact h

theorem runOp_refines (w : World) (hinv : Inv w) (op : Op) (hop : OpOK op) :
    ∃ w', runOp w op = .ok ((Spec.step ⟨w.board, w.py.name⟩ op).1, w') ∧
      (⟨w'.board, w'.py.name⟩ : Spec.Abs) = (Spec.step ⟨w.board, w.py.name⟩ op).2 ∧ Inv w' := by
  have e := after_opReqs hinv.2.1 w.py.name op hop
  refine ⟨_, runOp_trace w hinv.1 hinv.2.1 op hop (fun _ => hinv.2.2), congrArg (Spec.Abs.mk · _) e, hinv.1,
    boardAfter_wf hinv.2.1 _, ?_⟩
  rw [show (World.after w (opReqs w.board op)).board = _ from e]
  exact spec_step_noErr _ op hop hinv.2.2

theorem spec_steps_cons (s : Spec.Abs) (op : Op) (rest : List Op) :
    Spec.steps s (op :: rest) =
      ((Spec.step s op).1 :: (Spec.steps (Spec.step s op).2 rest).1, (Spec.steps (Spec.step s op).2 rest).2) := rfl

theorem runOps_refines (ops : List Op) (w : World) (hinv : Inv w) (hops : ∀ op ∈ ops, OpOK op) :
    ∃ w', runOps w ops = .ok ((Spec.steps ⟨w.board, w.py.name⟩ ops).1, w') ∧
      (⟨w'.board, w'.py.name⟩ : Spec.Abs) = (Spec.steps ⟨w.board, w.py.name⟩ ops).2 ∧ Inv w' := by
  induction ops generalizing w with
  | nil => exact ⟨w, rfl, rfl, hinv⟩
  | cons op rest ih =>
    obtain ⟨w1, h1, e1, i1⟩ := runOp_refines w hinv op (hops op List.mem_cons_self)
    obtain ⟨w2, h2, e2, i2⟩ := ih w1 i1 (fun o ho => hops o (List.mem_cons_of_mem _ ho))
    rw [spec_steps_cons, ← e1]
    exact ⟨w2, by simp only [runOps, h1, h2, bind, Except.bind], e2, i2⟩

theorem spec_step_frame (s : Spec.Abs) {op : Op} {n : Nat} (hd : Disjoint n op) {k : Nat} (hk : k < 4) :
    (Spec.step s op).2.board.vars[n + k]? = s.board.vars[n + k]? := by
  cases op with
  | varWrite v j =>
    have : j.toNat ≠ n + k := by have := hd; simp only [Disjoint] at this; omega
    simp [Spec.step, List.getElem?_set_ne this]
  | writeInt32 v j =>
    have : n + k < j.toNat ∨ j.toNat + 4 ≤ n + k := by have := hd; simp only [Disjoint] at this; omega
    simp only [Spec.step]
    exact setBytes_out v this
  | _ => rfl

theorem spec_steps_frame (ops : List Op) (s : Spec.Abs) {n : Nat} (hd : ∀ op ∈ ops, Disjoint n op) {k : Nat}
    (hk : k < 4) : (Spec.steps s ops).2.board.vars[n + k]? = s.board.vars[n + k]? := by
  induction ops generalizing s with
  | nil => rfl
  | cons op rest ih =>
    rw [spec_steps_cons, ih _ (fun o ho => hd o (List.mem_cons_of_mem _ ho)),
      spec_step_frame s (hd op List.mem_cons_self) hk]

theorem spec_steps_append (a b : List Op) (s : Spec.Abs) :
    Spec.steps s (a ++ b) =
      ((Spec.steps s a).1 ++ (Spec.steps (Spec.steps s a).2 b).1, (Spec.steps (Spec.steps s a).2 b).2) := by
  induction a generalizing s with
  | nil => rfl
  | cons op rest ih => rw [List.cons_append, spec_steps_cons, spec_steps_cons, ih]; rfl

theorem spec_readInt32 {s : Spec.Abs} {v i : Int} (hv : IsInt32 v)
    (h : ∀ k, k < 4 → s.board.vars[i.toNat + k]? = some (Spec.beByte v k)) :
    Spec.step s (.readInt32 i) = (.int v, s) := by
  have h0 := h 0 (by omega)
  rw [Nat.add_zero] at h0
  simp only [Spec.step, List.getD_eq_getElem?_getD, h0, h 1 (by omega), h 2 (by omega), h 3 (by omega),
    Option.getD_some, decode_beByte hv]

theorem spec_int32_frame (s : Spec.Abs) {v i : Int} (hv : IsInt32 v) (hlen : i.toNat + 3 < s.board.vars.length)
    {ops : List Op} (hd : ∀ op ∈ ops, Disjoint i.toNat op) :
    (Spec.steps s (.writeInt32 v i :: ops ++ [.readInt32 i])).1.head? = some (.bool true) ∧
    (Spec.steps s (.writeInt32 v i :: ops ++ [.readInt32 i])).1.getLast? = some (.int v) ∧
    ∀ k, k < 4 →
      (Spec.steps s (.writeInt32 v i :: ops ++ [.readInt32 i])).2.board.vars[i.toNat + k]? = some (Spec.beByte v k) := by
  have hs : ∀ k, k < 4 → (Spec.steps (Spec.step s (.writeInt32 v i)).2 ops).2.board.vars[i.toNat + k]? =
      some (Spec.beByte v k) :=
    fun k hk => (spec_steps_frame ops _ hd hk).trans (setBytes_in v hlen hk)
  rw [List.cons_append, spec_steps_cons, spec_steps_append, spec_steps_cons, spec_readInt32 hv hs]
  exact ⟨rfl, by rw [← List.cons_append]; exact List.getLast?_concat .., hs⟩

theorem opOK_int32_frame {v i : Int} (hv : IsInt32 v) (hi : 0 ≤ i ∧ i ≤ 28) {ops : List Op}
    (hops : ∀ op ∈ ops, OpOK op ∧ Disjoint i.toNat op) :
    ∀ op ∈ Op.writeInt32 v i :: ops ++ [Op.readInt32 i], OpOK op := by
  intro op hop
  simp only [List.cons_append, List.mem_cons, List.mem_append, List.not_mem_nil, or_false] at hop
  rcases hop with rfl | hop | rfl
  · exact ⟨hv, hi⟩
  · exact (hops op hop).1
  · exact hi

/-- a concrete ready world (power-on board) for the non-vacuity examples -/
def exampleWorld : World :=
  ⟨⟨true, false, none⟩, ⟨List.replicate 32 0, [], false, false, 1, true⟩, []⟩

theorem exampleWorld_inv : Inv exampleWorld :=
  ⟨⟨rfl, rfl⟩, by decide, by decide⟩

end Plotink.C16
