import Plotink.PyIO
import Plotink.PyObj
/-! Evaluation lemmas for the combinators of `Plotink/PyIO.lean` (core Lean only): how expressions and statements
reduce once their sub-expressions are values.  Mostly by `rfl` (the combinators are plain functions), stated as
equalities of functions so that `simp only` can evaluate a generated expression without a state argument.  In front of
them `Lens`, which both runtimes' proofs about translated loops use. -/
namespace Plotink

/-- Two locals `r`, `n` of a translated function, read and updated through its record of locals `σ` the way the
translator writes it, behave like two fields of a record.  The retry loop `while len(r) == 0 and n < K: r = <read>;
n += 1` of both serial layers (`Proofs/C07Gen.lean` over `PyIO`, `Proofs/Ebb3GenCommand.lean` over `PyObj`) is simulated once
for every such record. -/
structure Lens {σ V : Type} (getR getN : σ → V) (setR setN : σ → V → σ) : Prop where
  getR_setR : ∀ e v, getR (setR e v) = v
  getR_setN : ∀ e v, getR (setN e v) = getR e
  getN_setN : ∀ e v, getN (setN e v) = v
  getN_setR : ∀ e v, getN (setR e v) = getN e
  setR_setN : ∀ e n r, setR (setN e n) r = setN (setR e r) n
  setR_setR : ∀ e a b, setR (setR e a) b = setR e b
  setN_setN : ∀ e a b, setN (setN e a) b = setN e b
  eta : ∀ e, setN (setR e (getR e)) (getN e) = e

namespace Lens
variable {σ V : Type} {getR getN : σ → V} {setR setN : σ → V → σ} (L : Lens getR getN setR setN)
include L

theorem getR_set (e : σ) (r n : V) : getR (setN (setR e r) n) = r := by rw [L.getR_setN, L.getR_setR]

theorem eq_set {e : σ} {r n : V} (hR : getR e = r) (hN : getN e = n) : setN (setR e r) n = e := by
  rw [← hR, ← hN, L.eta]

theorem set_set (e : σ) (x a r n : V) : setN (setR (setN (setR e x) a) r) n = setN (setR e r) n := by
  rw [L.setR_setN, L.setR_setR, L.setN_setN]

end Lens

namespace PyIO

theorem bind_ok (v : Val) (f : Val → Eff) : bind (ok v) f = f v := rfl
theorem bind_raise (c : ExcClass) (f : Val → Eff) : bind (raise c) f = raise c := rfl
theorem call1_ok (f : Val → Eff) (v : Val) : call1 f (ok v) = f v := rfl
theorem call2_ok (f : Val → Val → Eff) (a b : Val) : call2 f (ok a) (ok b) = f a b := rfl
theorem call2_ok_left (f : Val → Val → Eff) (a : Val) (b : Eff) : call2 f (ok a) b = bind b (fun y => f a y) := rfl
theorem call1_raise (f : Val → Eff) (c : ExcClass) : call1 f (raise c) = raise c := rfl
theorem and_ok (v : Val) (b : Eff) : and_ (ok v) b = if truthy v then b else ok v := rfl
theorem or_ok (v : Val) (b : Eff) : or_ (ok v) b = if truthy v then ok v else b := rfl
theorem not_ok (v : Val) : not_ (ok v) = ok (.bool (!truthy v)) := rfl

theorem load_of_bound {v : Val} (h : v ≠ .unbound) : load v = ok v := by
  cases v <;> first | rfl | exact absurd rfl h

theorem load_str (s : List Char) : load (.str s) = ok (.str s) := rfl
theorem load_bytes (s : List Char) : load (.bytes s) = ok (.bytes s) := rfl
theorem load_int (n : Int) : load (.int n) = ok (.int n) := rfl
theorem load_exc (c : ExcClass) : load (.exc c) = ok (.exc c) := rfl
theorem load_unbound : load .unbound = raise .unboundLocalError := rfl

theorem mkList_nil : mkList [] = ok (.list []) := rfl
theorem mkList_cons_ok (v : Val) (r : List Eff) (l : List Val) (h : mkList r = ok (.list l)) :
    mkList (ok v :: r) = ok (.list (v :: l)) := by
  show bind (ok v) _ = _
  rw [bind_ok, h]; rfl

theorem logCall_nil : logCall [] = ok .none := rfl
theorem logCall_cons_ok (v : Val) (r : List Eff) : logCall (ok v :: r) = logCall r := rfl

section
variable {σ : Type}

theorem block_cons2 (a b : Stmt σ) (r : List (Stmt σ)) : block (a :: b :: r) = seq a (block (b :: r)) := rfl
theorem block_one (a : Stmt σ) : block [a] = a := rfl

theorem seq_norm {a b : Stmt σ} {fuel : Nat} {env env' : σ} {st st' : Port} (h : a fuel env st = .norm env' st') :
    seq a b fuel env st = b fuel env' st' := by
  simp only [seq, h]
theorem seq_exc {a b : Stmt σ} {fuel : Nat} {env env' : σ} {st st' : Port} {c : ExcClass}
    (h : a fuel env st = .exc c env' st') : seq a b fuel env st = .exc c env' st' := by
  simp only [seq, h]
theorem seq_ret {a b : Stmt σ} {fuel : Nat} {env : σ} {st st' : Port} {v : Val}
    (h : a fuel env st = .ret v st') : seq a b fuel env st = .ret v st' := by
  simp only [seq, h]

theorem seq_assoc (a b c : Stmt σ) : seq (seq a b) c = seq a (seq b c) := by
  funext fuel env st
  unfold seq
  cases a fuel env st <;> rfl

theorem assign_ok {set : σ → Val → σ} {e : σ → Eff} {env : σ} {v : Val} (h : e env = ok v) (fuel : Nat) (st : Port) :
    assign set e fuel env st = .norm (set env v) st := by
  simp only [assign, h, ok]
theorem expr_ok {e : σ → Eff} {env : σ} {v : Val} (h : e env = ok v) (fuel : Nat) (st : Port) :
    expr e fuel env st = .norm env st := by
  simp only [expr, h, ok]
theorem return_ok {e : σ → Eff} {env : σ} {v : Val} (h : e env = ok v) (fuel : Nat) (st : Port) :
    return_ e fuel env st = .ret v st := by
  simp only [return_, h, ok]
theorem ifte_ok {c : σ → Eff} {a b : Stmt σ} {env : σ} {v : Val} (h : c env = ok v) (fuel : Nat) (st : Port) :
    ifte c a b fuel env st = if truthy v then a fuel env st else b fuel env st := by
  simp only [ifte, h, ok]
theorem pass_eq (fuel : Nat) (env : σ) (st : Port) : (pass : Stmt σ) fuel env st = .norm env st := rfl

end

theorem isSub_refl (c : ExcClass) : c.isSub c = true := by cases c <;> rfl

end PyIO
end Plotink

/-! # the object layer (`Plotink/PyObj.lean`)

Same style: equalities of functions, mostly by `rfl`, so that `simp only [...]` evaluates a generated expression on values
without a world argument; plus application-level lemmas for the pieces that read the world (`getattr`, method calls)
and for statements. -/
namespace Plotink
namespace PyObj

section
variable {ω σ : Type}

theorem bind_ok (v : Val) (f : Val → Eff ω) : bind (ok v) f = f v := rfl
theorem bind_raise (c : PyIO.ExcClass) (f : Val → Eff ω) : bind (raise c : Eff ω) f = raise c := rfl
theorem ofP_ok (v : Val) : (ofP (.ok v) : Eff ω) = ok v := rfl
theorem ofP_error (c : PyIO.ExcClass) : (ofP (.error c) : Eff ω) = raise c := rfl
theorem app1_ok (f : Val → P) (v : Val) : (app1 f (ok v) : Eff ω) = ofP (f v) := rfl
theorem app2_ok (f : Val → Val → P) (a b : Val) : (app2 f (ok a) (ok b) : Eff ω) = ofP (f a b) := rfl
theorem app3_ok (f : Val → Val → Val → P) (a b c : Val) : (app3 f (ok a) (ok b) (ok c) : Eff ω) = ofP (f a b c) := rfl
theorem app2_ok_left (f : Val → Val → P) (a : Val) (b : Eff ω) : app2 f (ok a) b = bind b (fun y => ofP (f a y)) := rfl
theorem app1_raise (f : Val → P) (c : PyIO.ExcClass) : (app1 f (raise c) : Eff ω) = raise c := rfl
theorem eff1_ok (f : Val → Eff ω) (v : Val) : eff1 f (ok v) = f v := rfl
theorem eff2_ok (f : Val → Val → Eff ω) (a b : Val) : eff2 f (ok a) (ok b) = f a b := rfl
theorem and_ok (v : Val) (b : Eff ω) : and_ (ok v) b = if truthy v then b else ok v := rfl
theorem or_ok (v : Val) (b : Eff ω) : or_ (ok v) b = if truthy v then ok v else b := rfl
theorem not_ok (v : Val) : (not_ (ok v) : Eff ω) = ok (.bool (!truthy v)) := rfl
theorem and_bool (a b : Bool) : (and_ (ok (.bool a)) (ok (.bool b)) : Eff ω) = ok (.bool (a && b)) := by cases a <;> rfl
theorem or_bool (a b : Bool) : (or_ (ok (.bool a)) (ok (.bool b)) : Eff ω) = ok (.bool (a || b)) := by cases a <;> rfl

theorem load_of_bound {v : Val} (h : v ≠ .unbound) : (load v : Eff ω) = ok v := by
  cases v <;> first | rfl | exact absurd rfl h
theorem load_str (s : Str) : (load (.str s) : Eff ω) = ok (.str s) := rfl
theorem load_int (n : Int) : (load (.int n) : Eff ω) = ok (.int n) := rfl
theorem load_none : (load .none : Eff ω) = ok .none := rfl
theorem load_bool (b : Bool) : (load (.bool b) : Eff ω) = ok (.bool b) := rfl
theorem load_list (l : List Val) : (load (.list l) : Eff ω) = ok (.list l) := rfl
theorem load_tuple (l : List Val) : (load (.tuple l) : Eff ω) = ok (.tuple l) := rfl
theorem load_bytes (s : Str) : (load (.bytes s) : Eff ω) = ok (.bytes s) := rfl
theorem load_unbound : (load .unbound : Eff ω) = raise .unboundLocalError := rfl
/-- what `int()` converts is a value, so the local that holds it is bound -/
theorem load_of_int_ok {v : Val} {r : Int} (h : b_int v = .ok (.int r)) : (load v : Eff ω) = ok v := by
  apply load_of_bound
  intro e; subst e; simp [b_int] at h

theorem evalList_nil (k : List Val → Eff ω) : evalList [] k = k [] := rfl
theorem evalList_cons_ok (v : Val) (r : List (Eff ω)) (k : List Val → Eff ω) :
    evalList (ok v :: r) k = evalList r (fun xs => k (v :: xs)) := rfl

theorem getattr_apply {get : ω → Val} {w : World ω} (h : get w.obj ≠ .unbound) :
    getattr get w = (.ok (get w.obj), w) := by
  unfold getattr
  cases hg : get w.obj <;> first | rfl | exact absurd hg h

theorem bind_apply_ok {m : Eff ω} {f : Val → Eff ω} {w w' : World ω} {v : Val} (h : m w = (.ok v, w')) :
    bind m f w = f v w' := by
  simp only [bind, h]
theorem bind_apply_exc {m : Eff ω} {f : Val → Eff ω} {w w' : World ω} {c : PyIO.ExcClass} (h : m w = (.exc c, w')) :
    bind m f w = (.exc c, w') := by
  simp only [bind, h]

theorem ok_apply (v : Val) (w : World ω) : (ok v : Eff ω) w = (.ok v, w) := rfl
theorem raise_apply (c : PyIO.ExcClass) (w : World ω) : (raise c : Eff ω) w = (.exc c, w) := rfl

theorem mcall0_apply (f : World ω → Out ω) (w : World ω) : mcall0 f w = ofOut (f w) (.fuelOut, w) := rfl
theorem mcall1_ok_apply (f : Val → World ω → Out ω) (a : Val) (w : World ω) :
    mcall1 f (ok a) w = ofOut (f a w) (.fuelOut, w) := rfl
theorem mcall2_ok_apply (f : Val → Val → World ω → Out ω) (a b : Val) (w : World ω) :
    mcall2 f (ok a) (ok b) w = ofOut (f a b w) (.fuelOut, w) := rfl
theorem ofOut_val (v : Val) (w : World ω) (r : Res × World ω) : ofOut (.val v w) r = (.ok v, w) := rfl
theorem ofOut_exc (c : PyIO.ExcClass) (w : World ω) (r : Res × World ω) : ofOut (.exc c w) r = (.exc c, w) := rfl

theorem block_cons2 (a b : Stmt ω σ) (r : List (Stmt ω σ)) : block (a :: b :: r) = seq a (block (b :: r)) := rfl
theorem block_one (a : Stmt ω σ) : block [a] = a := rfl

theorem seq_norm {a b : Stmt ω σ} {fuel : Nat} {env env' : σ} {w w' : World ω} (h : a fuel env w = .norm env' w') :
    seq a b fuel env w = b fuel env' w' := by
  simp only [seq, h]
theorem seq_exc {a b : Stmt ω σ} {fuel : Nat} {env env' : σ} {w w' : World ω} {c : PyIO.ExcClass}
    (h : a fuel env w = .exc c env' w') : seq a b fuel env w = .exc c env' w' := by
  simp only [seq, h]
theorem seq_ret {a b : Stmt ω σ} {fuel : Nat} {env : σ} {w w' : World ω} {v : Val}
    (h : a fuel env w = .ret v w') : seq a b fuel env w = .ret v w' := by
  simp only [seq, h]

theorem seq_assoc (a b c : Stmt ω σ) : seq (seq a b) c = seq a (seq b c) := by
  funext fuel env w
  unfold seq
  cases a fuel env w <;> rfl

theorem assign_of {set : σ → Val → σ} {e : Expr ω σ} {fuel : Nat} {env : σ} {w w' : World ω} {v : Val}
    (h : e fuel env w = (.ok v, w')) : assign set e fuel env w = .norm (set env v) w' := by
  simp only [assign, h]
theorem assign_exc {set : σ → Val → σ} {e : Expr ω σ} {fuel : Nat} {env : σ} {w w' : World ω} {c : PyIO.ExcClass}
    (h : e fuel env w = (.exc c, w')) : assign set e fuel env w = .exc c env w' := by
  simp only [assign, h]
theorem setattr_of {set : ω → Val → ω} {e : Expr ω σ} {fuel : Nat} {env : σ} {w w' : World ω} {v : Val}
    (h : e fuel env w = (.ok v, w')) : setattr set e fuel env w = .norm env { w' with obj := set w'.obj v } := by
  simp only [setattr, h]
theorem setattr_exc {set : ω → Val → ω} {e : Expr ω σ} {fuel : Nat} {env : σ} {w w' : World ω} {c : PyIO.ExcClass}
    (h : e fuel env w = (.exc c, w')) : setattr set e fuel env w = .exc c env w' := by
  simp only [setattr, h]
theorem expr_of {e : Expr ω σ} {fuel : Nat} {env : σ} {w w' : World ω} {v : Val}
    (h : e fuel env w = (.ok v, w')) : expr e fuel env w = .norm env w' := by
  simp only [expr, h]
theorem expr_exc {e : Expr ω σ} {fuel : Nat} {env : σ} {w w' : World ω} {c : PyIO.ExcClass}
    (h : e fuel env w = (.exc c, w')) : expr e fuel env w = .exc c env w' := by
  simp only [expr, h]
theorem seq_assign_of {set : σ → Val → σ} {e : Expr ω σ} {b : Stmt ω σ} {fuel : Nat} {env : σ} {w w' : World ω}
    {v : Val} (h : e fuel env w = (.ok v, w')) : seq (assign set e) b fuel env w = b fuel (set env v) w' :=
  seq_norm (assign_of h)
theorem return_of {e : Expr ω σ} {fuel : Nat} {env : σ} {w w' : World ω} {v : Val}
    (h : e fuel env w = (.ok v, w')) : return_ e fuel env w = .ret v w' := by
  simp only [return_, h]
theorem ifte_of {c : Expr ω σ} {a b : Stmt ω σ} {fuel : Nat} {env : σ} {w w' : World ω} {v : Val}
    (h : c fuel env w = (.ok v, w')) :
    ifte c a b fuel env w = if truthy v then a fuel env w' else b fuel env w' := by
  simp only [ifte, h]
theorem ifte_pos {c : Expr ω σ} {a b : Stmt ω σ} {fuel : Nat} {env : σ} {w w' : World ω} {v : Val}
    (h : c fuel env w = (.ok v, w')) (hv : truthy v = true) : ifte c a b fuel env w = a fuel env w' := by
  rw [ifte_of h, if_pos hv]
theorem ifte_neg {c : Expr ω σ} {a b : Stmt ω σ} {fuel : Nat} {env : σ} {w w' : World ω} {v : Val}
    (h : c fuel env w = (.ok v, w')) (hv : truthy v = false) : ifte c a b fuel env w = b fuel env w' := by
  rw [ifte_of h, if_neg (by rw [hv]; exact Bool.false_ne_true)]
theorem pass_eq (fuel : Nat) (env : σ) (w : World ω) : (pass : Stmt ω σ) fuel env w = .norm env w := rfl

/-! The next three leave the world alone, so a step `rw [seq_skip (by …)]` reads environment and world off the goal. -/

theorem seq_skip {a b : Stmt ω σ} {fuel : Nat} {env : σ} {w : World ω} (h : a fuel env w = .norm env w) :
    seq a b fuel env w = b fuel env w := seq_norm h
theorem seq_env {a b : Stmt ω σ} {fuel : Nat} {env env' : σ} {w : World ω} (h : a fuel env w = .norm env' w) :
    seq a b fuel env w = b fuel env' w := seq_norm h
theorem seq_assign_pure {set : σ → Val → σ} {e : Expr ω σ} {b : Stmt ω σ} {fuel : Nat} {env : σ} {w : World ω} {v : Val}
    (h : e fuel env w = (.ok v, w)) : seq (assign set e) b fuel env w = b fuel (set env v) w :=
  seq_norm (assign_of h)

theorem forIn_of {set : σ → Val → σ} {e : Expr ω σ} {body : Stmt ω σ} {fuel : Nat} {env : σ} {w w' : World ω} {v : Val}
    {xs : List Val} (he : e fuel env w = (.ok v, w')) (hi : items v = some xs) :
    forIn set e body fuel env w = forLoop set body fuel xs env w' := by
  simp only [forIn, he, hi]
theorem forLoop_cons_norm {set : σ → Val → σ} {body : Stmt ω σ} {fuel : Nat} {env env' : σ} {w w' : World ω} {x : Val}
    {xs : List Val} (h : body fuel (set env x) w = .norm env' w') :
    forLoop set body fuel (x :: xs) env w = forLoop set body fuel xs env' w' := by
  simp only [forLoop, h]

theorem run_seq_norm {a b : Stmt ω σ} {fuel : Nat} {env env' : σ} {w w' : World ω}
    (h : a fuel env w = .norm env' w') : run (seq a b) fuel env w = run b fuel env' w' := by
  unfold run
  rw [seq_norm h]
theorem run_seq_assign_ok {set : σ → Val → σ} {e : Expr ω σ} {rest : Stmt ω σ} {fuel : Nat} {env : σ} {w : World ω}
    {v : Val} (h : e fuel env = ok v) : run (seq (assign set e) rest) fuel env w = run rest fuel (set env v) w :=
  run_seq_norm (assign_of (by rw [h]; rfl))
theorem run_exc {s : Stmt ω σ} {fuel : Nat} {env env' : σ} {w w' : World ω} {c : PyIO.ExcClass}
    (h : s fuel env w = .exc c env' w') : run s fuel env w = .exc c w' := by
  unfold run; rw [h]
theorem run_ret {s : Stmt ω σ} {fuel : Nat} {env : σ} {w w' : World ω} {v : Val}
    (h : s fuel env w = .ret v w') : run s fuel env w = .val v w' := by
  unfold run; rw [h]

theorem seq_ifte (c : Expr ω σ) (a b rest : Stmt ω σ) :
    seq (ifte c a b) rest = ifte c (seq a rest) (seq b rest) := by
  funext fuel env w
  unfold seq ifte
  rcases c fuel env w with ⟨res, w'⟩
  cases res with
  | ok v => cases h : truthy v <;> simp only [h, Bool.false_eq_true, ↓reduceIte]
  | _ => rfl

theorem run_seq_return (e : Expr ω σ) (rest : Stmt ω σ) (fuel : Nat) (env : σ) (w : World ω) :
    run (seq (return_ e) rest) fuel env w = run (return_ e) fuel env w := by
  unfold run seq return_
  rcases e fuel env w with ⟨res, w'⟩
  cases res <;> rfl

theorem run_ifte_of {c : Expr ω σ} {a b : Stmt ω σ} {fuel : Nat} {env : σ} {w w' : World ω} {v : Val}
    (hc : c fuel env w = (.ok v, w')) :
    run (ifte c a b) fuel env w = if truthy v = true then run a fuel env w' else run b fuel env w' := by
  unfold run ifte
  rw [hc]
  cases h : truthy v <;> simp only [h, Bool.false_eq_true, ↓reduceIte]

theorem run_ifte {c : Expr ω σ} {a b : Stmt ω σ} {fuel : Nat} {env : σ} {p : Bool}
    (hc : c fuel env = ok (.bool p)) (w : World ω) :
    run (ifte c a b) fuel env w = if p = true then run a fuel env w else run b fuel env w :=
  run_ifte_of (congrFun hc w)

end

theorem drop_min {α : Type} (l : List α) (i n : Nat) (h : l.length ≤ n) : l.drop (min i n) = l.drop i := by
  by_cases hi : i ≤ n
  · rw [Nat.min_eq_left hi]
  · rw [Nat.min_eq_right (by omega), List.drop_eq_nil_of_le h, List.drop_eq_nil_of_le (by omega)]

theorem sliceBound_nat (len d k : Nat) : sliceBound len d (.int k) = some (min k len) := by
  simp only [sliceBound, intOf, Int.natCast_nonneg, ↓reduceIte, Int.toNat_natCast]

/-- `s[i:hi]` with `i ≥ 0`: clipping `i` to the length changes nothing -/
theorem slice_str (s : List Char) (i h : Nat) (hi : Val) (hb : sliceBound s.length s.length hi = some h) :
    op_slice (.str s) (.int i) hi = .ok (.str ((s.take h).drop i)) := by
  simp only [op_slice, hb, sliceBound_nat, sliceList, drop_min _ _ _ (List.length_take_le' ..)]

/-- `s[n:]` -/
theorem slice_from (s : List Char) (n : Nat) : op_slice (.str s) (.int n) .none = .ok (.str (s.drop n)) := by
  rw [slice_str s n _ .none rfl, List.take_length]

/-! ## where a statement stands: the rest of a method as a stack of frames

`plug fuel fs fl` is what a method returns when one of its statements has ended with `fl` and `fs` is what encloses
that statement, innermost first.  `run` is `plug … []`; `seq`, `tryExcept` and the loops push a frame.  A proof about a
method body can so follow the body statement by statement, inside `try` blocks and loop bodies as well, always looking
at a goal about `plug`. -/

section
variable {ω σ : Type}

/-- what encloses a point of a method body -/
inductive Frame (ω σ : Type) where
  /-- the statements after it in the block -/
  | seq (b : Stmt ω σ)
  /-- the handlers of the `try` it is in -/
  | catch_ (hs : List (Handler ω σ))
  /-- the `while` whose body it is in, with the passes left -/
  | loop (c : Expr ω σ) (body : Stmt ω σ) (n : Nat)
  /-- the `for` whose body it is in, with the items left -/
  | for_ (set : σ → Val → σ) (body : Stmt ω σ) (xs : List Val)

/-- what the rest of the method makes of the way a statement ended -/
def plug (fuel : Nat) : List (Frame ω σ) → Flow ω σ → Out ω
  | [], .norm _ w => .val .none w
  | [], .ret v w => .val v w
  | [], .exc c _ w => .exc c w
  | [], .brk _ w => .val .none w
  | [], .cont _ w => .val .none w
  | [], .fuelOut => .fuelOut
  | .seq b :: fs, .norm env w => plug fuel fs (b fuel env w)
  | .seq _ :: fs, r => plug fuel fs r
  | .catch_ hs :: fs, .exc e env w => plug fuel fs (dispatch hs e fuel env w)
  | .catch_ _ :: fs, r => plug fuel fs r
  | .loop c body n :: fs, .norm env w => plug fuel fs (whileLoop c body fuel n env w)
  | .loop c body n :: fs, .cont env w => plug fuel fs (whileLoop c body fuel n env w)
  | .loop _ _ _ :: fs, .brk env w => plug fuel fs (.norm env w)
  | .loop _ _ _ :: fs, r => plug fuel fs r
  | .for_ set body xs :: fs, .norm env w => plug fuel fs (forLoop set body fuel xs env w)
  | .for_ set body xs :: fs, .cont env w => plug fuel fs (forLoop set body fuel xs env w)
  | .for_ _ _ _ :: fs, .brk env w => plug fuel fs (.norm env w)
  | .for_ _ _ _ :: fs, r => plug fuel fs r

variable (fuel : Nat) (fs : List (Frame ω σ)) (env : σ) (w : World ω)

theorem run_plug (s : Stmt ω σ) : run s fuel env w = plug fuel [] (s fuel env w) := by
  unfold run
  cases s fuel env w <;> rfl

theorem plug_seq (a b : Stmt ω σ) : plug fuel fs (seq a b fuel env w) = plug fuel (.seq b :: fs) (a fuel env w) := by
  unfold seq
  cases a fuel env w <;> rfl

theorem plug_try (body : Stmt ω σ) (hs : List (Handler ω σ)) :
    plug fuel fs (tryExcept body hs fuel env w) = plug fuel (.catch_ hs :: fs) (body fuel env w) := by
  unfold tryExcept
  cases body fuel env w <;> rfl

theorem plug_while {fuel fs env w} {c : Expr ω σ} {body : Stmt ω σ} {n : Nat} {w' : World ω} {v : Val}
    (h : c fuel env w = (.ok v, w')) :
    plug fuel fs (whileLoop c body fuel (n + 1) env w)
      = if truthy v then plug fuel (.loop c body n :: fs) (body fuel env w') else plug fuel fs (.norm env w') := by
  unfold whileLoop
  simp only [h]
  split
  · cases body fuel env w' <;> rfl
  · rfl

theorem plug_for (set : σ → Val → σ) (body : Stmt ω σ) (x : Val) (xs : List Val) :
    plug fuel fs (forLoop set body fuel (x :: xs) env w) = plug fuel (.for_ set body xs :: fs) (body fuel (set env x) w) := by
  unfold forLoop
  cases body fuel (set env x) w <;> rfl

theorem plug_ret (v : Val) : ∀ fs : List (Frame ω σ), plug fuel fs (.ret v w) = .val v w
  | [] => rfl
  | .seq _ :: fs | .catch_ _ :: fs | .loop _ _ _ :: fs | .for_ _ _ _ :: fs => plug_ret v fs

def noCatch : List (Frame ω σ) → Bool
  | [] => true
  | .catch_ _ :: _ => false
  | _ :: fs => noCatch fs

/-- where no `try` encloses the point, an exception leaves the method -/
theorem plug_exc (c : PyIO.ExcClass) : ∀ fs : List (Frame ω σ), noCatch fs = true → plug fuel fs (.exc c env w) = .exc c w
  | [], _ => rfl
  | .catch_ _ :: _, h => nomatch h
  | .seq _ :: fs, h | .loop _ _ _ :: fs, h | .for_ _ _ _ :: fs, h => plug_exc c fs h

/-- a statement that evaluates an expression and goes on with what it gave: `assign`, `expr`, `return_`, `setattr`,
`ifte` are of this form, so a fact about an effect (a method call, a port operation) is stated once, for `onRes` -/
def onRes (env : σ) (F : Val → World ω → Flow ω σ) : Res × World ω → Flow ω σ
  | (.ok v, w') => F v w'
  | (.exc c, w') => .exc c env w'
  | (.fuelOut, _) => .fuelOut

variable (e : Expr ω σ)

theorem assign_onRes (set : σ → Val → σ) :
    assign set e fuel env w = onRes env (fun v w' => .norm (set env v) w') (e fuel env w) := by
  unfold assign onRes; rfl
theorem expr_onRes : expr e fuel env w = onRes env (fun _ w' => .norm env w') (e fuel env w) := by
  unfold expr onRes; rfl
theorem return_onRes : return_ e fuel env w = onRes env (fun v w' => .ret v w') (e fuel env w) := by
  unfold return_ onRes; rfl
theorem ifte_onRes (a b : Stmt ω σ) :
    ifte e a b fuel env w = onRes env (fun v w' => if truthy v then a fuel env w' else b fuel env w') (e fuel env w) := by
  unfold ifte onRes; rfl
theorem setattr_onRes (set : ω → Val → ω) :
    setattr set e fuel env w = onRes env (fun v w' => .norm env { w' with obj := set w'.obj v }) (e fuel env w) := by
  unfold setattr onRes; rfl

theorem onRes_not (F : Val → World ω → Flow ω σ) (a : Eff ω) :
    onRes env F (not_ a w) = onRes env (fun v => F (.bool (!truthy v))) (a w) := by
  unfold not_ bind onRes
  rcases a w with ⟨r, w'⟩
  cases r <;> rfl

end

theorem truthy_str (s : Str) : truthy (.str s) = !s.isEmpty := rfl
theorem truthy_bool (b : Bool) : truthy (.bool b) = b := rfl

theorem b_max2_int (a b : Int) : b_max2 (.int a) (.int b) = .ok (.int (max a b)) := by
  simp only [b_max2, ltVal, intOf]
  by_cases h : a < b
  · simp [h, Int.max_eq_right (Int.le_of_lt h)]
  · simp [h, Int.max_eq_left (Int.not_lt.mp h)]
theorem b_min2_int (a b : Int) : b_min2 (.int a) (.int b) = .ok (.int (min a b)) := by
  simp only [b_min2, ltVal, intOf]
  by_cases h : b < a
  · simp [h, Int.min_eq_right (Int.le_of_lt h)]
  · simp [h, Int.min_eq_left (Int.not_lt.mp h)]

theorem strOf_ofInt (n : Int) : strOf (.int n) = Ebb3.showInt n := rfl
theorem showInt_zero : Ebb3.showInt 0 = ['0'] := by decide
theorem showInt_one : Ebb3.showInt 1 = ['1'] := by decide

theorem isAscii_append (a b : List Char) : PyIO.isAscii (a ++ b) = (PyIO.isAscii a && PyIO.isAscii b) :=
  List.all_append
theorem isAscii_append_of {a b : List Char} (ha : PyIO.isAscii a = true) (hb : PyIO.isAscii b = true) :
    PyIO.isAscii (a ++ b) = true := by
  rw [isAscii_append, ha, hb]; rfl

theorem isAscii_of_digits (l : List Char) (h : ∀ c ∈ l, c.isDigit = true) : PyIO.isAscii l = true := by
  refine List.all_eq_true.mpr fun c hc => decide_eq_true ?_
  have := h c hc
  simp only [Char.isDigit, Bool.and_eq_true, decide_eq_true_eq] at this
  have h2 : c.val.toNat ≤ 57 := this.2
  show c.val.toNat < 128
  omega

theorem isAscii_natRepr (n : Nat) : PyIO.isAscii (toString n).toList = true :=
  isAscii_of_digits _ fun _ hc =>
    Nat.isDigit_of_mem_toDigits (by decide) (by decide) (Nat.toList_repr (n := n) ▸ hc)

theorem isAscii_showInt (z : Int) : PyIO.isAscii (Ebb3.showInt z) = true := by
  unfold Ebb3.showInt
  cases z with
  | ofNat n => exact isAscii_natRepr n
  | negSucc n =>
    have : (toString (Int.negSucc n)).toList = '-' :: (toString (n + 1)).toList := by
      show (Int.repr (Int.negSucc n)).toList = _
      simp [Int.repr, String.toList_append]
    rw [this]
    have h := isAscii_natRepr (n + 1)
    unfold PyIO.isAscii at h ⊢
    simp only [List.all_cons, h, Bool.and_true]
    decide

end PyObj
end Plotink
