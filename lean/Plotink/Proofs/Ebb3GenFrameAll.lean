import Plotink.Proofs.Ebb3GenFrame
import Plotink.Gen.EBB3_find_first
import Plotink.Gen.EBB3_record_error
import Plotink.Gen.EBB3__get_port_name
import Plotink.Gen.EBB3_disconnect
import Plotink.Gen.EBB3_bootload
import Plotink.Gen.EBB3_command
import Plotink.Gen.EBB3_parse_version
import Plotink.Gen.EBB3_min_version
import Plotink.Gen.EBB3_query
import Plotink.Gen.EBB3_query_nickname
import Plotink.Gen.EBB3_connect
import Plotink.Gen.EBB3_query_statusbyte
import Plotink.Gen.EBB3_reboot
import Plotink.Gen.EBB3_var_read
import Plotink.Gen.EBB3_var_read_int32
import Plotink.Gen.EBB3_var_write
import Plotink.Gen.EBB3_var_write_int32
import Plotink.Gen.EBB3_write_nickname
import Plotink.Gen.EBBMotionWrap_abs_move
import Plotink.Gen.EBBMotionWrap_clear_accumulators
import Plotink.Gen.EBBMotionWrap_clear_steps
import Plotink.Gen.EBBMotionWrap_dio_b_config
import Plotink.Gen.EBBMotionWrap_dio_b_read
import Plotink.Gen.EBBMotionWrap_dio_b_set
import Plotink.Gen.EBBMotionWrap_timed_pause
import Plotink.Gen.EBBMotionWrap_xy_move
import Plotink.Gen.EBBMotionWrap_motors_disable
import Plotink.Gen.EBBMotionWrap_motors_query_enabled
import Plotink.Gen.EBBMotionWrap_motors_enable
import Plotink.Gen.EBBMotionWrap_query_steps
import Plotink.Gen.EBBMotionWrap_pen_lower
import Plotink.Gen.EBBMotionWrap_pen_raise
import Plotink.Gen.EBBMotionWrap_pen_pos_down
import Plotink.Gen.EBBMotionWrap_pen_pos_up
import Plotink.Gen.EBBMotionWrap_pen_rate_down
import Plotink.Gen.EBBMotionWrap_pen_rate_up
import Plotink.Gen.EBBMotionWrap_servo_timeout
import Plotink.Gen.EBBMotionWrap_query_voltage
import Plotink.Gen.EBBMotionWrap_query_current

/-! # The frame property (`Ebb3GenFrame`) of every regenerated method of `EBB3` / `EBBMotionWrap`

One lemma per generated method, in call order; each unfolds the method's generated definitions (outermost first) and
walks the term with `fr_walk`; each lemma joins the set `fr`, for the methods that call this one.  They are stated with
`KeepsM frRel True`, the form in which the walk meets a called method; `frM_iff` turns them into `FrM`. -/

namespace Plotink
namespace Ebb3Gen
open PyObj Gen

@[fr ↓]
theorem fr_EBB3_find_first (fuel : Nat) : KeepsM frRel True (EBB3_find_first fuel) := by
  unfold EBB3_find_first EBB3_find_first_main EBB3_find_first_if2 EBB3_find_first_for2 EBB3_find_first_fbody2
    EBB3_find_first_if3 EBB3_find_first_for1 EBB3_find_first_fbody1 EBB3_find_first_if1 EBB3_find_first_handlers1
    EBB3_find_first_try1
  fr_walk

@[fr ↓]
theorem fr_EBB3_record_error (fuel : Nat) (message : Val) : KeepsM frRel True (EBB3_record_error fuel message) := by
  unfold EBB3_record_error EBB3_record_error_main EBB3_record_error_if1
  fr_walk

@[fr ↓]
theorem fr_EBB3__get_port_name (fuel : Nat) (given_name : Val) : KeepsM frRel True (EBB3__get_port_name fuel given_name) := by
  unfold EBB3__get_port_name EBB3__get_port_name_main EBB3__get_port_name_if1 EBB3__get_port_name_if3
    EBB3__get_port_name_if2
  fr_walk

@[fr ↓]
theorem fr_EBB3_disconnect (fuel : Nat) : KeepsM frRel True (EBB3_disconnect fuel) := by
  unfold EBB3_disconnect EBB3_disconnect_main EBB3_disconnect_if1 EBB3_disconnect_handlers1 EBB3_disconnect_try1
  fr_walk

@[fr ↓]
theorem fr_EBB3_bootload (fuel : Nat) : KeepsM frRel True (EBB3_bootload fuel) := by
  unfold EBB3_bootload EBB3_bootload_main EBB3_bootload_handlers1 EBB3_bootload_try1 EBB3_bootload_if1
  fr_walk

@[fr ↓]
theorem fr_EBB3_command (fuel : Nat) (cmd : Val) : KeepsM frRel True (EBB3_command fuel cmd) := by
  unfold EBB3_command EBB3_command_main EBB3_command_if7 EBB3_command_handlers1 EBB3_command_try1 EBB3_command_if6
    EBB3_command_if4 EBB3_command_if5 EBB3_command_loop1 EBB3_command_body1 EBB3_command_test1 EBB3_command_if2
    EBB3_command_if3 EBB3_command_if1
  fr_walk

@[fr ↓]
theorem fr_EBB3_parse_version (fuel : Nat) (ebb_version_string : Val) : KeepsM frRel True (EBB3_parse_version fuel ebb_version_string) := by
  unfold EBB3_parse_version EBB3_parse_version_main EBB3_parse_version_if1
  fr_walk

@[fr ↓]
theorem fr_EBB3_min_version (fuel : Nat) (version_string : Val) : KeepsM frRel True (EBB3_min_version fuel version_string) := by
  unfold EBB3_min_version EBB3_min_version_main EBB3_min_version_if1 EBB3_min_version_handlers1
    EBB3_min_version_try1
  fr_walk

@[fr ↓]
theorem fr_EBB3_query (fuel : Nat) (qry : Val) : KeepsM frRel True (EBB3_query fuel qry) := by
  unfold EBB3_query EBB3_query_main EBB3_query_if7 EBB3_query_if8 EBB3_query_if5 EBB3_query_if6 EBB3_query_handlers1
    EBB3_query_try1 EBB3_query_if4 EBB3_query_loop1 EBB3_query_body1 EBB3_query_test1 EBB3_query_if2 EBB3_query_if3
    EBB3_query_if1
  fr_walk

@[fr ↓]
theorem fr_EBB3_query_nickname (fuel : Nat) : KeepsM frRel True (EBB3_query_nickname fuel) := by
  unfold EBB3_query_nickname EBB3_query_nickname_main EBB3_query_nickname_if2 EBB3_query_nickname_if3
    EBB3_query_nickname_if1
  fr_walk

@[fr ↓]
theorem fr_EBB3_connect (fuel : Nat) (given_name : Val) (caller : Val) : KeepsM frRel True (EBB3_connect fuel given_name caller) := by
  unfold EBB3_connect EBB3_connect_main EBB3_connect_if10 EBB3_connect_if9 EBB3_connect_if8 EBB3_connect_handlers1
    EBB3_connect_try1 EBB3_connect_if5 EBB3_connect_if6 EBB3_connect_if7 EBB3_connect_if3 EBB3_connect_if4
    EBB3_connect_if2 EBB3_connect_if1
  fr_walk

@[fr ↓]
theorem fr_EBB3_query_statusbyte (fuel : Nat) : KeepsM frRel True (EBB3_query_statusbyte fuel) := by
  unfold EBB3_query_statusbyte EBB3_query_statusbyte_main EBB3_query_statusbyte_handlers2 EBB3_query_statusbyte_try2
    EBB3_query_statusbyte_if4 EBB3_query_statusbyte_handlers1 EBB3_query_statusbyte_try1 EBB3_query_statusbyte_if2
    EBB3_query_statusbyte_if3 EBB3_query_statusbyte_if1
  fr_walk

@[fr ↓]
theorem fr_EBB3_reboot (fuel : Nat) : KeepsM frRel True (EBB3_reboot fuel) := by
  unfold EBB3_reboot EBB3_reboot_main EBB3_reboot_handlers1 EBB3_reboot_try1 EBB3_reboot_if1
  fr_walk

@[fr ↓]
theorem fr_EBB3_var_read (fuel : Nat) (index : Val) : KeepsM frRel True (EBB3_var_read fuel index) := by
  unfold EBB3_var_read EBB3_var_read_main EBB3_var_read_if2 EBB3_var_read_if1
  fr_walk

@[fr ↓]
theorem fr_EBB3_var_read_int32 (fuel : Nat) (start_index : Val) : KeepsM frRel True (EBB3_var_read_int32 fuel start_index) := by
  unfold EBB3_var_read_int32 EBB3_var_read_int32_main EBB3_var_read_int32_if2 EBB3_var_read_int32_for1
    EBB3_var_read_int32_fbody1 EBB3_var_read_int32_if1
  fr_walk

@[fr ↓]
theorem fr_EBB3_var_write (fuel : Nat) (value : Val) (index : Val) : KeepsM frRel True (EBB3_var_write fuel value index) := by
  unfold EBB3_var_write EBB3_var_write_main EBB3_var_write_if2 EBB3_var_write_if1
  fr_walk

@[fr ↓]
theorem fr_EBB3_var_write_int32 (fuel : Nat) (value : Val) (start_index : Val) : KeepsM frRel True (EBB3_var_write_int32 fuel value start_index) := by
  unfold EBB3_var_write_int32 EBB3_var_write_int32_main EBB3_var_write_int32_if2 EBB3_var_write_int32_for1
    EBB3_var_write_int32_fbody1 EBB3_var_write_int32_if1
  fr_walk

@[fr ↓]
theorem fr_EBB3_write_nickname (fuel : Nat) (nickname : Val) : KeepsM frRel True (EBB3_write_nickname fuel nickname) := by
  unfold EBB3_write_nickname EBB3_write_nickname_main EBB3_write_nickname_handlers1 EBB3_write_nickname_try1
    EBB3_write_nickname_if3 EBB3_write_nickname_if2 EBB3_write_nickname_if1
  fr_walk

@[fr ↓]
theorem fr_EBBMotionWrap_abs_move (fuel : Nat) (rate : Val) (position1 : Val) (position2 : Val) : KeepsM frRel True (EBBMotionWrap_abs_move fuel rate position1 position2) := by
  unfold EBBMotionWrap_abs_move EBBMotionWrap_abs_move_main EBBMotionWrap_abs_move_if2 EBBMotionWrap_abs_move_if1
  fr_walk

@[fr ↓]
theorem fr_EBBMotionWrap_clear_accumulators (fuel : Nat) : KeepsM frRel True (EBBMotionWrap_clear_accumulators fuel) := by
  unfold EBBMotionWrap_clear_accumulators EBBMotionWrap_clear_accumulators_main EBBMotionWrap_clear_accumulators_if1
  fr_walk

@[fr ↓]
theorem fr_EBBMotionWrap_clear_steps (fuel : Nat) : KeepsM frRel True (EBBMotionWrap_clear_steps fuel) := by
  unfold EBBMotionWrap_clear_steps EBBMotionWrap_clear_steps_main EBBMotionWrap_clear_steps_if1
  fr_walk

@[fr ↓]
theorem fr_EBBMotionWrap_dio_b_config (fuel : Nat) (pin : Val) (state : Val) (direction : Val) : KeepsM frRel True (EBBMotionWrap_dio_b_config fuel pin state direction) := by
  unfold EBBMotionWrap_dio_b_config EBBMotionWrap_dio_b_config_main EBBMotionWrap_dio_b_config_if1
  fr_walk

@[fr ↓]
theorem fr_EBBMotionWrap_dio_b_read (fuel : Nat) (pin : Val) : KeepsM frRel True (EBBMotionWrap_dio_b_read fuel pin) := by
  unfold EBBMotionWrap_dio_b_read EBBMotionWrap_dio_b_read_main EBBMotionWrap_dio_b_read_if2
    EBBMotionWrap_dio_b_read_if1
  fr_walk

@[fr ↓]
theorem fr_EBBMotionWrap_dio_b_set (fuel : Nat) (pin : Val) (state : Val) : KeepsM frRel True (EBBMotionWrap_dio_b_set fuel pin state) := by
  unfold EBBMotionWrap_dio_b_set EBBMotionWrap_dio_b_set_main EBBMotionWrap_dio_b_set_if1
  fr_walk

@[fr ↓]
theorem fr_EBBMotionWrap_timed_pause (fuel : Nat) (pause_time : Val) : KeepsM frRel True (EBBMotionWrap_timed_pause fuel pause_time) := by
  unfold EBBMotionWrap_timed_pause EBBMotionWrap_timed_pause_main EBBMotionWrap_timed_pause_loop1
    EBBMotionWrap_timed_pause_body1 EBBMotionWrap_timed_pause_test1 EBBMotionWrap_timed_pause_if2
    EBBMotionWrap_timed_pause_if1
  fr_walk

@[fr ↓]
theorem fr_EBBMotionWrap_xy_move (fuel : Nat) (delta_x : Val) (delta_y : Val) (duration : Val) : KeepsM frRel True (EBBMotionWrap_xy_move fuel delta_x delta_y duration) := by
  unfold EBBMotionWrap_xy_move EBBMotionWrap_xy_move_main EBBMotionWrap_xy_move_if1
  fr_walk

@[fr ↓]
theorem fr_EBBMotionWrap_motors_disable (fuel : Nat) : KeepsM frRel True (EBBMotionWrap_motors_disable fuel) := by
  unfold EBBMotionWrap_motors_disable EBBMotionWrap_motors_disable_main EBBMotionWrap_motors_disable_if1
  fr_walk

@[fr ↓]
theorem fr_EBBMotionWrap_motors_query_enabled (fuel : Nat) : KeepsM frRel True (EBBMotionWrap_motors_query_enabled fuel) := by
  unfold EBBMotionWrap_motors_query_enabled EBBMotionWrap_motors_query_enabled_main
    EBBMotionWrap_motors_query_enabled_if2 EBBMotionWrap_motors_query_enabled_if1
  fr_walk

@[fr ↓]
theorem fr_EBBMotionWrap_motors_enable (fuel : Nat) (resolution_1 : Val) (resolution_2 : Val) : KeepsM frRel True (EBBMotionWrap_motors_enable fuel resolution_1 resolution_2) := by
  unfold EBBMotionWrap_motors_enable EBBMotionWrap_motors_enable_main EBBMotionWrap_motors_enable_if3
    EBBMotionWrap_motors_enable_if7 EBBMotionWrap_motors_enable_if6 EBBMotionWrap_motors_enable_if5
    EBBMotionWrap_motors_enable_if4 EBBMotionWrap_motors_enable_if2 EBBMotionWrap_motors_enable_if1
  fr_walk

@[fr ↓]
theorem fr_EBBMotionWrap_query_steps (fuel : Nat) : KeepsM frRel True (EBBMotionWrap_query_steps fuel) := by
  unfold EBBMotionWrap_query_steps EBBMotionWrap_query_steps_main EBBMotionWrap_query_steps_if2
    EBBMotionWrap_query_steps_if1
  fr_walk

@[fr ↓]
theorem fr_EBBMotionWrap_pen_lower (fuel : Nat) (pen_delay : Val) (pin : Val) : KeepsM frRel True (EBBMotionWrap_pen_lower fuel pen_delay pin) := by
  unfold EBBMotionWrap_pen_lower EBBMotionWrap_pen_lower_main EBBMotionWrap_pen_lower_if2
    EBBMotionWrap_pen_lower_if1
  fr_walk

@[fr ↓]
theorem fr_EBBMotionWrap_pen_raise (fuel : Nat) (pen_delay : Val) (pin : Val) : KeepsM frRel True (EBBMotionWrap_pen_raise fuel pen_delay pin) := by
  unfold EBBMotionWrap_pen_raise EBBMotionWrap_pen_raise_main EBBMotionWrap_pen_raise_if2
    EBBMotionWrap_pen_raise_if1
  fr_walk

@[fr ↓]
theorem fr_EBBMotionWrap_pen_pos_down (fuel : Nat) (servo_max : Val) : KeepsM frRel True (EBBMotionWrap_pen_pos_down fuel servo_max) := by
  unfold EBBMotionWrap_pen_pos_down EBBMotionWrap_pen_pos_down_main EBBMotionWrap_pen_pos_down_if1
  fr_walk

@[fr ↓]
theorem fr_EBBMotionWrap_pen_pos_up (fuel : Nat) (servo_min : Val) : KeepsM frRel True (EBBMotionWrap_pen_pos_up fuel servo_min) := by
  unfold EBBMotionWrap_pen_pos_up EBBMotionWrap_pen_pos_up_main EBBMotionWrap_pen_pos_up_if1
  fr_walk

@[fr ↓]
theorem fr_EBBMotionWrap_pen_rate_down (fuel : Nat) (pen_down_rate : Val) : KeepsM frRel True (EBBMotionWrap_pen_rate_down fuel pen_down_rate) := by
  unfold EBBMotionWrap_pen_rate_down EBBMotionWrap_pen_rate_down_main EBBMotionWrap_pen_rate_down_if1
  fr_walk

@[fr ↓]
theorem fr_EBBMotionWrap_pen_rate_up (fuel : Nat) (pen_up_rate : Val) : KeepsM frRel True (EBBMotionWrap_pen_rate_up fuel pen_up_rate) := by
  unfold EBBMotionWrap_pen_rate_up EBBMotionWrap_pen_rate_up_main EBBMotionWrap_pen_rate_up_if1
  fr_walk

@[fr ↓]
theorem fr_EBBMotionWrap_servo_timeout (fuel : Nat) (timeout_ms : Val) (state : Val) : KeepsM frRel True (EBBMotionWrap_servo_timeout fuel timeout_ms state) := by
  unfold EBBMotionWrap_servo_timeout EBBMotionWrap_servo_timeout_main EBBMotionWrap_servo_timeout_if2
    EBBMotionWrap_servo_timeout_if1
  fr_walk

@[fr ↓]
theorem fr_EBBMotionWrap_query_voltage (fuel : Nat) (threshold : Val) : KeepsM frRel True (EBBMotionWrap_query_voltage fuel threshold) := by
  unfold EBBMotionWrap_query_voltage EBBMotionWrap_query_voltage_main EBBMotionWrap_query_voltage_if5
    EBBMotionWrap_query_voltage_if4 EBBMotionWrap_query_voltage_if3 EBBMotionWrap_query_voltage_if2
    EBBMotionWrap_query_voltage_if1
  fr_walk

@[fr ↓]
theorem fr_EBBMotionWrap_query_current (fuel : Nat) : KeepsM frRel True (EBBMotionWrap_query_current fuel) := by
  unfold EBBMotionWrap_query_current EBBMotionWrap_query_current_main EBBMotionWrap_query_current_if3
    EBBMotionWrap_query_current_if2 EBBMotionWrap_query_current_if1
  fr_walk

end Ebb3Gen
end Plotink
