import Plotink.Proofs.C06GenBase
import Plotink.Proofs.C06GenEbb3Model
import Plotink.Proofs.Ebb3Gen
import Plotink.Proofs.Ebb3Str
import Plotink.Model.Ebb3Params
/-! # C06 over the regenerated code, the EBB3 layer (`EBBMotionWrap`, `EBB3`): what a method writes, on the model

The request line `⟨n, l⟩` as the text an EBB3 method hands to `command` / `query` (`textChars`): the framing leaves it alone
and `Cmd.wire` is that text with the carriage return appended.  `Wrote3`: what a call of a regenerated method added to
the write log.

Then the write log of `Ebb3.run P scriptDev c` on a ready object, as wire texts of `C06.Cmd`s: for a method that is one
request followed by a rest that transmits nothing (`sends_request`: the one-command methods, the queries), for the
direct writes (`query_statusbyte`, `reboot`, `bootload`) and, under the acknowledging-script hypothesis, for the methods
that transmit several requests (`dio_b_config`, `timed_pause`, `var_write_int32`, `var_read_int32`, `motors_enable`). -/
namespace Plotink
namespace C06Gen

section
open PyObj Gen Ebb3Gen

theorem noSpace_showInt (z : Int) : ∀ c ∈ Ebb3.showInt z, Ebb3.isSpace c = false := by
  intro c hc
  have hc' : c ∈ (Int.repr z).toList := hc
  rcases C06.numChar_of_mem_repr hc' with h | rfl
  · exact Ebb3.isSpace_eq ▸ PyFloat.not_space_of_isDigit h
  · decide

theorem noSpace_argChars : ∀ (l : List Int), ∀ c ∈ argChars l, Ebb3.isSpace c = false
  | [], c, hc => by cases hc
  | a :: r, c, hc => by
    simp only [argChars, List.mem_cons, List.mem_append] at hc
    rcases hc with rfl | hc | hc
    · decide
    · exact noSpace_showInt a c hc
    · exact noSpace_argChars r c hc

/-- the text an EBB3 method hands to `command` for the request line `⟨n, l⟩` (no terminator) -/
def textChars (n : String) (l : List Int) : List Char := n.toList ++ argChars l

theorem textChars_wire (n : String) (l : List Int) : textChars n l ++ ['\r'] = (C06.Cmd.wire ⟨n, l⟩).toList := by
  rw [wire_toList, textChars, List.append_assoc]

def IsName (n : String) : Prop := n.toList ≠ [] ∧ ∀ c ∈ n.toList, Ebb3.isSpace c = false

instance (n : String) : Decidable (IsName n) := inferInstanceAs (Decidable (_ ∧ _))

theorem plain_textChars (n : String) (l : List Int) (hn : IsName n) : Ebb3.Plain (textChars n l) := by
  refine ⟨fun h => ?_, Ebb3.strip_id _ fun c hc => ?_⟩
  · simp only [textChars, List.append_eq_nil_iff] at h
    exact hn.1 h.1
  · simp only [textChars, List.mem_append] at hc
    rcases hc with hc | hc
    · exact hn.2 c hc
    · exact noSpace_argChars l c hc

abbrev outWorld3 := @LegacyGen.outWorld EBB3_Obj

/-- the call ended (value or escaping exception, never out of fuel) and the write log grew by exactly the wire texts
of `cs` -/
def Wrote3 (o : Out EBB3_Obj) (w : World EBB3_Obj) (cs : Option (List C06.Cmd)) : Prop :=
  ∃ w', outWorld3 o = some w' ∧ w'.port.log = w.port.log ++ (cs.getD []).map (fun c => c.wire.toList)

/-- is the object connected (`self.port is not None`) -/
def connected (w : World EBB3_Obj) : Bool := absPort w.obj.port

theorem blocked_of_err_none (w : World EBB3_Obj) (he : w.obj.err = .none) : (absSt w.obj).blocked = !connected w := by
  simp [Ebb3.St.blocked, absSt, connected, he, absOpt]

end

open Ebb3 Ebb3.M Ebb3.Spec

theorem argChars_cons (a : Int) (l : List Int) : argChars (a :: l) = ',' :: commaInts (a :: l) := by
  induction l generalizing a with
  | nil => simp [argChars, commaInts]
  | cons b r ih =>
    rw [argChars, ih b]
    simp [commaInts]

theorem lit_QE : "QE".toList = ['Q', 'E'] := by decide
theorem lit_QT : "QT".toList = ['Q', 'T'] := by decide

theorem textChars_nil (n : String) : textChars n [] = n.toList := List.append_nil _

/-- The model spells a request `"NAME,".toList ++ commaInts args`, which evaluates to the right-hand side. -/
theorem textChars_cons (n : String) (a : Int) (l : List Int) :
    textChars n (a :: l) = n.toList ++ ',' :: commaInts (a :: l) := by
  rw [textChars, argChars_cons]

/-- … with the literal `"NAME,"` of the model on the left: `h` is `String.toList_ofList`, which compares the two
literals character by character without evaluating `String.toList`. -/
theorem textChars_lit (n nc : String) (h : nc.toList = n.toList ++ [',']) (a : Int) (l : List Int) :
    nc.toList ++ commaInts (a :: l) = textChars n (a :: l) := by
  rw [textChars_cons, h, List.append_assoc]
  rfl

theorem text_pause (d : Int) : pauseText d = textChars "SM" [d, 0, 0] := by
  have e1 : "SM,".toList = "SM".toList ++ [','] := String.toList_ofList
  have e2 : ",0,0".toList = ',' :: commaInts [0, 0] := String.toList_ofList
  rw [textChars_cons, pauseText, e1, e2]
  show "SM".toList ++ [','] ++ showInt d ++ ',' :: commaInts [0, 0] =
    "SM".toList ++ ',' :: (showInt d ++ [','] ++ commaInts [0, 0])
  simp only [List.append_assoc, List.cons_append, List.nil_append]

theorem run_open (P : Params) (c : Call) (fv : Val) (hg : (prog P scriptDev c).guard = some fv) (w : World Script) (hr : Ready w) :
    run P scriptDev c w = (prog P scriptDev c).body w :=
  Prog.run_open _ fv hg w hr.not_blocked

theorem sends_congr {α : Type} {m m' : M Script α} {w : World Script} {l : List Str} (h : m w = m' w) (hs : Sends m' w l) :
    Sends m w l := by
  unfold Sends at *; rw [h]; exact hs

/-- a method whose body is one request `x t` (`Sends.command`, `Sends.cmd_`, `Sends.query`) followed by a rest that
transmits nothing -/
theorem sends_request {α : Type} (P : Params) (c : Call) (fv : Val) (n : String) (l : List Int) (x : Str → M Script α) (t : Str)
    (f : α → M Script Val) (hx : ∀ t w, Plain t → Ready w → Sends (x t) w [t ++ ['\r']])
    (hg : (prog P scriptDev c).guard = some fv) (hb : (prog P scriptDev c).body = x t >>= f) (ht : t = textChars n l)
    (hn : IsName n) (hf : ∀ v, NoIO (f v)) (w : World Script) (hr : Ready w) :
    Sends (run P scriptDev c) w [(C06.Cmd.wire ⟨n, l⟩).toList] := by
  refine sends_congr (run_open P c fv hg w hr) ?_
  rw [← textChars_wire, hb, ht]
  exact (hx _ w (plain_textChars n l hn) hr).bind_quiet fun v => (hf v).out_eq

theorem sends_var_read (P : Params) (i : Int) (w : World Script) (hr : Ready w) :
    Sends (run P scriptDev (.var_read i)) w [(C06.Cmd.wire ⟨"QL", [i]⟩).toList] :=
  sends_request P _ .none "QL" [i] _ _ _ (Sends.query P) rfl rfl (textChars_lit "QL" "QL," String.toList_ofList i []) (by decide)
    (fun v => NoIO.bind NoIO.getSt fun st => NoIO.ite (NoIO.pure _) ((noIOSt Script).intOfVal v)) w hr

theorem sends_dio_b_read (P : Params) (p : Int) (w : World Script) (hr : Ready w) :
    Sends (run P scriptDev (.dio_b_read p)) w [(C06.Cmd.wire ⟨"PI,B", [p]⟩).toList] :=
  sends_request P _ .none "PI,B" [p] _ _ _ (Sends.query P) rfl rfl (textChars_lit "PI,B" "PI,B," String.toList_ofList p []) (by decide)
    (fun v => by cases v with | str s => exact (noIOSt Script).boolOfStr _ | _ => exact NoIO.pure _) w hr

theorem sends_query_steps (P : Params) (w : World Script) (hr : Ready w) :
    Sends (run P scriptDev .query_steps) w [(C06.Cmd.wire ⟨"QS", []⟩).toList] :=
  sends_request P _ .none "QS" [] _ _ _ (Sends.query P) rfl rfl (textChars_nil "QS").symm (by decide)
    (fun v => NoIO.bind NoIO.getSt fun st => NoIO.ite (NoIO.pure _)
      (by cases v with | str s => exact (noIOSt Script).int2 _ | _ => exact NoIO.raise _)) w hr

theorem sends_query_voltage (P : Params) (t : Option Int) (w : World Script) (hr : Ready w) :
    Sends (run P scriptDev (.query_voltage t)) w [(C06.Cmd.wire ⟨"QC", []⟩).toList] :=
  sends_request P _ .none "QC" [] _ _ _ (Sends.query P) rfl rfl (textChars_nil "QC").symm (by decide)
    (fun v => by cases v with | str s => exact (noIOSt Script).voltageDecode _ _ | _ => exact NoIO.pure _) w hr

theorem sends_query_current (P : Params) (w : World Script) (hr : Ready w) :
    Sends (run P scriptDev .query_current) w [(C06.Cmd.wire ⟨"QC", []⟩).toList] :=
  sends_request P _ (.pair .none .none) "QC" [] _ _ _ (Sends.query P) rfl rfl (textChars_nil "QC").symm (by decide)
    (fun v => by cases v with | str s => exact (noIOSt Script).currentDecode _ | _ => exact NoIO.pure _) w hr

theorem sends_motors_query_enabled (P : Params) (w : World Script) (hr : Ready w) :
    Sends (run P scriptDev .motors_query_enabled) w [(C06.Cmd.wire ⟨"QE", []⟩).toList] :=
  sends_request P _ .none "QE" [] _ _ _ (Sends.query P) rfl rfl (textChars_nil "QE").symm (by decide)
    (fun v => by cases v with | str s => exact (noIOSt Script).qeDecode _ | _ => exact NoIO.pure _) w hr

theorem sends_query_nickname (P : Params) (w : World Script) (hr : Ready w) :
    Sends (run P scriptDev .query_nickname) w [(C06.Cmd.wire ⟨"QT", []⟩).toList] :=
  sends_request P _ .none "QT" [] _ _ _ (Sends.query P) rfl rfl (textChars_nil "QT").symm (by decide)
    (fun v => by
      cases v with
      | str s => exact NoIO.bind (NoIO.ite (NoIO.pure _) (NoIO.modifySt _)) fun _ => NoIO.pure _
      | _ => exact NoIO.pure _) w hr

theorem sends_query_statusbyte (P : Params) (w : World Script) (hr : Ready w) :
    Sends (run P scriptDev .query_statusbyte) w [(C06.Cmd.wire ⟨"QG", []⟩).toList] := by
  refine sends_congr (run_open P _ .none rfl w hr) ?_
  obtain ⟨r, w1, hx, -, ho⟩ := exchange_st scriptDev 0 "QG".toList w
  rw [← textChars_wire, textChars_nil]
  show Sends (queryStatusByteBody scriptDev) w _
  rw [queryStatusByteBody_eq]
  refine Sends.bind_quiet (by unfold Sends; rw [hx]; exact ho) fun r => ?_
  cases r
  · exact (noIOSt Script).qgUsbFail.out_eq
  · exact ((noIOSt Script).qgJudge _).out_eq

theorem noIO_rawTail (b : Bool) :
    NoIO (if b then (do disconnectM; pure (Val.bool true)) else pure (Val.bool false) : M Script Val) := by
  cases b
  · exact NoIO.pure _
  · exact NoIO.bind NoIO.disconnectM fun _ => NoIO.pure _

theorem sends_reboot (P : Params) (w : World Script) (hr : Ready w) :
    Sends (run P scriptDev .reboot) w [(C06.Cmd.wire ⟨"RB", []⟩).toList] := by
  refine sends_congr (run_open P _ (.bool false) rfl w hr) ?_
  rw [show (C06.Cmd.wire ⟨"RB", []⟩).toList = "RB\r".toList by decide]
  exact (Sends.portWrite _ w).bind_quiet fun b => (noIO_rawTail b).out_eq

theorem sends_bootload (P : Params) (w : World Script) (hr : Ready w) :
    Sends (run P scriptDev .bootload) w [(C06.Cmd.wire ⟨"BL", []⟩).toList] := by
  refine sends_congr (run_open P _ (.bool false) rfl w hr) ?_
  rw [show (C06.Cmd.wire ⟨"BL", []⟩).toList = "BL\r".toList by decide]
  exact (Sends.portWrite _ w).bind_quiet fun b => (noIO_rawTail b).out_eq

/-! A body that transmits several requests is a chain `x₁ >>= fun a₁ => x₂ >>= …` whose links each make one exchange.
`sends_acked_cmd` / `sends_acked_qry` peel one link off the chain and one exchange off the acknowledging-script
hypothesis, handing the rest of both to the continuation. -/

theorem sends_acked_cmd {α β : Type} (P : Params) (t : Str) (rest : List Xch) (x : M Script α) (f : α → M Script β)
    (ls : List Str) (w : World Script) (hr : Ready w) (ha : Acked P (.cmd t :: rest) w.dev)
    (hx : ∀ w, Ready w → Answered (P.retryCmd + 1) t w.dev →
      ∃ a nr, x w = (.ok a, ⟨w.st, advance (P.retryCmd + 1) w.dev, w.out ++ [t ++ ['\r']], nr⟩))
    (hf : ∀ a w', Ready w' → Acked P rest w'.dev → Sends (f a) w' ls) :
    Sends (x >>= f) w ((t ++ ['\r']) :: ls) := by
  obtain ⟨a, nr, e⟩ := hx w hr ha.1
  exact Sends.bind_ok e rfl (hf a _ hr ha.2)

/-- the first exchange is a query, made by `x`, whose result satisfies `ok` when the payload is `good` -/
theorem sends_acked_qry {α β : Type} (P : Params) (t : Str) (good : Str → Prop) (rest : List Xch) (x : M Script α)
    (ok : α → Prop) (f : α → M Script β) (ls : List Str) (w : World Script) (hr : Ready w)
    (ha : Acked P (.qry t good :: rest) w.dev)
    (hx : ∀ w, Ready w → Answered (P.retryQry + 1) t w.dev →
      good (stripHeader (nameOf t) (replyText (P.retryQry + 1) w.dev)) →
      ∃ a nr, ok a ∧ x w = (.ok a, ⟨w.st, advance (P.retryQry + 1) w.dev, w.out ++ [t ++ ['\r']], nr⟩))
    (hf : ∀ a w', ok a → Ready w' → Acked P rest w'.dev → Sends (f a) w' ls) :
    Sends (x >>= f) w ((t ++ ['\r']) :: ls) := by
  obtain ⟨a, nr, hok, e⟩ := hx w hr ha.1 ha.2.1
  exact Sends.bind_ok e rfl (hf a _ hok hr ha.2.2)

/-- an acknowledged `self.command(t')` with the result dropped (`t'` is the text as the model spells it) -/
theorem cmd_acked (P : Params) (t' t : Str) (ht : t' = t) (hp : Plain t) (w : World Script) (hr : Ready w)
    (ha : Answered (P.retryCmd + 1) t w.dev) :
    ∃ (a : Unit) (nr : Nat), cmd_ P scriptDev t' w = (.ok a, ⟨w.st, advance (P.retryCmd + 1) w.dev, w.out ++ [t ++ ['\r']], nr⟩) := by
  subst ht
  obtain ⟨nr, e⟩ := command_acked P _ hp w hr ha
  refine ⟨(), nr, ?_⟩
  unfold cmd_
  rw [Ebb3.bind_ok e]
  rfl

theorem runCmds_acked (P : Params) : ∀ (ts : List Str) (w : World Script), Ready w → (∀ t ∈ ts, Plain t) →
    Acked P (ts.map Xch.cmd) w.dev → Sends (runCmds P scriptDev ts) w (ts.map (· ++ ['\r']))
  | [], w, _, _, _ => Sends.of_quiet (NoIO.pure _).out_eq w
  | t :: ts, w, hr, hp, ha =>
    sends_acked_cmd P t _ _ _ _ w hr ha (cmd_acked P t t rfl (hp t List.mem_cons_self)) fun _ w' hr' ha' =>
      runCmds_acked P ts w' hr' (fun x hx => hp x (List.mem_cons_of_mem _ hx)) ha'

theorem sends_dio_b_config (P : Params) (p s d : Int) (w : World Script) (hr : Ready w)
    (ha : Acked P [.cmd (textChars "PO,B" [p, s]), .cmd (textChars "PD,B" [p, d])] w.dev) :
    Sends (run P scriptDev (.dio_b_config p s d)) w
      [(C06.Cmd.wire ⟨"PO,B", [p, s]⟩).toList, (C06.Cmd.wire ⟨"PD,B", [p, d]⟩).toList] := by
  refine sends_congr (run_open P _ .none rfl w hr) ?_
  rw [← textChars_wire, ← textChars_wire]
  exact sends_acked_cmd P _ _ _ _ _ w hr ha
    (cmd_acked P _ _ (textChars_lit "PO,B" "PO,B," String.toList_ofList p [s]) (plain_textChars _ _ (by decide))) fun _ w1 hr1 ha1 =>
    sends_acked_cmd P _ _ _ _ _ w1 hr1 ha1
      (cmd_acked P _ _ (textChars_lit "PD,B" "PD,B," String.toList_ofList p [d]) (plain_textChars _ _ (by decide))) fun _ w2 _ _ =>
      Sends.of_quiet (NoIO.pure _).out_eq w2

theorem pauseChunks_src : ∀ (m : Nat) (t : Int), pauseChunks srcParams m t = C06.ebb3PauseLoop 750 m t := by
  intro m
  induction m with
  | zero => intro t; rfl
  | succ k ih =>
    intro t
    have h1 : srcParams.pauseCmp = 750 := rfl
    have h2 : srcParams.pauseChunk = 750 := rfl
    simp only [pauseChunks, C06.ebb3PauseLoop, h1, h2, ih]

theorem pauseChunks_doc (t : Int) : pauseChunks srcParams (t.toNat + 1) t = C06.docPause t := by
  rw [pauseChunks_src, C06.ebb3PauseLoop_eq_legacy, C06.legacyPauseLoop_eq_doc _ _ (by omega)]

theorem sends_timed_pause (t : Int) (w : World Script) (hr : Ready w)
    (ha : Acked srcParams ((C06.docPause t).map (fun d => Xch.cmd (textChars "SM" [d, 0, 0]))) w.dev) :
    Sends (run srcParams scriptDev (.timed_pause t)) w
      ((C06.docPause t).map (fun d => (C06.Cmd.wire ⟨"SM", [d, 0, 0]⟩).toList)) := by
  refine sends_congr (run_open srcParams _ .none rfl w hr) ?_
  show Sends (do runCmds srcParams scriptDev ((pauseChunks srcParams (t.toNat + 1) t).map pauseText); pure Val.none) w _
  rw [pauseChunks_doc, List.map_congr_left fun d _ => text_pause d]
  have h := (runCmds_acked srcParams ((C06.docPause t).map (fun d => textChars "SM" [d, 0, 0])) w hr
    (fun x hx => by
      obtain ⟨d, _, rfl⟩ := List.mem_map.mp hx
      exact plain_textChars _ _ (by decide))
    (by rw [List.map_map]; exact ha)).bind_quiet fun _ => (NoIO.pure Val.none).out_eq
  rw [List.map_map] at h
  simpa only [Function.comp_def, textChars_wire] using h

theorem var_write_acked (P : Params) (v i : Int) (w : World Script) (hr : Ready w)
    (ha : Answered (P.retryCmd + 1) (textChars "SL" [v, i]) w.dev) :
    ∃ (a : Val) (nr : Nat), (varWriteP P scriptDev v i).run w =
      (.ok a, ⟨w.st, advance (P.retryCmd + 1) w.dev, w.out ++ [textChars "SL" [v, i] ++ ['\r']], nr⟩) := by
  obtain ⟨nr, e⟩ := command_acked P (textChars "SL" [v, i]) (plain_textChars _ _ (by decide)) w hr ha
  have ht : "SL,".toList ++ showInt v ++ [','] ++ showInt i = textChars "SL" [v, i] :=
    (congrArg (· ++ showInt v ++ [','] ++ showInt i) String.toList_ofList).trans (textChars_cons "SL" v [i]).symm
  refine ⟨.bool w.st.err.isNone, nr, ?_⟩
  unfold Prog.run varWriteP
  simp only
  rw [guardM_open _ _ _ hr.not_blocked, ht, Ebb3.bind_ok e]
  rfl

/-- `var_write_int32`: four `SL,<byte>,<index+k>`, most significant byte first, when each is acknowledged -/
theorem sends_var_write_int32 (P : Params) (v i : Int) (hv : C06.int32InRange v) (w : World Script) (hr : Ready w)
    (ha : Acked P ((C06.documented ⟨0, 0⟩ (.varWriteInt32 v i)).map (fun c => Xch.cmd (textChars c.name c.args))) w.dev) :
    Sends (run P scriptDev (.var_write_int32 v i)) w ((C06.documented ⟨0, 0⟩ (.varWriteInt32 v i)).map (fun c => c.wire.toList)) := by
  refine sends_congr (run_open P _ (.bool false) rfl w hr) ?_
  have hb : toBytes4 v = .ok ((v % 4294967296) / 16777216, ((v % 4294967296) / 65536) % 256,
      ((v % 4294967296) / 256) % 256, (v % 4294967296) % 256) := by
    unfold toBytes4
    have : -2147483648 ≤ v ∧ v < 2147483648 := ⟨hv.1, by have := hv.2; omega⟩
    simp [this]
  simp only [C06.documented, C06.int32Bytes, List.map_cons, List.map_nil, ← textChars_wire] at ha ⊢
  show Sends (varWriteInt32P P scriptDev v i).body w _
  simp only [varWriteInt32P, hb]
  refine sends_acked_cmd P _ _ _ _ _ w hr ha (var_write_acked P _ i) fun _ w1 hr1 ha1 => ?_
  refine sends_acked_cmd P _ _ _ _ _ w1 hr1 ha1 (var_write_acked P _ (i + 1)) fun _ w2 hr2 ha2 => ?_
  refine sends_acked_cmd P _ _ _ _ _ w2 hr2 ha2 (var_write_acked P _ (i + 2)) fun _ w3 hr3 ha3 => ?_
  refine sends_acked_cmd P _ _ _ _ _ w3 hr3 ha3 (var_write_acked P _ (i + 3)) fun _ w4 _ _ => ?_
  exact Sends.of_quiet (noIOSt Script).errIsNone.out_eq w4

/-- the payload of a `QL` reply is an integer literal -/
def IntPayload (s : Str) : Prop := (pyInt 10 s).isSome = true

/-- `True ∧`: the form `sends_acked_qry` asks of its link, nothing being needed of the value read -/
theorem var_read_acked (P : Params) (i : Int) (w : World Script) (hr : Ready w)
    (ha : Answered (P.retryQry + 1) (textChars "QL" [i]) w.dev)
    (hp : IntPayload (stripHeader (nameOf (textChars "QL" [i])) (replyText (P.retryQry + 1) w.dev))) :
    ∃ (a : Val) (nr : Nat), True ∧ (varReadP P scriptDev i).run w =
      (.ok a, ⟨w.st, advance (P.retryQry + 1) w.dev, w.out ++ [textChars "QL" [i] ++ ['\r']], nr⟩) := by
  obtain ⟨nr, e⟩ := query_acked P (textChars "QL" [i]) (plain_textChars _ _ (by decide)) w hr ha
  obtain ⟨z, hz⟩ := Option.isSome_iff_exists.mp hp
  have ht : "QL,".toList ++ showInt i = textChars "QL" [i] := (textChars_lit "QL" "QL," String.toList_ofList i [])
  refine ⟨.int z, nr, trivial, ?_⟩
  unfold Prog.run varReadP
  simp only
  rw [guardM_open _ _ _ hr.not_blocked, ht, Ebb3.bind_ok e]
  have herr : w.st.err.isSome = false := by rw [hr.2]; rfl
  simp only [bind_apply, getSt_apply, herr, Bool.false_eq_true, ↓reduceIte, intOfVal, hz, pure_apply]

/-- `var_read_int32`: four `QL,<index+k>`, when each is acknowledged with an integer payload -/
theorem sends_var_read_int32 (P : Params) (i : Int) (w : World Script) (hr : Ready w)
    (ha : Acked P ((C06.documented ⟨0, 0⟩ (.varReadInt32 i)).map (fun c => Xch.qry (textChars c.name c.args) IntPayload)) w.dev) :
    Sends (run P scriptDev (.var_read_int32 i)) w ((C06.documented ⟨0, 0⟩ (.varReadInt32 i)).map (fun c => c.wire.toList)) := by
  refine sends_congr (run_open P _ (.bool false) rfl w hr) ?_
  simp only [C06.documented, List.map_cons, List.map_nil, ← textChars_wire] at ha ⊢
  refine sends_acked_qry P _ _ _ _ _ _ _ w hr ha (var_read_acked P i) fun r1 w1 _ hr1 ha1 => ?_
  refine sends_acked_qry P _ _ _ _ _ _ _ w1 hr1 ha1 (var_read_acked P (i + 1)) fun r2 w2 _ hr2 ha2 => ?_
  refine sends_acked_qry P _ _ _ _ _ _ _ w2 hr2 ha2 (var_read_acked P (i + 2)) fun r3 w3 _ hr3 ha3 => ?_
  refine sends_acked_qry P _ _ _ _ _ _ _ w3 hr3 ha3 (var_read_acked P (i + 3)) fun r4 w4 _ _ _ => ?_
  refine Sends.of_quiet (NoIO.bind NoIO.getSt fun st => NoIO.ite (NoIO.pure _) ?_).out_eq w4
  show NoIO _
  split
  · exact NoIO.pure _
  · exact NoIO.raise _

/-- the payload of the `QE` reply decodes to the motor state `bd` -/
def QEReports (bd : C06.Board) (s : Str) : Prop :=
  ∀ w : World Script, (qeDecode (splitOn ',' s) : M Script Val) w = (.ok (.pair (.int bd.res1) (.int bd.res2)), w)

/-- the exchange of a documented command line (`QE` is the query whose payload must report the board state) -/
def xchOf (bd : C06.Board) (c : C06.Cmd) : Xch :=
  if c.name = "QE" then .qry (textChars c.name c.args) (QEReports bd) else .cmd (textChars c.name c.args)

theorem motors_query_acked (P : Params) (bd : C06.Board) (w : World Script) (hr : Ready w)
    (ha : Answered (P.retryQry + 1) (textChars "QE" []) w.dev)
    (hp : QEReports bd (stripHeader (nameOf (textChars "QE" [])) (replyText (P.retryQry + 1) w.dev))) :
    ∃ (a : Val) (nr : Nat), a = .pair (.int bd.res1) (.int bd.res2) ∧ (motorsQueryEnabledP P scriptDev).run w =
      (.ok a, ⟨w.st, advance (P.retryQry + 1) w.dev, w.out ++ [textChars "QE" [] ++ ['\r']], nr⟩) := by
  obtain ⟨nr, e⟩ := query_acked P (textChars "QE" []) (plain_textChars _ _ (by decide)) w hr ha
  refine ⟨_, nr, rfl, ?_⟩
  unfold Prog.run motorsQueryEnabledP
  simp only
  rw [guardM_open _ _ _ hr.not_blocked, ← textChars_nil "QE", Ebb3.bind_ok e]
  exact hp _

theorem sends_acked_opt {β : Type} (P : Params) (c : Prop) [Decidable c] (t : Str) (rest : List Xch) (x : M Script Unit)
    (f : Unit → M Script β) (ls : List Str) (w : World Script) (hr : Ready w)
    (ha : Acked P ((if c then [Xch.cmd t] else []) ++ rest) w.dev)
    (hx : ∀ w, Ready w → Answered (P.retryCmd + 1) t w.dev →
      ∃ a nr, x w = (.ok a, ⟨w.st, advance (P.retryCmd + 1) w.dev, w.out ++ [t ++ ['\r']], nr⟩))
    (hf : ∀ a w', Ready w' → Acked P rest w'.dev → Sends (f a) w' ls) :
    Sends ((if c then x else pure ()) >>= f) w ((if c then [t ++ ['\r']] else []) ++ ls) := by
  by_cases h : c
  · simp only [if_pos h] at ha ⊢
    exact sends_acked_cmd P t rest x f ls w hr ha hx hf
  · simp only [if_neg h] at ha ⊢
    exact hf () w hr ha

/-- `motors_enable`: `CU,50,0` when exactly one motor is enabled; when only motor 2 is, `QE` and — unless the scale is
already in use — `EM,<c2>,<c2>`; finally `EM,<c1>,<c2>`; when each request is acknowledged and `QE` reports `bd` -/
theorem sends_motors_enable (P : Params) (bd : C06.Board) (r1 r2 : Int) (w : World Script) (hr : Ready w)
    (ha : Acked P ((C06.documented bd (.enable r1 r2)).map (xchOf bd)) w.dev) :
    Sends (run P scriptDev (.motors_enable r1 r2)) w ((C06.documented bd (.enable r1 r2)).map (fun c => c.wire.toList)) := by
  refine sends_congr (run_open P _ .none rfl w hr) ?_
  -- against the row `C06.ebb3Enable` of the hand table, whose tests are spelled as the source spells them
  rw [← C06.ebb3Enable_eq_doc] at ha ⊢
  show Sends (motorsEnableCore P scriptDev (min (max r1 0) 5) (min (max r2 0) 5)) w _
  unfold C06.ebb3Enable at ha ⊢
  generalize min (max r1 0) 5 = a at *
  generalize min (max r2 0) 5 = b at *
  have xCU : xchOf bd ⟨"CU", [50, 0]⟩ = .cmd (textChars "CU" [50, 0]) := if_neg (by decide)
  have xQE : xchOf bd ⟨"QE", []⟩ = .qry (textChars "QE" []) (QEReports bd) := if_pos rfl
  have xEM : ∀ x y, xchOf bd ⟨"EM", [x, y]⟩ = .cmd (textChars "EM" [x, y]) := fun _ _ => if_neg (show "EM" ≠ "QE" by decide)
  simp only [List.map_append, apply_ite (List.map _), List.map_cons, List.map_nil, xCU, xQE, xEM, ← textChars_wire,
    List.append_assoc] at ha ⊢
  have em : ∀ x y, Plain (textChars "EM" [x, y]) ∧ emText x y = textChars "EM" [x, y] := fun x y =>
    ⟨plain_textChars _ _ (by decide), textChars_lit "EM" "EM," String.toList_ofList x [y]⟩
  have hEM : ∀ w', Ready w' → Acked P [.cmd (textChars "EM" [a, b])] w'.dev →
      Sends (do cmd_ P scriptDev (emText a b); pure Val.none : M Script Val) w' [textChars "EM" [a, b] ++ ['\r']] :=
    fun w' hr' ha' => sends_acked_cmd P _ _ _ _ _ w' hr' ha' (cmd_acked P _ _ (em a b).2 (em a b).1)
      fun _ w'' _ _ => Sends.of_quiet (NoIO.pure _).out_eq w''
  unfold motorsEnableCore
  refine sends_acked_opt P _ _ _ _ _ _ w hr ha
    (cmd_acked P _ _ (String.toList_ofList.trans (textChars_cons "CU" 50 [0]).symm) (plain_textChars _ _ (by decide))) fun _ w1 hr1 ha1 => ?_
  by_cases hB : a = 0 ∧ b ≠ 0
  · simp only [if_pos hB, List.cons_append] at ha1 ⊢
    refine sends_acked_qry P _ _ _ _ (· = .pair (.int bd.res1) (.int bd.res2)) _ _ w1 hr1 ha1 (motors_query_acked P bd)
      fun mr w2 hmr hr2 ha2 => ?_
    subst hmr
    -- the row's `old2` is `oldRes bd.res1 bd.res2` written out
    exact sends_acked_opt P (oldRes bd.res1 bd.res2 ≠ b) _ _ _ _ _ w2 hr2 ha2 (cmd_acked P _ _ (em b b).2 (em b b).1)
      fun _ w3 hr3 ha3 => hEM w3 hr3 ha3
  · simp only [if_neg hB, List.nil_append] at ha1 ⊢
    exact hEM w1 hr1 ha1

end C06Gen
end Plotink
