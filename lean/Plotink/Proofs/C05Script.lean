import Plotink.Proofs.C05Methods
/-!
Instance 1 of the generic theorem: scripts whose read outcomes are taken from the fault alphabet
of the statement (correct replies, empty reads, error lines, wrong-name lines, raised exceptions).
Core Lean only.
-/
namespace Plotink
namespace Ebb3
open Spec

/-- A line of the alphabet: whenever it would be accepted as the reply to one of the decoded
queries (begins with that name, no `Err:`), it is a *correct* reply: `name,payload` with a
well-formed payload.  Blank lines, error lines, and lines that begin with no decoded name
(wrong-name lines, replies to other requests) all qualify. -/
def AdmLine (s : Str) : Prop :=
  ∀ name ∈ parsedNames, startsWith name (strip s) = true → hasErr (strip s) = false →
    ∃ payload, strip s = name ++ ',' :: payload ∧ GoodPayload name payload

def AdmEv : ReadEv → Prop
  | .line s => AdmLine s
  | .raise => True

def AdmScript (w : World Script) : Prop := ∀ ev ∈ w.dev.reads, AdmEv ev

theorem adm_drop {w : World Script} (h : AdmScript w) (k : Nat) (st : St) (ws : List WriteEv) (out : List Str)
    (nr : Nat) : AdmScript ⟨st, ⟨w.dev.reads.drop k, ws⟩, out, nr⟩ :=
  fun ev hev => h ev (List.mem_of_mem_drop hev)

theorem firstReply_text_mem {n : Nat} {reads : List ReadEv} {t : Str} (h : firstReply n reads = .text t) :
    ∃ s, ReadEv.line s ∈ reads ∧ t = strip s := by
  rcases window_cases n reads with ⟨j, ev, -, hget, -, -, -, hf⟩ | ⟨-, -, hf⟩
  · rw [hf] at h
    cases ev with
    | raise => cases h
    | line s =>
      simp only [replyOfEv] at h
      injection h with h
      exact ⟨s, List.mem_of_getElem? hget, h.symm⟩
  · rw [hf] at h; cases h

theorem scriptSound (P : Params) : Sound P scriptDev AdmScript where
  congr := fun _ _ _ h => h
  xch := by
    intro retry req name w _ hn _ hI _
    obtain ⟨st, ⟨reads, ws⟩, out, nr⟩ := w
    refine ⟨_, _, exchange_script retry req st reads ws out nr, ?_, fun _ _ => adm_drop hI _ _ _ _ _⟩
    -- an accepted text is (the strip of) a line of the script, hence of the alphabet
    intro t ht hs he hp
    unfold exchangeReply at ht
    split at ht
    · cases hr : firstReply (retry + 1) reads with
      | ioError => rw [hr] at ht; cases ht
      | timeout =>
        rw [hr] at ht
        obtain rfl : [] = t := Option.some.inj ht
        rw [startsWith_nil_right (cmdName_ne hn)] at hs; cases hs
      | text t' =>
        rw [hr] at ht
        obtain rfl : t' = t := Option.some.inj ht
        obtain ⟨s, hmem, rfl⟩ := firstReply_text_mem hr
        exact hI _ hmem name hp hs he
    · cases ht
  raw := by
    intro text w hI _
    obtain ⟨st, ⟨reads, ws⟩, out, nr⟩ := w
    unfold rawCloseBody
    rw [bind_ok (portWrite_script st reads ws out nr _)]
    split <;> exact ⟨_, _, rfl, fun ev hev => hI ev hev⟩

end Ebb3
end Plotink
