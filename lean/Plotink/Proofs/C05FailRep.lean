import Plotink.Proofs.Ebb3Verdict
/-!
"A recorded error is reported by the failure value" (`run_failRep`): for every request method, any device, any
arguments and any start state — if the call returns a value and an error is recorded afterwards, the value is one of
`False`, `None`, `(None, None)`.  Proved in the form `Reports` (a failure value, or no error recorded), for which only
the last step of a body counts (`Reports.bind`), and `RetNone` for the bodies that can only return `None`.  What
`command`, `query`, `query_statusbyte` return on any device is read off the normal forms of `Proofs/Ebb3Verdict.lean`
(`command_res`, `query_res`, `queryStatusByte_res`); a decoder leaves the world as the query left it (`Inert`, an
`ExcRel`).  Core Lean only.
-/
namespace Plotink
namespace Ebb3
open M

variable {σ : Type} {α β : Type}

/-- the documented failure values -/
def IsFailure (v : Val) : Prop := v = .bool false ∨ v = .none ∨ v = .pair .none .none

theorem IsFailure.false : IsFailure (.bool false) := Or.inl rfl
theorem IsFailure.none : IsFailure .none := Or.inr (Or.inl rfl)

def Inert (x : M σ α) : Prop := ∀ w, (x w).2 = w

theorem Inert.pure (a : α) : Inert (Pure.pure a : M σ α) := fun _ => rfl
theorem Inert.raise (e : PyExc) : Inert (M.raise e : M σ α) := fun _ => rfl
theorem Inert.bind {x : M σ α} {f : α → M σ β} (hx : Inert x) (hf : ∀ a, Inert (f a)) : Inert (x >>= f) := by
  intro w
  rw [bind_apply]
  have := hx w
  rcases hxw : x w with ⟨r, w1⟩
  rw [hxw] at this
  simp only at this
  subst this
  cases r with
  | ok a => exact hf a w1
  | error e => rfl

theorem Inert.world {x : M σ α} (h : Inert x) {w w' : World σ} {r : Except PyExc α} (hx : x w = (r, w')) : w' = w := by
  have := h w; rw [hx] at this; exact this

/-- `Inert` as a relation that ignores its second argument -/
def inertRel (σ : Type) : ExcRel σ σ where
  R x _ := Inert x
  pure := Inert.pure
  raise := Inert.raise
  bind hx hf := Inert.bind hx hf

theorem command_res (P : Params) (D : Device σ) (c : Option Str) {w w' : World σ} {v : Val}
    (h : (commandP P D c).run w = (.ok v, w')) :
    v = .bool false ∨ (v = .bool true ∧ w'.st.err = Option.none) := by
  rcases Prog.run_cases (commandP P D c) _ rfl w with hr | ⟨-, hr⟩ <;> rw [hr] at h
  · exact Or.inl (ok_inv h).1.symm
  · cases c with
    | none => exact Or.inl (ok_inv h).1.symm
    | some c0 =>
      change commandCore P D (strip c0) w = _ at h
      cases hn : cmdName (strip c0) with
      | error e => simp only [commandCore, hn] at h; cases h
      | ok name =>
        obtain ⟨r, w1, hx, -⟩ := exchange_st D P.retryCmd (strip c0) w
        rw [commandCore_of_exchange P D hn hx] at h
        obtain ⟨rfl, rfl⟩ := ok_inv h
        cases he : (recordOpt (cmdVerdict P (strip c0) name r) w1.st).err with
        | none => exact Or.inr ⟨rfl, rfl⟩
        | some e => exact Or.inl rfl

theorem query_res (P : Params) (D : Device σ) (q : Option Str) {w w' : World σ} {v : Val}
    (h : (queryP P D q).run w = (.ok v, w')) :
    v = .none ∨ (∃ s, v = .str s ∧ w'.st.err = Option.none) := by
  rcases Prog.run_cases (queryP P D q) _ rfl w with hr | ⟨hb, hr⟩ <;> rw [hr] at h
  · exact Or.inl (ok_inv h).1.symm
  · cases q with
    | none => exact Or.inl (ok_inv h).1.symm
    | some q0 =>
      change queryCore P D (strip q0) w = _ at h
      cases hn : cmdName (strip q0) with
      | error e => simp only [queryCore, hn] at h; cases h
      | ok name =>
        obtain ⟨r, w1, hx, hs, -⟩ := exchange_st D P.retryQry (strip q0) w
        rw [queryCore_of_exchange P D hn hx] at h
        obtain ⟨rfl, rfl⟩ := ok_inv h
        -- a string is returned only when nothing is recorded, and the exchange left the attributes alone
        cases hv : qryVerdictX P (strip q0) name r with
        | some m => exact Or.inl (qryVal_of_some hv)
        | none => exact Or.inr ⟨_, qryVal_of_none hv, (congrArg St.err hs).trans (blocked_false_iff.mp hb).2⟩

theorem recordError_ok (m : Str) (w : World σ) : ∃ w', (recordError m : M σ Unit) w = (.ok (), w') := ⟨_, rfl⟩

theorem queryStatusByte_res (D : Device σ) {w w' : World σ} {v : Val}
    (h : (queryStatusByteP D).run w = (.ok v, w')) : v = .none ∨ w'.st.err = Option.none := by
  rcases Prog.run_cases (queryStatusByteP D) _ rfl w with hr | ⟨hb, hr⟩ <;> rw [hr] at h
  · exact Or.inl (ok_inv h).1.symm
  · obtain ⟨r, w1, hx, hst, -⟩ := exchange_st D 0 "QG".toList w
    change queryStatusByteBody D w = _ at h
    rw [queryStatusByteBody_eq, bind_ok hx] at h
    cases r with
    | none => exact Or.inl (ok_inv h).1.symm
    | some t =>
      obtain ⟨val, m, hq, -, hor⟩ := qgJudge_run t w1
      obtain ⟨rfl, rfl⟩ := ok_inv (hq.symm.trans h)
      exact hor.imp id fun hm => by rw [hm]; exact (congrArg St.err hst).trans (blocked_false_iff.mp hb).2

theorem rawClose_err (D : Device σ) (t : Str) {w w' : World σ} {r : Except PyExc Val}
    (h : rawCloseBody D t w = (r, w')) : w'.st.err = w.st.err := by
  unfold rawCloseBody at h
  rw [bind_ok (rfl : portWrite D t w = (.ok _, _))] at h
  split at h <;> (injection h with _ h2; rw [← h2])

def FailRep (x : M σ Val) : Prop :=
  ∀ w v w', x w = (.ok v, w') → w'.st.err.isSome = true → IsFailure v

/-- the form in which `FailRep` is proved, closed under `>>=` on the right: a returned value is a failure value, or
no error is recorded -/
def Reports (x : M σ Val) : Prop := ∀ w v w', x w = (.ok v, w') → IsFailure v ∨ w'.st.err = Option.none

theorem Reports.failRep {x : M σ Val} (h : Reports x) : FailRep x := by
  intro w v w' hx he
  rcases h w v w' hx with h0 | h1
  · exact h0
  · rw [h1] at he; cases he

theorem Reports.raise (e : PyExc) : Reports (M.raise e : M σ Val) := fun _ _ _ h => nomatch h

theorem Reports.bind {x : M σ α} {f : α → M σ Val} (hf : ∀ a, Reports (f a)) : Reports (x >>= f) := fun _ _ _ h =>
  let ⟨a, _, _, h⟩ := bind_inv h
  hf a _ _ _ h

theorem Reports.errIsNone : Reports (errIsNone : M σ Val) := by
  intro w v w' h
  obtain ⟨rfl, rfl⟩ := ok_inv h
  cases hw : w.st.err with
  | none => exact Or.inr rfl
  | some e => exact Or.inl .false

/-- `if self.err is not None: return None`, then something that cannot record an error -/
theorem Reports.errCheck {k : M σ Val} (hk : Inert k) :
    Reports (getSt >>= fun st => if st.err.isSome = true then Pure.pure Val.none else k) := by
  intro w v w' h
  obtain ⟨st, w1, hg, h⟩ := bind_inv h
  obtain ⟨rfl, rfl⟩ := ok_inv hg
  cases he : w.st.err with
  | some e =>
    simp only [he, Option.isSome_some, if_true] at h
    exact Or.inl ((ok_inv h).1 ▸ .none)
  | none =>
    simp only [he, Option.isSome_none, Bool.false_eq_true, if_false] at h
    exact Or.inr (hk.world h ▸ he)

/-- a guarded program: blocked it returns its failure value; the body starts with no error recorded -/
theorem failRep_guarded (p : Prog σ) (fv : Val) (hg : p.guard = some fv) (hfv : IsFailure fv)
    (hbody : ∀ {w v w'}, w.st.err = Option.none → p.body w = (.ok v, w') → IsFailure v ∨ w'.st.err = Option.none) :
    FailRep p.run := Reports.failRep fun w v w' h => by
  rcases Prog.run_cases p fv hg w with hr | ⟨hb, hr⟩ <;> rw [hr] at h
  · exact Or.inl ((ok_inv h).1 ▸ hfv)
  · exact hbody (blocked_false_iff.mp hb).2 h

theorem Reports.guarded (p : Prog σ) (fv : Val) (hg : p.guard = some fv) (hfv : IsFailure fv) (hb : Reports p.body) :
    FailRep p.run :=
  failRep_guarded p fv hg hfv fun _ h => hb _ _ _ h

def RetNone (x : M σ Val) : Prop := ∀ w v w', x w = (.ok v, w') → v = .none

theorem RetNone.pure : RetNone (Pure.pure Val.none : M σ Val) := by
  intro w v w' h; exact (ok_inv h).1.symm
theorem RetNone.raise (e : PyExc) : RetNone (M.raise e : M σ Val) := by
  intro w v w' h; cases h
theorem RetNone.bind {x : M σ α} {f : α → M σ Val} (hf : ∀ a, RetNone (f a)) : RetNone (x >>= f) := by
  intro w v w' h
  obtain ⟨a, w1, -, h⟩ := bind_inv h
  exact hf a w1 v w' h

theorem RetNone.failRep {x : M σ Val} (h : RetNone x) : FailRep x :=
  fun w v w' hx _ => Or.inr (Or.inl (h w v w' hx))

theorem failRep_of_body_retNone (p : Prog σ) (hg : p.guard = some .none) (hb : RetNone p.body) : FailRep p.run :=
  Reports.guarded p .none hg .none fun _ _ _ h => Or.inl (hb _ _ _ h ▸ .none)

theorem writeNickname_failRep (P : Params) (D : Device σ) (n : Option Str) : FailRep (writeNicknameP P D n).run :=
  failRep_guarded _ _ rfl .false fun {w v w'} _ h => by
    cases n with
    | none => exact Or.inl ((ok_inv h).1 ▸ .false)
    | some n0 =>
      change ((commandP P D (some ("ST,".toList ++ strip n0))).run >>= _) w = _ at h
      obtain ⟨r, w1, hc, h⟩ := bind_inv h
      rcases command_res P D _ hc with rfl | ⟨rfl, herr⟩
      · exact Or.inl ((ok_inv h).1 ▸ .false)
      · obtain ⟨u, w2, hs, h⟩ := bind_inv h
        obtain ⟨-, rfl⟩ := ok_inv hs
        obtain ⟨-, rfl⟩ := ok_inv h
        exact Or.inr herr

theorem varWriteInt32_failRep (P : Params) (D : Device σ) (a b : Int) : FailRep (varWriteInt32P P D a b).run :=
  Reports.guarded _ _ rfl .false <| by
    unfold varWriteInt32P
    cases toBytes4 a with
    | error e => exact .raise e
    | ok q => exact Reports.bind fun _ => Reports.bind fun _ => Reports.bind fun _ => Reports.bind fun _ => .errIsNone

theorem varReadInt32_failRep (P : Params) (D : Device σ) (i : Int) : FailRep (varReadInt32P P D i).run :=
  Reports.guarded _ _ rfl .false <| Reports.bind fun a => Reports.bind fun b => Reports.bind fun c =>
    Reports.bind fun d => .errCheck <| by
      cases fromBytes4 a b c d with
      | ok z => exact Inert.pure _
      | error e => exact Inert.raise e

/-- shape shared by the decoding methods: behind the guard `query`, then an inert decoder on the text -/
theorem decode_failRep (P : Params) (D : Device σ) (q : Str) (dec : Str → M σ Val) (fv : Val)
    (hfv : IsFailure fv) (hdec : ∀ s, Inert (dec s)) :
    FailRep (⟨some fv, (queryP P D (some q)).run >>= fun r => match r with | .str s => dec s | _ => pure fv⟩ :
      Prog σ).run :=
  failRep_guarded _ _ rfl hfv fun {w v w'} _ h => by
    obtain ⟨r, w1, hq, h⟩ := bind_inv h
    rcases query_res P D _ hq with rfl | ⟨s, rfl, herr⟩
    · exact Or.inl ((ok_inv h).1 ▸ hfv)
    · exact Or.inr ((hdec s).world h ▸ herr)

theorem querySteps_failRep (P : Params) (D : Device σ) : FailRep (queryStepsP P D).run :=
  failRep_guarded _ _ rfl .none fun {w v w'} _ h => by
    change ((queryP P D (some "QS".toList)).run >>= fun r => getSt >>= fun st =>
      if errTruthy st = true then pure Val.none
      else match r with
        | .str s => int2 (splitOn ',' (strip s))
        | _ => raise .attributeError) w = _ at h
    obtain ⟨r, w1, hq, h⟩ := bind_inv h
    obtain ⟨st, w2, hg, h⟩ := bind_inv h
    obtain ⟨rfl, rfl⟩ := ok_inv hg
    by_cases ht : errTruthy w1.st = true
    · simp only [ht, if_true] at h
      exact Or.inl ((ok_inv h).1 ▸ .none)
    · simp only [ht] at h
      rcases query_res P D _ hq with rfl | ⟨s, rfl, herr⟩
      · cases h
      · exact Or.inr (Inert.world ((inertRel σ).int2 _) h ▸ herr)

theorem runCmds_retUnit (P : Params) (D : Device σ) (l : List Str) (k : M σ Val) (hk : RetNone k) :
    RetNone (runCmds P D l >>= fun _ => k) := RetNone.bind (fun _ => hk)

theorem run_failRep (P : Params) (D : Device σ) (c : Call) (hr : c.method.isRequest = true) :
    FailRep (run P D c) := by
  have cmdP_failRep : ∀ t, FailRep (cmdP P D t).run := fun t =>
    failRep_of_body_retNone _ rfl (RetNone.bind fun _ => RetNone.pure)
  have rawClose_failRep : ∀ t, FailRep (⟨some (.bool false), rawCloseBody D t⟩ : Prog σ).run := fun t =>
    failRep_guarded _ _ rfl .false fun he h => Or.inr ((rawClose_err D t h).trans he)
  unfold run
  cases c
  case reboot => exact rawClose_failRep _
  case bootload => exact rawClose_failRep _
  case query_nickname =>
    exact failRep_of_body_retNone (queryNicknameP P D) rfl <| RetNone.bind fun r => by
      cases r with
      | str raw => exact RetNone.bind fun _ => RetNone.pure
      | _ => exact RetNone.pure
  case write_nickname n => exact writeNickname_failRep P D n
  case command c => exact Reports.failRep fun _ _ _ h => (command_res P D c h).imp Or.inl And.right
  case query q => exact Reports.failRep fun _ _ _ h => (query_res P D q h).imp (fun h0 => Or.inr (Or.inl h0)) fun ⟨_, _, h1⟩ => h1
  case query_statusbyte => exact Reports.failRep fun _ _ _ h => (queryStatusByte_res D h).imp (fun h0 => Or.inr (Or.inl h0)) id
  case var_write a b => exact Reports.guarded (varWriteP P D a b) _ rfl .false <| Reports.bind fun _ => .errIsNone
  case var_read i =>
    exact Reports.guarded (varReadP P D i) _ rfl .none <| Reports.bind fun r => .errCheck ((inertRel σ).intOfVal r)
  case var_write_int32 a b => exact varWriteInt32_failRep P D a b
  case var_read_int32 i => exact varReadInt32_failRep P D i
  case timed_pause t =>
    exact failRep_of_body_retNone (timedPauseP P D t) rfl (RetNone.bind fun _ => RetNone.pure)
  case xy_move a b c => exact cmdP_failRep _
  case abs_move r a b => exact cmdP_failRep _
  case motors_disable => exact cmdP_failRep _
  case motors_enable a b =>
    exact failRep_of_body_retNone (motorsEnableP P D a b) rfl <| RetNone.bind fun _ => by
      split
      · refine RetNone.bind fun mr => ?_
        split
        · exact RetNone.bind fun _ => RetNone.bind fun _ => RetNone.pure
        · exact RetNone.pure
      · exact RetNone.bind fun _ => RetNone.pure
  case motors_query_enabled =>
    exact decode_failRep P D _ (fun s => qeDecode (splitOn ',' s)) _ .none fun _ => (inertRel σ).qeDecode _
  case query_steps => exact querySteps_failRep P D
  case clear_steps => exact cmdP_failRep _
  case clear_accumulators => exact cmdP_failRep _
  case pen_lower d p => exact cmdP_failRep _
  case pen_raise d p => exact cmdP_failRep _
  case dio_b_config a b c =>
    exact failRep_of_body_retNone (dioBConfigP P D a b c) rfl
      (RetNone.bind fun _ => RetNone.bind fun _ => RetNone.pure)
  case dio_b_set a b => exact cmdP_failRep _
  case dio_b_read p => exact decode_failRep P D _ boolOfStr _ .none (inertRel σ).boolOfStr
  case pen_pos_down v => exact cmdP_failRep _
  case pen_pos_up v => exact cmdP_failRep _
  case pen_rate_down v => exact cmdP_failRep _
  case pen_rate_up v => exact cmdP_failRep _
  case servo_timeout m s => exact cmdP_failRep _
  case query_voltage t =>
    exact decode_failRep P D _ (fun s => voltageDecode _ (split1 ',' s)) _ .none fun _ =>
      (inertRel σ).voltageDecode _ _
  case query_current =>
    exact decode_failRep P D _ (fun s => currentDecode (split1 ',' s)) _ (Or.inr (Or.inr rfl)) fun _ =>
      (inertRel σ).currentDecode _
  all_goals cases hr

end Ebb3
end Plotink
