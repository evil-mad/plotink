import Plotink.Proofs.Strip
/-! A numeral accepted by `parseFloat` ends (after stripping) in a digit or `.` if its value is finite, else in `f`, `y`
or `n` (`inf`, `infinity`, `nan`, in any case). -/
namespace Plotink
namespace PyFloat

theorem last_of_all {p : Char → Bool} (l : List Char) (hall : ∀ c ∈ l, p c = true) (hne : l ≠ []) :
    ∃ d, l.getLast? = some d ∧ p d = true := by
  refine ⟨l.getLast hne, List.getLast?_eq_some_getLast hne, hall _ (List.getLast_mem hne)⟩

theorem splitSign_last (r3 : List Char) (hne : (splitSign r3).2 ≠ []) :
    r3.getLast? = (splitSign r3).2.getLast? := by
  cases r3 with
  | nil => rfl
  | cons c r =>
    unfold splitSign at hne ⊢
    by_cases h1 : c = '-'
    · simp only [h1, if_true] at hne ⊢
      exact getLast?_append_ne (a := ['-']) hne
    · by_cases h2 : c = '+'
      · simp only [h2, if_true] at hne ⊢
        exact getLast?_append_ne (a := ['+']) hne
      · simp only [h1, h2, if_false]

theorem parseExp_last {r3 : List Char} {ev : Int} (h : parseExp r3 = some ev) (pre : List Char) :
    ∃ d, (pre ++ r3).getLast? = some d ∧ (isDigit d = true ∨ d = '.') := by
  unfold parseExp at h
  simp only at h
  split at h
  · simp at h
  · rename_i hc
    simp only [Bool.or_eq_true, List.isEmpty_iff, Bool.not_eq_eq_eq_not, Bool.not_true, not_or,
      Bool.not_eq_false] at hc
    obtain ⟨hne, hall⟩ := hc
    have hr3 : r3 ≠ [] := by rintro rfl; exact hne rfl
    rw [getLast?_append_ne hr3, splitSign_last r3 hne]
    obtain ⟨d, hd, hdd⟩ := last_of_all _ (fun c hc => List.all_eq_true.mp hall c hc) hne
    exact ⟨d, hd, Or.inl hdd⟩

theorem parseDecimal_last (r : List Char) (q : Rat) (h : parseDecimal r = some q) :
    ∃ d, r.getLast? = some d ∧ (isDigit d = true ∨ d = '.') := by
  have hr : r = r.takeWhile isDigit ++ r.dropWhile isDigit := (List.takeWhile_append_dropWhile).symm
  have hipd : ∀ c ∈ r.takeWhile isDigit, isDigit c = true := fun c hc => List.all_eq_true.1 List.all_takeWhile c hc
  unfold parseDecimal at h
  simp only at h
  generalize r.takeWhile isDigit = ip at *
  generalize r.dropWhile isDigit = r1 at *
  subst hr
  cases r1 with
  | nil =>
    simp only [List.isEmpty_nil, Bool.and_true, List.append_nil] at h ⊢
    split at h
    · simp at h
    · rename_i hne
      obtain ⟨d, hd, hdd⟩ := last_of_all ip hipd (by simpa using hne)
      exact ⟨d, hd, Or.inl hdd⟩
  | cons c t =>
    by_cases hdot : c = '.'
    · subst hdot
      simp only [if_true] at h
      have hfpd : ∀ c ∈ t.takeWhile isDigit, isDigit c = true := fun c hc => List.all_eq_true.1 List.all_takeWhile c hc
      have ht : t = t.takeWhile isDigit ++ t.dropWhile isDigit := (List.takeWhile_append_dropWhile).symm
      generalize t.takeWhile isDigit = fp at *
      generalize t.dropWhile isDigit = r2 at *
      subst ht
      split at h
      · simp at h
      · cases r2 with
        | nil =>
          by_cases hfp : fp = []
          · subst hfp
            exact ⟨'.', by simp, Or.inr rfl⟩
          · obtain ⟨d, hd, hdd⟩ := last_of_all fp hfpd hfp
            refine ⟨d, ?_, Or.inl hdd⟩
            rw [List.append_nil, ← hd]
            rw [show ip ++ '.' :: fp = (ip ++ ['.']) ++ fp by simp]
            exact getLast?_append_ne hfp
        | cons e r3 =>
          simp only at h
          split at h
          · split at h
            · rename_i ev hev
              simpa using parseExp_last hev (ip ++ '.' :: fp ++ [e])
            · simp at h
          · simp at h
    · simp only [hdot, if_false] at h
      split at h
      · simp at h
      · split at h
        · split at h
          · rename_i ev hev
            simpa using parseExp_last hev (ip ++ [c])
          · simp at h
        · simp at h

theorem stripUnderscores_last : ∀ (t : List Char) (prev : Option Char) (u : List Char),
    stripUnderscores prev t = some u → u.getLast? = t.getLast?
  | [], prev, u, h => by
    unfold stripUnderscores at h
    split at h <;> cases h
    rfl
  | a :: r, prev, u, h => by
    unfold stripUnderscores at h
    by_cases ha : a = '_'
    · -- an underscore is dropped; it is not the last character, since nothing may end in one
      subst ha
      rw [if_pos rfl] at h
      rcases prev with _ | p
      · cases h
      simp only at h
      split at h
      · rw [stripUnderscores_last r _ u h]
        cases r with
        | nil => simp [stripUnderscores] at h
        | cons b r' => rfl
      · cases h
    · rw [if_neg ha] at h
      split at h
      · cases h
      · cases hu' : stripUnderscores (some a) r with
        | none => rw [hu'] at h; cases h
        | some u' =>
          rw [hu'] at h
          cases h
          rw [List.getLast?_cons, List.getLast?_cons, stripUnderscores_last r _ u' hu']

theorem lowerAscii_last (r : List Char) (c : Char) (h : r.getLast? = some c) :
    (lower r).getLast? = some (lowerAscii c) := by
  unfold lower
  rw [List.getLast?_map, h]; rfl

theorem parseFloat_reject (t : List Char) (c : Char) (hc : t.getLast? = some c)
    (hsp : isCSpace c = false) (hd : isDigit c = false) (hdot : c ≠ '.')
    (hf : lowerAscii c ≠ 'f') (hy : lowerAscii c ≠ 'y') (hn : lowerAscii c ≠ 'n') :
    parseFloat t = none := by
  unfold parseFloat
  have h1 := stripBy_keeps_last isCSpace t c hc hsp
  cases hu : stripUnderscores none (stripBy isCSpace t) with
  | none => rfl
  | some u =>
    simp only
    have h2 : u.getLast? = some c := (stripUnderscores_last _ none u hu).trans h1
    by_cases hne : (splitSign u).2 = []
    · rw [hne]
      simp [parseDecimal, parseSpecial, lower]
    · have h3 : (splitSign u).2.getLast? = some c := by rw [← splitSign_last u hne]; exact h2
      cases hpd : parseDecimal (splitSign u).2 with
      | some q =>
        obtain ⟨d, hd1, hd2⟩ := parseDecimal_last _ q hpd
        rw [h3] at hd1
        simp at hd1
        subst hd1
        rcases hd2 with h | h
        · rw [h] at hd; simp at hd
        · exact absurd h hdot
      | none =>
        simp only
        have h4 := lowerAscii_last _ c h3
        unfold parseSpecial
        simp only
        have e1 : lower (splitSign u).2 ≠ ['i', 'n', 'f'] := by
          intro e; rw [e] at h4; simp at h4; exact hf h4.symm
        have e2 : lower (splitSign u).2 ≠ ['i', 'n', 'f', 'i', 'n', 'i', 't', 'y'] := by
          intro e; rw [e] at h4; simp at h4; exact hy h4.symm
        have e3 : lower (splitSign u).2 ≠ ['n', 'a', 'n'] := by
          intro e; rw [e] at h4; simp at h4; exact hn h4.symm
        simp [e1, e2, e3]

theorem parseFloat_nil : parseFloat [] = none := by decide

end PyFloat
end Plotink
