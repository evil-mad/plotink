import Plotink.Proofs.C04Latch
/-!
# Record and replay: any device against the script of what it served; the recorder changes nothing

`recDev D` is the device `D` with a recorder: it behaves like `D` and logs every outcome it hands out (`rd`: the read
outcomes, `wr`: the write outcomes, oldest first).  `Replay xd xs` relates a computation `xd` on `recDev D` with the
same computation `xs` on `scriptDev`: whatever world `xd` starts in, it appends some `dr` / `dw` to the two logs, and
`xs`, started with the same attributes on *any* script that begins with `dr` / `dw`, returns the same result, leaves
the same attributes and counters, and has consumed exactly `dr` / `dw`.  The relation is closed under the monad and the
three port primitives (`replayRel`), so it holds for every public method (`replay_run`) and along histories
(`replay_hist`).

`Proj xr xd`: the computation `xr` on `recDev D` and the same computation `xd` on `D` return the same result and leave
the same world, up to the logs (`projW` forgets them).  Closed under the monad and the port primitives (`projRel`),
hence true of every public method (`proj_run`) and of histories (`proj_hist`).  Core Lean only.
-/
namespace Plotink
namespace Ebb3
open M

structure Rec (σ : Type) where
  inner : σ
  rd : List ReadEv
  wr : List WriteEv

def recDev {σ : Type} (D : Device σ) : Device (Rec σ) where
  write s t := ((D.write s.inner t).1, ⟨(D.write s.inner t).2, s.rd, s.wr ++ [(D.write s.inner t).1]⟩)
  read s := ((D.read s.inner).1, ⟨(D.read s.inner).2, s.rd ++ [(D.read s.inner).1], s.wr⟩)
  reset s := ⟨D.reset s.inner, s.rd, s.wr⟩

def mkS {τ : Type} (w : World τ) (rs : List ReadEv) (ws : List WriteEv) : World Script :=
  ⟨w.st, ⟨rs, ws⟩, w.out, w.nreads⟩

section Replay
variable {σ : Type} {α β : Type}

def Replay (xd : M (Rec σ) α) (xs : M Script α) : Prop :=
  ∀ w : World (Rec σ), ∃ dr dw, (xd w).2.dev.rd = w.dev.rd ++ dr ∧ (xd w).2.dev.wr = w.dev.wr ++ dw ∧
    ∀ eR eW, xs (mkS w (dr ++ eR) (dw ++ eW)) = ((xd w).1, mkS (xd w).2 eR eW)

theorem Replay.noio {xd : M (Rec σ) α} {xs : M Script α}
    (h : ∀ (w : World (Rec σ)) rs ws, (xd w).2.dev = w.dev ∧ xs (mkS w rs ws) = ((xd w).1, mkS (xd w).2 rs ws)) :
    Replay xd xs := by
  intro w
  refine ⟨[], [], by rw [(h w [] []).1]; simp, by rw [(h w [] []).1]; simp, fun eR eW => ?_⟩
  simpa using (h w eR eW).2

theorem Replay.pure (a : α) : Replay (Pure.pure a : M (Rec σ) α) (Pure.pure a) :=
  Replay.noio fun _ _ _ => ⟨rfl, rfl⟩
theorem Replay.raise (e : PyExc) : Replay (M.raise e : M (Rec σ) α) (M.raise e) :=
  Replay.noio fun _ _ _ => ⟨rfl, rfl⟩
theorem Replay.getSt : Replay (getSt : M (Rec σ) St) getSt := Replay.noio fun _ _ _ => ⟨rfl, rfl⟩
theorem Replay.modifySt (f : St → St) : Replay (modifySt f : M (Rec σ) Unit) (modifySt f) :=
  Replay.noio fun _ _ _ => ⟨rfl, rfl⟩
theorem Replay.recordError (m : Str) : Replay (recordError m : M (Rec σ) Unit) (recordError m) :=
  Replay.modifySt _
theorem Replay.disconnectM : Replay (disconnectM : M (Rec σ) Unit) disconnectM := Replay.modifySt _
theorem Replay.bind {xd : M (Rec σ) α} {xs : M Script α} {fd : α → M (Rec σ) β} {fs : α → M Script β}
    (hx : Replay xd xs) (hf : ∀ a, Replay (fd a) (fs a)) : Replay (xd >>= fd) (xs >>= fs) := by
  intro w
  obtain ⟨dr1, dw1, h1, h2, h3⟩ := hx w
  rcases hxw : xd w with ⟨r, w1⟩
  rw [hxw] at h1 h2 h3
  cases r with
  | error e =>
    refine ⟨dr1, dw1, ?_, ?_, fun eR eW => ?_⟩
    · rw [bind_error hxw]; exact h1
    · rw [bind_error hxw]; exact h2
    · rw [bind_error hxw, bind_error (h3 eR eW)]
  | ok a =>
    obtain ⟨dr2, dw2, g1, g2, g3⟩ := hf a w1
    refine ⟨dr1 ++ dr2, dw1 ++ dw2, ?_, ?_, fun eR eW => ?_⟩
    · rw [bind_ok hxw, g1, h1, List.append_assoc]
    · rw [bind_ok hxw, g2, h2, List.append_assoc]
    · have e1 := h3 (dr2 ++ eR) (dw2 ++ eW)
      rw [← List.append_assoc, ← List.append_assoc] at e1
      rw [bind_ok hxw, bind_ok e1]
      exact g3 eR eW

theorem Replay.portWrite (D : Device σ) (t : Str) : Replay (portWrite (recDev D) t) (portWrite scriptDev t) := by
  intro w
  refine ⟨[], [(D.write w.dev.inner t).1], by simp [Ebb3.portWrite, recDev], rfl, fun eR eW => ?_⟩
  simp [Ebb3.portWrite, recDev, scriptDev, mkS]

theorem Replay.portRead (D : Device σ) : Replay (portRead (recDev D)) (portRead scriptDev) := by
  intro w
  refine ⟨[(D.read w.dev.inner).1], [], rfl, by simp [Ebb3.portRead, recDev], fun eR eW => ?_⟩
  simp [Ebb3.portRead, recDev, scriptDev, mkS]

theorem Replay.portReset (D : Device σ) : Replay (portReset (recDev D)) (portReset scriptDev) := by
  intro w
  exact ⟨[], [], by simp [Ebb3.portReset, recDev], by simp [Ebb3.portReset, recDev], fun eR eW => rfl⟩

def replayRel (D : Device σ) : DevRel (recDev D) scriptDev where
  R := Replay
  pure := Replay.pure
  raise := Replay.raise
  bind := Replay.bind
  getSt := Replay.getSt
  recordError := Replay.recordError
  setAttr f _ := Replay.modifySt f
  write := Replay.portWrite D
  read := Replay.portRead D
  reset := Replay.portReset D

variable (P : Params) (D : Device σ)

theorem Replay.exchange (retry : Nat) (t : Str) :
    Replay (exchange (recDev D) retry t) (exchange scriptDev retry t) :=
  (replayRel D).exchange retry t

theorem replay_run (c : Call) : Replay (run P (recDev D) c) (run P scriptDev c) :=
  (replayRel D).run P c

/-- an outcome on the recorded device, seen on the script that still holds `eR` / `eW` -/
def replayO (od : Outcome (Rec σ)) (eR : List ReadEv) (eW : List WriteEv) : Outcome Script :=
  ⟨od.res, od.written, od.reads, mkS od.world eR eW⟩

/-- a history on the recorded device appends `dr` / `dw` to the logs; the same history on the script `dr` / `dw` uses
it up, and each of its outcomes is the recorded one, on what the device has not handed out yet.  The final log is the
same term for the head and for the tail of the history, so nothing has to be re-associated. -/
theorem replay_hist : ∀ (cs : List Call) (w : World (Rec σ)), ∃ dr dw,
    (finalWorld P (recDev D) cs w).dev.rd = w.dev.rd ++ dr ∧ (finalWorld P (recDev D) cs w).dev.wr = w.dev.wr ++ dw ∧
    finalWorld P scriptDev cs (mkS w dr dw) = mkS (finalWorld P (recDev D) cs w) [] [] ∧
    ∀ os ∈ runCalls P scriptDev cs (mkS w dr dw), ∃ od ∈ runCalls P (recDev D) cs w, ∃ eR eW,
      os = replayO od eR eW ∧ od.world.dev.rd ++ eR = (finalWorld P (recDev D) cs w).dev.rd
  | [], w => ⟨[], [], (List.append_nil _).symm, (List.append_nil _).symm, rfl, fun _ h => nomatch h⟩
  | c :: cs, w => by
    obtain ⟨dr1, dw1, h1, h2, h3⟩ := replay_run P D c w
    obtain ⟨dr2, dw2, g1, g2, g3, g4⟩ := replay_hist cs (run P (recDev D) c w).2
    have e1 := h3 dr2 dw2
    have hw : (runCall P scriptDev c (mkS w (dr1 ++ dr2) (dw1 ++ dw2))).world
        = mkS (run P (recDev D) c w).2 dr2 dw2 := by simp only [runCall, e1]
    refine ⟨dr1 ++ dr2, dw1 ++ dw2, ?_, ?_, ?_, fun os hos => ?_⟩
    · show (finalWorld P (recDev D) cs (run P (recDev D) c w).2).dev.rd = _
      rw [g1, h1, List.append_assoc]
    · show (finalWorld P (recDev D) cs (run P (recDev D) c w).2).dev.wr = _
      rw [g2, h2, List.append_assoc]
    · show finalWorld P scriptDev cs (run P scriptDev c _).2 = _
      rw [e1]; exact g3
    · simp only [runCalls, List.mem_cons, hw] at hos
      rcases hos with rfl | hos
      · exact ⟨_, List.mem_cons_self, dr2, dw2, by simp only [runCall, e1]; rfl, g1.symm⟩
      · obtain ⟨od, hod, h⟩ := g4 os hos
        exact ⟨od, List.mem_cons_of_mem _ hod, h⟩

/-- started with empty logs: the script is the final log -/
theorem replay_start (cs : List Call) (w : World (Rec σ)) (hr : w.dev.rd = []) (hw : w.dev.wr = []) :
    finalWorld P scriptDev cs (mkS w (finalWorld P (recDev D) cs w).dev.rd (finalWorld P (recDev D) cs w).dev.wr)
      = mkS (finalWorld P (recDev D) cs w) [] [] ∧
    ∀ os ∈ runCalls P scriptDev cs (mkS w (finalWorld P (recDev D) cs w).dev.rd (finalWorld P (recDev D) cs w).dev.wr),
      ∃ od ∈ runCalls P (recDev D) cs w, ∃ eR eW,
        os = replayO od eR eW ∧ od.world.dev.rd ++ eR = (finalWorld P (recDev D) cs w).dev.rd := by
  obtain ⟨dr, dw, h1, h2, h3⟩ := replay_hist P D cs w
  rw [hr, List.nil_append] at h1
  rw [hw, List.nil_append] at h2
  subst h1 h2
  exact h3

end Replay

section Proj
variable {σ : Type} {α β : Type}

def projW (w : World (Rec σ)) : World σ := ⟨w.st, w.dev.inner, w.out, w.nreads⟩

def Proj (xr : M (Rec σ) α) (xd : M σ α) : Prop :=
  ∀ w : World (Rec σ), xd (projW w) = ((xr w).1, projW (xr w).2)

theorem Proj.pure (a : α) : Proj (Pure.pure a : M (Rec σ) α) (Pure.pure a) := fun _ => rfl
theorem Proj.raise (e : PyExc) : Proj (M.raise e : M (Rec σ) α) (M.raise e) := fun _ => rfl
theorem Proj.getSt : Proj (getSt : M (Rec σ) St) getSt := fun _ => rfl
theorem Proj.modifySt (f : St → St) : Proj (modifySt f : M (Rec σ) Unit) (modifySt f) := fun _ => rfl
theorem Proj.recordError (m : Str) : Proj (recordError m : M (Rec σ) Unit) (recordError m) := Proj.modifySt _
theorem Proj.disconnectM : Proj (disconnectM : M (Rec σ) Unit) disconnectM := Proj.modifySt _
theorem Proj.bind {xr : M (Rec σ) α} {xd : M σ α} {fr : α → M (Rec σ) β} {fd : α → M σ β}
    (hx : Proj xr xd) (hf : ∀ a, Proj (fr a) (fd a)) : Proj (xr >>= fr) (xd >>= fd) := by
  intro w
  have h1 := hx w
  rcases hxw : xr w with ⟨r, w1⟩
  rw [hxw] at h1
  cases r with
  | error e => rw [bind_error hxw, bind_error h1]
  | ok a => rw [bind_ok hxw, bind_ok h1]; exact hf a w1

theorem Proj.portWrite (D : Device σ) (t : Str) : Proj (portWrite (recDev D) t) (portWrite D t) := fun _ => rfl
theorem Proj.portRead (D : Device σ) : Proj (portRead (recDev D)) (portRead D) := fun _ => rfl
theorem Proj.portReset (D : Device σ) : Proj (portReset (recDev D)) (portReset D) := fun _ => rfl

def projRel (D : Device σ) : DevRel (recDev D) D where
  R := Proj
  pure := Proj.pure
  raise := Proj.raise
  bind := Proj.bind
  getSt := Proj.getSt
  recordError := Proj.recordError
  setAttr f _ := Proj.modifySt f
  write := Proj.portWrite D
  read := Proj.portRead D
  reset := Proj.portReset D

variable (P : Params) (D : Device σ)

theorem Proj.exchange (retry : Nat) (t : Str) :
    Proj (exchange (recDev D) retry t) (exchange D retry t) :=
  (projRel D).exchange retry t

theorem proj_run (c : Call) : Proj (run P (recDev D) c) (run P D c) :=
  (projRel D).run P c

def projO (o : Outcome (Rec σ)) : Outcome σ := ⟨o.res, o.written, o.reads, projW o.world⟩

theorem proj_hist : ∀ (cs : List Call) (w : World (Rec σ)),
    finalWorld P D cs (projW w) = projW (finalWorld P (recDev D) cs w) ∧
    runCalls P D cs (projW w) = (runCalls P (recDev D) cs w).map projO
  | [], _ => ⟨rfl, rfl⟩
  | c :: cs, w => by
    have h := proj_run P D c w
    obtain ⟨g1, g2⟩ := proj_hist cs (run P (recDev D) c w).2
    have ho : runCall P D c (projW w) = projO (runCall P (recDev D) c w) := by
      simp only [runCall, h]; rfl
    refine ⟨?_, ?_⟩
    · show finalWorld P D cs (run P D c (projW w)).2 = _
      rw [h]; exact g1
    · show runCall P D c (projW w) :: runCalls P D cs (runCall P D c (projW w)).world = _
      rw [ho]
      exact congrArg _ g2

end Proj

end Ebb3
end Plotink
