import Plotink.Model.C13

/-! C13: the adjacency list (`find_adjacents`): a rearrangement of the product of two one-dimensional
neighbourhoods (`adjOf_perm`), from which membership and absence of duplicates follow.  Core Lean only. -/
namespace Plotink
namespace C13

theorem idx_lt {bins x y : Nat} (hx : x < bins) (hy : y < bins) : x + y * bins < bins * bins := by
  have h1 : (y + 1) * bins ≤ bins * bins := Nat.mul_le_mul_right bins hy
  rw [Nat.succ_mul] at h1
  omega

theorem idx_mod {bins x : Nat} (hx : x < bins) (y : Nat) : (x + y * bins) % bins = x := by
  rw [Nat.add_mul_mod_self_right, Nat.mod_eq_of_lt hx]

theorem idx_div {bins x : Nat} (hx : x < bins) (y : Nat) : (x + y * bins) / bins = y := by
  rw [Nat.add_mul_div_right _ _ (by omega), Nat.div_eq_of_lt hx, Nat.zero_add]

theorem idx_inj {bins x y x' y' : Nat} (hx : x < bins) (hx' : x' < bins)
    (h : x + y * bins = x' + y' * bins) : x = x' ∧ y = y' :=
  ⟨by rw [← idx_mod hx y, h, idx_mod hx'], by rw [← idx_div hx y, h, idx_div hx']⟩

theorem adjacents_length (bins : Nat) : (adjacents bins).length = bins * bins := by
  simp [adjacents]

theorem adjacents_getElem? {bins n : Nat} (h : n < bins * bins) :
    (adjacents bins)[n]? = some (adjOf bins (n % bins) (n / bins)) := by
  rw [adjacents, List.getElem?_map, List.getElem?_range h]; rfl

theorem adjacents_getD {bins x y : Nat} (hx : x < bins) (hy : y < bins) :
    (adjacents bins).getD (x + y * bins) [] = adjOf bins x y := by
  rw [List.getD_eq_getElem?_getD, adjacents_getElem? (idx_lt hx hy), idx_mod hx, idx_div hx]; rfl

/-- a coordinate and its neighbours inside `0 .. bins - 1`, in the order `find_adjacents` visits them -/
def nbs (bins x : Nat) : List Nat :=
  [x] ++ (if x > 0 then [x - 1] else []) ++ (if x < bins - 1 then [x + 1] else [])

theorem mem_nbs {bins x x' : Nat} (hx : x < bins) :
    x' ∈ nbs bins x ↔ x' < bins ∧ x' ≤ x + 1 ∧ x ≤ x' + 1 := by
  simp only [nbs, List.mem_append, List.mem_singleton, List.mem_ite_nil_right]
  omega

theorem nodup_nbs (bins x : Nat) : (nbs bins x).Nodup := by
  unfold nbs
  split <;> split <;> simp <;> omega

theorem flatMap_nbs {α} (bins x : Nat) (f : Nat → List α) :
    (nbs bins x).flatMap f =
      f x ++ (if x > 0 then f (x - 1) else []) ++ (if x < bins - 1 then f (x + 1) else []) := by
  unfold nbs
  split <;> split <;> simp

theorem perm_tail_swap {α} (a l r u d : List α) : (a ++ l ++ r ++ u ++ d).Perm (a ++ u ++ d ++ l ++ r) := by
  have h := List.perm_append_comm (l₁ := l ++ r) (l₂ := u ++ d)
  simp only [List.append_assoc] at h ⊢
  exact h.append_left a

/-- one column of a neighbourhood: the cells `x' + y' * bins` for `y'` next to `y`, written as offsets
from `j = x' + y * bins` -/
theorem map_nbs_col (bins x' y : Nat) :
    ((nbs bins y).map fun y' => x' + y' * bins) =
      [x' + y * bins] ++ (if y > 0 then [x' + y * bins - bins] else [])
        ++ (if y < bins - 1 then [x' + y * bins + bins] else []) := by
  have h0 : y > 0 → x' + (y - 1) * bins = x' + y * bins - bins := fun h => by
    rw [Nat.sub_mul, Nat.one_mul, Nat.add_sub_assoc (Nat.le_mul_of_pos_left bins h)]
  have h1 : x' + (y + 1) * bins = x' + y * bins + bins := by rw [Nat.succ_mul, Nat.add_assoc]
  unfold nbs
  split <;> split <;> simp [*]

theorem adjOf_perm (bins x y : Nat) :
    (adjOf bins x y).Perm ((nbs bins x).flatMap fun x' => (nbs bins y).map fun y' => x' + y' * bins) := by
  have hi : y > 0 → bins ≤ x + y * bins := fun h => Nat.le_add_left_of_le (Nat.le_mul_of_pos_left bins h)
  have hL : (if x > 0 then (nbs bins y).map fun y' => x - 1 + y' * bins else []) =
      if x > 0 then [x + y * bins - 1] ++ (if y > 0 then [x + y * bins - bins - 1] else [])
        ++ (if y < bins - 1 then [x + y * bins + bins - 1] else []) else [] :=
    ite_congr rfl (fun h => by
      rw [map_nbs_col, ← Nat.sub_add_comm h, Nat.sub_right_comm _ bins 1,
        Nat.sub_add_comm (Nat.le_add_right_of_le h : 1 ≤ x + y * bins)])
      fun _ => rfl
  have hR : ((nbs bins y).map fun y' => x + 1 + y' * bins) =
      [x + y * bins + 1] ++ (if y > 0 then [x + y * bins - bins + 1] else [])
        ++ (if y < bins - 1 then [x + y * bins + bins + 1] else []) := by
    rw [map_nbs_col, Nat.add_right_comm x 1, Nat.add_right_comm _ 1 bins]
    exact congrArg (_ ++ · ++ _) (ite_congr rfl (fun h => by rw [Nat.sub_add_comm (hi h)]) fun _ => rfl)
  rw [flatMap_nbs, hL, hR, map_nbs_col]
  exact perm_tail_swap ..

/-- `C13_adjacents_spec`, membership: the list of cell `(x, y)` is exactly the in-grid cells `(x', y')`
with `|x - x'| ≤ 1` and `|y - y'| ≤ 1` -/
theorem mem_adjOf {bins x y : Nat} (hx : x < bins) (hy : y < bins) (c : Nat) :
    c ∈ adjOf bins x y ↔
      ∃ x' y', x' < bins ∧ y' < bins ∧ c = x' + y' * bins ∧
        x' ≤ x + 1 ∧ x ≤ x' + 1 ∧ y' ≤ y + 1 ∧ y ≤ y' + 1 := by
  simp only [(adjOf_perm bins x y).mem_iff, List.mem_flatMap, List.mem_map, mem_nbs hx, mem_nbs hy]
  exact ⟨fun ⟨x', ⟨h1, h2, h3⟩, y', ⟨h4, h5, h6⟩, h⟩ => ⟨x', y', h1, h4, h.symm, h2, h3, h5, h6⟩,
    fun ⟨x', y', h1, h4, h, h2, h3, h5, h6⟩ => ⟨x', ⟨h1, h2, h3⟩, y', ⟨h4, h5, h6⟩, h.symm⟩⟩

/-- `C13_adjacents_spec`, no duplicates: the neighbourhoods have none, and `(x', y') ↦ x' + y' * bins` is
injective on columns `x' < bins` -/
theorem nodup_adjOf {bins x y : Nat} (hx : x < bins) : (adjOf bins x y).Nodup := by
  rw [(adjOf_perm bins x y).nodup_iff, List.Nodup, List.pairwise_flatMap]
  constructor
  · intro x' _
    exact (nodup_nbs bins y).map _ fun a b hab h => hab (Nat.eq_of_mul_eq_mul_right (by omega) (Nat.add_left_cancel h))
  · refine (nodup_nbs bins x).imp_of_mem fun {a b} ha hb hab c hc d hd hcd => hab ?_
    obtain ⟨ya, -, rfl⟩ := List.mem_map.mp hc
    obtain ⟨yb, -, rfl⟩ := List.mem_map.mp hd
    exact (idx_inj ((mem_nbs hx).mp ha).1 ((mem_nbs hx).mp hb).1 hcd).1

end C13
end Plotink
