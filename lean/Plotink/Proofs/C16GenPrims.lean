import Plotink.Proofs.C16Basic
import Plotink.Proofs.Ebb3Str
/-! C16 ↔ regenerated code: the string / number primitives of the `PyObj` runtime (those of `Model/Ebb3.lean`)
agree with the primitives of `Model/C16.lean` (in general, or on the decimal renderings that travel on the wire). -/
namespace Plotink.C16

theorem ebb3_isSpace_eq (c : Char) : Ebb3.isSpace c = isPySpace c := by rw [Ebb3.isSpace_eq, isPySpace_eq]

theorem ebb3_strip_eq (s : Str) : Ebb3.strip s = strip s := by rw [Ebb3.strip_eq, strip_eq]

theorem isPrefixOf_eq (p s : Str) : p.isPrefixOf s = startsWith s p := by
  induction p generalizing s with
  | nil => cases s <;> rfl
  | cons q qs ih =>
    cases s with
    | nil => rfl
    | cons d ds =>
      simp only [List.isPrefixOf, startsWith, ih]
      rw [BEq.comm]

theorem ebb3_startsWith_eq (p s : Str) : Ebb3.startsWith p s = startsWith s p := isPrefixOf_eq p s

theorem ebb3_hasSub_eq (p s : Str) : Ebb3.hasSub p s = isInfix p s := by
  induction s with
  | nil => rfl
  | cons c cs ih => simp only [Ebb3.hasSub, isInfix, isPrefixOf_eq, ih]

theorem ebb3_splitOn_eq (sep : Char) (s : Str) : Ebb3.splitOn sep s = splitOn sep s := by
  induction s with
  | nil => rfl
  | cons c cs ih =>
    simp only [Ebb3.splitOn, splitOn, ih]
    split
    · rfl
    · cases splitOn sep cs <;> rfl

theorem ebb3_isSpaceStr_eq (s : Str) : Ebb3.isSpaceStr s = isspace s := by
  unfold Ebb3.isSpaceStr isspace
  congr 1
  induction s with
  | nil => rfl
  | cons c cs ih => simp only [List.all_cons, ih, ebb3_isSpace_eq]

theorem ebb3_showInt_nat (n : Nat) : Ebb3.showInt (n : Int) = showNat n := by
  unfold Ebb3.showInt showNat
  show (Nat.repr n).toList = _
  exact Nat.toList_repr

theorem ebb3_showInt_nonneg {z : Int} (h : 0 ≤ z) : Ebb3.showInt z = showInt z := by
  obtain ⟨n, rfl⟩ := Int.eq_ofNat_of_zero_le h
  rw [ebb3_showInt_nat, showInt_ofNat]

theorem digitVal_of_isDigit {c : Char} (h : c.isDigit = true) : Ebb3.digitVal 10 c = some (c.toNat - 48) := by
  obtain ⟨h1, h2⟩ := (PyFloat.isDigit_iff c).mp h
  unfold Ebb3.digitVal
  simp only [h1, h2, and_self, if_true]
  have : c.toNat - 48 < 10 := by omega
  simp [this]

theorem parseDigits_digits (l : Str) (hl : ∀ c ∈ l, c.isDigit = true) (acc : Nat) (st : Ebb3.DigSt)
    (hne : l ≠ [] ∨ st = .digit) :
    Ebb3.parseDigits 10 l acc st = parseNatAux acc l := by
  induction l generalizing acc st with
  | nil =>
    rcases hne with h | h
    · exact absurd rfl h
    · subst h; rfl
  | cons c cs ih =>
    have hc := hl c List.mem_cons_self
    have hne95 : ¬ c.toNat = 95 := by have := (PyFloat.isDigit_iff c).mp hc; omega
    simp only [Ebb3.parseDigits, hne95, if_false, digitVal_of_isDigit hc, parseNatAux, hc, if_true]
    exact ih (fun d hd => hl d (List.mem_cons_of_mem _ hd)) _ _ (Or.inr rfl)

theorem ebb3_pyInt_showNat (x : Nat) : Ebb3.pyInt 10 (showNat x) = some (x : Int) := by
  have hd : ∀ c ∈ showNat x, c.isDigit = true := fun c hc => isDigit_of_mem_showNat hc
  have hne := showNat_ne_nil x
  have hnsC : ∀ c ∈ showNat x, Ebb3.isSpaceC c = false := by
    intro c hc
    have := not_space_of_isDigit (hd c hc)
    unfold isPySpace at this
    unfold Ebb3.isSpaceC
    simp only [Bool.or_eq_false_iff, Bool.and_eq_false_iff, decide_eq_false_iff_not, beq_eq_false_iff_ne] at this ⊢
    omega
  have hdrop : (showNat x).dropWhile Ebb3.isSpaceC = showNat x := by
    cases h : showNat x with
    | nil => rfl
    | cons c cs => simp [List.dropWhile, hnsC c (by rw [h]; exact List.mem_cons_self)]
  have hr : ∀ l : Str, (∀ c ∈ l, Ebb3.isSpaceC c = false) → Ebb3.rstripC l = l := by
    intro l hl
    induction l with
    | nil => rfl
    | cons c cs ih =>
      have := ih (fun d hd => hl d (List.mem_cons_of_mem _ hd))
      simp only [Ebb3.rstripC, this]
      cases cs with
      | nil => simp [hl c List.mem_cons_self]
      | cons d ds => rfl
  unfold Ebb3.pyInt
  rw [hdrop, hr _ hnsC]
  cases h : showNat x with
  | nil => exact absurd h hne
  | cons c cs =>
    have hc := hd c (by rw [h]; exact List.mem_cons_self)
    have h45 : ¬ c.toNat = 45 := by have := (PyFloat.isDigit_iff c).mp hc; omega
    have h43 : ¬ c.toNat = 43 := by have := (PyFloat.isDigit_iff c).mp hc; omega
    simp only [h45, h43, if_false]
    have hten : ¬ ((10 : Nat) = 16 ∧ Ebb3.has0x (c :: cs) = true) := by omega
    simp only [hten, if_false]
    rw [parseDigits_digits (c :: cs) (by rw [← h]; exact hd) 0 .start (Or.inl (by simp)), ← h, parseNatAux_showNat]
    rfl

end Plotink.C16
