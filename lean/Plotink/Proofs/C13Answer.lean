import Plotink.Proofs.C13Near
import Mathlib.Tactic.Linarith
import Mathlib.Algebra.Order.Ring.Rat
import Mathlib.Algebra.Order.Field.Basic

/-! C13: what `nearest` answers on a consistent index, in the words of the specification (`Answers`).  The clauses of
the property are projections of `Inv.answer`.  Its one geometric ingredient comes first: a point within one cell width
of the query lies in the query's cell or one of its eight neighbours (exact arithmetic). -/
namespace Plotink
namespace C13

theorem floor_le_floor_add_one {a b : Rat} (h : a ≤ b + 1) : a.floor ≤ b.floor + 1 := by
  have hb : b < ((b.floor + 1 : Int) : Rat) := Rat.floor_lt_iff.mp (by omega)
  have : a.floor < b.floor + 2 := by
    apply Rat.floor_lt_iff.mpr
    push_cast at hb ⊢
    linarith
  omega

theorem binClamp_close {bins : Nat} {lo size x x' : Rat} (hs : 0 < size) (h : x - x' ≤ size) :
    binClamp bins lo size x ≤ binClamp bins lo size x' + 1 := by
  have hab : (x - lo) / size ≤ (x' - lo) / size + 1 := by
    rw [← div_self hs.ne', ← add_div]
    exact div_le_div_of_nonneg_right (by linarith) hs.le
  have := floor_le_floor_add_one hab
  -- clamping both floors into `0 .. bins - 1` keeps them at most one apart
  unfold binClamp binHi
  omega

theorem sq_bound {dx dy w : Rat} (hw : 0 ≤ w) (h : dx * dx + dy * dy ≤ w * w) : dx ≤ w ∧ -dx ≤ w := by
  have h1 : |dx| * |dx| ≤ w * w := by
    rw [abs_mul_abs_self]; exact (le_add_of_nonneg_right (mul_self_nonneg dy)).trans h
  have h2 := abs_le.mp ((mul_self_le_mul_self_iff (abs_nonneg dx) hw).mpr h1)
  exact ⟨h2.2, neg_le.mp h2.1⟩

theorem near_of_close {G : Geo} (hbx : 0 < G.bx) (hby : 0 < G.by_) {q p : Pt}
    (h : sqDist q p ≤ min G.bx G.by_ * min G.bx G.by_) : Near (cellOf G q) (cellOf G p) := by
  have hw : 0 ≤ min G.bx G.by_ := le_min (le_of_lt hbx) (le_of_lt hby)
  have hwx : min G.bx G.by_ ≤ G.bx := min_le_left _ _
  have hwy : min G.bx G.by_ ≤ G.by_ := min_le_right _ _
  unfold sqDist at h
  simp only [] at h
  have hx := sq_bound hw h
  have hy := sq_bound (dx := q.2 - p.2) (dy := q.1 - p.1) hw (by linarith)
  unfold Near cellOf
  refine ⟨?_, ?_, ?_, ?_⟩
  · exact binClamp_close hbx (by linarith [hx.1])
  · exact binClamp_close hbx (by linarith [hx.2])
  · exact binClamp_close hby (by linarith [hy.1])
  · exact binClamp_close hby (by linarith [hy.2])

/-- what the property asks of the answer `ans` to the query `q`: `None` exactly when no path is live; otherwise a live
end that no live end of the query's neighbourhood beats, and a globally closest one when the neighbourhood is empty
or some live end is within one cell width -/
def Answers (verts : List Path) (rev : Bool) (live : List Nat) (G : Geo) (q : Pt) (ans : Option Nat) : Prop :=
  (ans = none ↔ live = []) ∧
  ∀ r, ans = some r → ∃ pr, LiveEnd verts rev live r pr ∧
    ∀ id p, LiveEnd verts rev live id p →
      (Near (cellOf G q) (cellOf G p) → sqDist q pr ≤ sqDist q p) ∧
      ((∀ id' p', LiveEnd verts rev live id' p' → ¬ Near (cellOf G q) (cellOf G p')) → sqDist q pr ≤ sqDist q p) ∧
      ((∃ id' p', LiveEnd verts rev live id' p' ∧ sqDist q p' ≤ min G.bx G.by_ * min G.bx G.by_) →
        sqDist q pr ≤ sqDist q p)

theorem Inv.answer {g : Grid} {live : List Nat} (h : Inv g live) (q : Pt) :
    Answers g.verts g.rev live g.toGeo q (nearest g q) := by
  refine ⟨nearest_eq_none_iff h q, fun r hr => ?_⟩
  obtain ⟨hm, hnb, hall⟩ := nearest_some hr
  have hr' := (mem_allIds_iff h q r).mp hm
  refine ⟨endPt g r, (liveEnd_iff h r _).mpr ⟨hr', rfl⟩, fun id p hp => ?_⟩
  obtain ⟨hid, rfl⟩ := (liveEnd_iff h id p).mp hp
  have hloc : ∀ {id'}, LiveId g live id' → Near (cellOf g.toGeo q) (cellOf g.toGeo (endPt g id')) →
      sqDist q (endPt g r) ≤ sqDist q (endPt g id') :=
    fun hl hn => hnb _ ((mem_nbIds_iff h q _).mpr ⟨hl, hn⟩)
  refine ⟨hloc hid, fun hempty => ?_, fun ⟨e, pe, hpe, hde⟩ => ?_⟩
  · -- an answer taken from the neighbourhood scan is what `hempty` excludes
    rcases hall with hm | hmin
    · exact absurd ((mem_nbIds_iff h q r).mp hm).2 (hempty r _ ((liveEnd_iff h r _).mpr ⟨hr', rfl⟩))
    · exact hmin id ((mem_allIds_iff h q id).mpr hid)
  · -- an end within one cell width is in the neighbourhood; so is any end that would beat the answer
    obtain ⟨he, rfl⟩ := (liveEnd_iff h e pe).mp hpe
    have hre := hloc he (near_of_close h.bx_pos h.by_pos hde)
    by_contra hcmp
    exact hcmp (hloc hid (near_of_close h.bx_pos h.by_pos (((not_le.mp hcmp).le.trans hre).trans hde)))

theorem Answers.at {verts : List Path} {rev : Bool} {live : List Nat} {G : Geo} {q : Pt} {ans : Option Nat}
    (h : Answers verts rev live G q ans) {r : Nat} {pr : Pt} (hr : ans = some r) (hpr : endPoint verts rev r = some pr)
    {id : Nat} {p : Pt} (hp : LiveEnd verts rev live id p) :
    (Near (cellOf G q) (cellOf G p) → sqDist q pr ≤ sqDist q p) ∧
    ((∀ id' p', LiveEnd verts rev live id' p' → ¬ Near (cellOf G q) (cellOf G p')) → sqDist q pr ≤ sqDist q p) ∧
    ((∃ id' p', LiveEnd verts rev live id' p' ∧ sqDist q p' ≤ min G.bx G.by_ * min G.bx G.by_) →
      sqDist q pr ≤ sqDist q p) := by
  obtain ⟨pr', hpr', hall⟩ := h.2 r hr
  obtain rfl : pr' = pr := Option.some.inj (hpr'.1.symm.trans hpr)
  exact hall id p hp

end C13
end Plotink
