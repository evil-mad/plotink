import Plotink.Gen.checkLimits
import Plotink.Gen.checkLimitsTol
import Plotink.Gen.point_in_bounds
import Plotink.Gen.constrainLimits
import Plotink.Gen.dotProductXY
import Plotink.Proofs.PyLemmas
import Mathlib.Tactic.Linarith

/-! Lemmas for C18.  The travel-limit helpers only compare: each is read off as a Boolean expression in the
outcomes of `Py.gt`/`Py.lt` (`clampVal`, `above`, `below`), and those are `<` on the numeric values. -/
namespace Plotink
namespace C18
open Py Py.Val

/-- `v` limited to `[l, u]`, as one of the three arguments: the value part of `checkLimits` and `checkLimitsTol` -/
def clampVal (v l u : Val) : Val := if Py.gt v u then u else if Py.lt v l then l else v

/-- beyond the computed band above `u`: `value > upper_bound` and `value > upper_bound + tolerance` -/
def above (R : Rounding) (amb : Nat) (v u t : Val) : Bool := Py.gt v u && Py.gt v (Py.add R amb u t)

/-- beyond the computed band below `l` -/
def below (R : Rounding) (amb : Nat) (v l t : Val) : Bool := Py.lt v l && Py.lt v (Py.sub R amb l t)

variable {v l u : Val}

theorem clampVal_above (h : num u < num v) : clampVal v l u = u := by
  rw [clampVal, if_pos ((gt_iff v u).mpr h)]

theorem clampVal_below (hlu : num l ≤ num u) (h : num v < num l) : clampVal v l u = l := by
  rw [clampVal, if_neg (mt (gt_iff v u).mp (not_lt.mpr (h.le.trans hlu))), if_pos ((lt_iff v l).mpr h)]

theorem clampVal_inside (h1 : num l ≤ num v) (h2 : num v ≤ num u) : clampVal v l u = v := by
  rw [clampVal, if_neg (mt (gt_iff v u).mp (not_lt.mpr h2)), if_neg (mt (lt_iff v l).mp (not_lt.mpr h1))]

theorem clampVal_range (hlu : num l ≤ num u) : num l ≤ num (clampVal v l u) ∧ num (clampVal v l u) ≤ num u := by
  rcases lt_or_ge (num u) (num v) with h | h2
  · rw [clampVal_above h]; exact ⟨hlu, le_refl _⟩
  · rcases lt_or_ge (num v) (num l) with h | h1
    · rw [clampVal_below hlu h]; exact ⟨le_refl _, hlu⟩
    · rw [clampVal_inside h1 h2]; exact ⟨h1, h2⟩

theorem checkLimits_eq (R : Rounding) (amb : Nat) (v l u : Val) :
    Gen.checkLimits R amb v l u = .tup [clampVal v l u, .bool_ (Py.gt v u || Py.lt v l)] := by
  unfold Gen.checkLimits clampVal
  cases Py.gt v u <;> cases Py.lt v l <;> rfl

/-- `dotProductXY` ends in the same cascade: the computed dot product limited to `[-1, 1]` -/
theorem dotProductXY_eq (R : Rounding) (amb : Nat) (a b : Val) :
    Gen.dotProductXY R amb a b =
      clampVal (add R amb (mul R amb (getItem a 0) (getItem b 0)) (mul R amb (getItem a 1) (getItem b 1)))
        (.int (-1)) (.int 1) := rfl

/-- above and below exclude each other in a non-empty range, so the flag does not depend on the order of the tests -/
theorem checkLimitsTol_eq (R : Rounding) (amb : Nat) (t : Val) (hlu : num l ≤ num u) :
    Gen.checkLimitsTol R amb v l u t = .tup [clampVal v l u, .bool_ (above R amb v u t || below R amb v l t)] := by
  unfold Gen.checkLimitsTol clampVal above below
  dsimp only
  cases a : Py.gt v u <;> cases b : Py.lt v l
  · rfl
  · cases Py.lt v (Py.sub R amb l t) <;> rfl
  · cases Py.gt v (Py.add R amb u t) <;> rfl
  · exact absurd (hlu.trans ((gt_iff v u).mp a).le) (not_le.mpr ((lt_iff v l).mp b))

theorem tolFlag_iff {R : Rounding} {amb : Nat} {t : Val} : (above R amb v u t || below R amb v l t) = true ↔
    (num u < num v ∧ num (Py.add R amb u t) < num v) ∨ (num v < num l ∧ num v < num (Py.sub R amb l t)) := by
  simp only [above, below, Bool.or_eq_true, Bool.and_eq_true, gt_iff, lt_iff]

theorem point_in_bounds_eq (R : Rounding) (amb : Nat) (x y x0 y0 x1 y1 t : Val) :
    Gen.point_in_bounds R amb (.tup [x, y]) (.tup [.tup [x0, y0], .tup [x1, y1]]) t =
      .bool_ (!(above R amb x x1 t || below R amb x x0 t) && !(above R amb y y1 t || below R amb y y0 t)) := by
  show (if below R amb x x0 t = true then Val.bool_ false else if below R amb y y0 t = true then .bool_ false else
    if above R amb x x1 t = true then .bool_ false else if above R amb y y1 t = true then .bool_ false else .bool_ true) = _
  cases below R amb x x0 t <;> cases below R amb y y0 t <;> cases above R amb x x1 t <;>
    cases above R amb y y1 t <;> rfl

/-! ### `constrainLimits`: `max(lower, min(upper, value))` -/

theorem min_pair (a b : Val) : Py.min_ [a, b] = if Py.lt b a then b else a := by
  simp only [Py.min_, List.foldl]
theorem max_pair (a b : Val) : Py.max_ [a, b] = if Py.gt b a then b else a := by
  simp only [Py.max_, List.foldl]

theorem num_min_pair (a b : Val) : num (Py.min_ [a, b]) = min (num a) (num b) := by
  rw [min_pair]
  split
  next h => rw [min_eq_right ((lt_iff b a).mp h).le]
  next h => rw [min_eq_left (not_lt.mp (mt (lt_iff b a).mpr h))]

theorem num_max_pair (a b : Val) : num (Py.max_ [a, b]) = max (num a) (num b) := by
  rw [max_pair]
  split
  next h => rw [max_eq_right ((gt_iff b a).mp h).le]
  next h => rw [max_eq_left (not_lt.mp (mt (gt_iff b a).mpr h))]

theorem constrainLimits_mem (R : Rounding) (amb : Nat) (v l u : Val) :
    Gen.constrainLimits R amb v l u = v ∨ Gen.constrainLimits R amb v l u = l ∨
      Gen.constrainLimits R amb v l u = u := by
  unfold Gen.constrainLimits
  rw [max_pair, min_pair]
  split <;> split <;> simp

theorem num_constrainLimits (R : Rounding) (amb : Nat) (v l u : Val) :
    num (Gen.constrainLimits R amb v l u) = max (num l) (min (num u) (num v)) := by
  unfold Gen.constrainLimits
  rw [num_max_pair, num_min_pair]

end C18
end Plotink
