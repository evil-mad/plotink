import Plotink.Proofs.C04Latch
import Plotink.Proofs.Ebb3Str
/-!
The numerals `int()` accepts and well-formed payloads (syntactic): the decoders of the methods accept them (`strip` on
texts that have no surrounding whitespace: `Proofs/Ebb3Str.lean`).  Core Lean only.
-/
namespace Plotink
namespace Ebb3

def isDigit (c : Char) : Bool := 48 ≤ c.toNat && c.toNat ≤ 57

def digitsVal (ds : Str) (acc : Nat) : Nat := ds.foldl (fun a c => a * 10 + (c.toNat - 48)) acc

def decDigits? (ds : Str) : Option Nat :=
  if ds ≠ [] ∧ ds.all isDigit = true then some (digitsVal ds 0) else Option.none

/-- an optional minus sign followed by one or more decimal digits (what the firmware prints) -/
def numeral? : Str → Option Int
  | [] => Option.none
  | c :: cs =>
    if c.toNat = 45 then
      (match decDigits? cs with
       | some n => some (-(Int.ofNat n))
       | Option.none => Option.none)
    else
      (match decDigits? (c :: cs) with
       | some n => some (Int.ofNat n)
       | Option.none => Option.none)

theorem isDigit_not_space {c : Char} (h : isDigit c = true) : isSpace c = false ∧ isSpaceC c = false ∧
    c.toNat ≠ 95 ∧ c.toNat ≠ 45 ∧ c.toNat ≠ 43 ∧ c ≠ ',' := by
  simp only [isDigit, Bool.and_eq_true, decide_eq_true_eq] at h
  refine ⟨?_, ?_, by omega, by omega, by omega, ?_⟩
  · simp [isSpace]; omega
  · simp [isSpaceC]; omega
  · intro hc; subst hc; simp at h

theorem digitVal_digit {c : Char} (h : isDigit c = true) : digitVal 10 c = some (c.toNat - 48) := by
  simp only [isDigit, Bool.and_eq_true, decide_eq_true_eq] at h
  simp only [digitVal, h.1, h.2, and_self, if_true]
  have : c.toNat - 48 < 10 := by omega
  simp [this]

theorem parseDigits_digits : ∀ (ds : Str) (acc : Nat) (st : DigSt),
    ds.all isDigit = true → (ds ≠ [] ∨ st = .digit) →
    parseDigits 10 ds acc st = some (digitsVal ds acc)
  | [], acc, st, _, h => by
    rcases h with h | h
    · exact absurd rfl h
    · subst h; rfl
  | c :: cs, acc, st, hall, _ => by
    simp only [List.all_cons, Bool.and_eq_true] at hall
    have hd := isDigit_not_space hall.1
    simp only [parseDigits, hd.2.2.1, if_false, digitVal_digit hall.1]
    rw [parseDigits_digits cs _ .digit hall.2 (Or.inr rfl)]
    rfl

theorem rstripC_id : ∀ (s : Str), (∀ c ∈ s, isSpaceC c = false) → rstripC s = s
  | [], _ => rfl
  | c :: cs, h => by
    have hc : isSpaceC c = false := h c (by simp)
    have ih := rstripC_id cs (fun d hd => h d (by simp [hd]))
    rw [rstripC, ih]
    cases cs with
    | nil => simp [hc]
    | cons d ds => rfl

theorem decDigits?_some {ds : Str} {n : Nat} (h : decDigits? ds = some n) :
    ds ≠ [] ∧ ds.all isDigit = true ∧ n = digitsVal ds 0 := by
  unfold decDigits? at h
  split at h
  · rename_i hc
    injection h with h
    exact ⟨hc.1, hc.2, h.symm⟩
  · cases h

theorem decDigits?_chars {ds : Str} {n : Nat} (h : decDigits? ds = some n) :
    ∀ c ∈ ds, isSpace c = false ∧ isSpaceC c = false ∧ c ≠ ',' := fun c hc =>
  have := isDigit_not_space (List.all_eq_true.mp (decDigits?_some h).2.1 c hc)
  ⟨this.1, this.2.1, this.2.2.2.2.2⟩

theorem numeral?_chars {s : Str} {z : Int} (h : numeral? s = some z) :
    s ≠ [] ∧ ∀ c ∈ s, isSpace c = false ∧ isSpaceC c = false ∧ c ≠ ',' := by
  cases s with
  | nil => cases h
  | cons c cs =>
    refine ⟨by simp, ?_⟩
    rw [numeral?] at h
    split at h
    · rename_i hm
      cases hd : decDigits? cs with
      | none => simp [hd] at h
      | some n =>
        intro d hdm
        rcases List.mem_cons.mp hdm with rfl | hdm
        · exact ⟨by simp [isSpace, hm], by simp [isSpaceC, hm], fun hc => by subst hc; simp at hm⟩
        · exact decDigits?_chars hd d hdm
    · cases hd : decDigits? (c :: cs) with
      | none => simp [hd] at h
      | some n => exact decDigits?_chars hd

theorem parse_decDigits {ds : Str} {n : Nat} (hd : decDigits? ds = some n) :
    (if 10 = 16 ∧ has0x ds = true then parseDigits 16 (ds.drop 2) 0 .pfx else parseDigits 10 ds 0 .start) = some n := by
  have hdd := decDigits?_some hd
  rw [if_neg (by simp), parseDigits_digits ds 0 .start hdd.2.1 (Or.inl hdd.1), hdd.2.2]

theorem pyInt_numeral {s : Str} {z : Int} (h : numeral? s = some z) : pyInt 10 s = some z := by
  have hch := numeral?_chars h
  cases s with
  | nil => cases h
  | cons c cs =>
    have hdrop : List.dropWhile isSpaceC (c :: cs) = c :: cs := by
      rw [List.dropWhile_cons]; simp [(hch.2 c (by simp)).2.1]
    have hr : rstripC (c :: cs) = c :: cs := rstripC_id _ (fun d hd => (hch.2 d hd).2.1)
    unfold pyInt
    simp only [hdrop, hr]
    rw [numeral?] at h
    by_cases hm : c.toNat = 45
    · simp only [hm, if_true] at h ⊢
      cases hd : decDigits? cs with
      | none => simp [hd] at h
      | some n =>
        simp only [hd, Option.some.injEq] at h
        rw [parse_decDigits hd]
        exact congrArg some h
    · simp only [hm, if_false] at h ⊢
      cases hd : decDigits? (c :: cs) with
      | none => simp [hd] at h
      | some n =>
        have hdd := decDigits?_some hd
        simp only [hd, Option.some.injEq] at h
        have hc : isDigit c = true := by
          have := hdd.2.1
          simp only [List.all_cons, Bool.and_eq_true] at this
          exact this.1
        have hp : c.toNat ≠ 43 := (isDigit_not_space hc).2.2.2.2.1
        simp only [hp, if_false]
        rw [parse_decDigits hd]
        exact congrArg some h

theorem splitOn_no_sep (sep : Char) : ∀ (s : Str), sep ∉ s → splitOn sep s = [s]
  | [], _ => rfl
  | c :: cs, h => by
    have hc : c ≠ sep := fun e => h (by simp [e])
    have ih := splitOn_no_sep sep cs (fun m => h (by simp [m]))
    simp [splitOn, hc, ih]

theorem splitOn_append (sep : Char) : ∀ (a b : Str), sep ∉ a →
    splitOn sep (a ++ sep :: b) = a :: splitOn sep b
  | [], b, _ => by simp [splitOn]
  | c :: cs, b, h => by
    have hc : c ≠ sep := fun e => h (by simp [e])
    have ih := splitOn_append sep cs b (fun m => h (by simp [m]))
    simp [splitOn, hc, ih]

theorem split1_append (sep : Char) : ∀ (a b : Str), sep ∉ a → split1 sep (a ++ sep :: b) = (a, some b)
  | [], b, _ => by simp [split1]
  | c :: cs, b, h => by
    have hc : c ≠ sep := fun e => h (by simp [e])
    have ih := split1_append sep cs b (fun m => h (by simp [m]))
    simp [split1, hc, ih]

def Good2 (p : Int → Int → Prop) (s : Str) : Prop :=
  ∃ a b za zb, s = a ++ ',' :: b ∧ numeral? a = some za ∧ numeral? b = some zb ∧ p za zb

/-- the payloads the methods decode, per query name (any text for every other name):
`QS`/`QC`: two numerals; `QE`: two numerals from the table {0,1,2,4,8,16}; `PI`: a numeral;
`QL`: a numeral in 0..255 -/
def GoodPayload (name s : Str) : Prop :=
  (name = "QS".toList → Good2 (fun _ _ => True) s) ∧
  (name = "QC".toList → Good2 (fun _ _ => True) s) ∧
  (name = "QE".toList → Good2 (fun a b => (resMap a).isSome = true ∧ (resMap b).isSome = true) s) ∧
  (name = "PI".toList → ∃ z, numeral? s = some z) ∧
  (name = "QL".toList → ∃ z, numeral? s = some z ∧ 0 ≤ z ∧ z < 256)

/-- the queries whose payload some method decodes -/
def parsedNames : List Str := ["QS".toList, "QC".toList, "QE".toList, "PI".toList, "QL".toList]

theorem goodPayload_of_not_parsed {name : Str} (h : name ∉ parsedNames) (s : Str) : GoodPayload name s := by
  simp only [parsedNames, List.mem_cons, List.not_mem_nil, or_false, not_or] at h
  exact ⟨fun e => absurd e h.1, fun e => absurd e h.2.1, fun e => absurd e h.2.2.1,
    fun e => absurd e h.2.2.2.1, fun e => absurd e h.2.2.2.2⟩

theorem good2_facts {p : Int → Int → Prop} {s : Str} (h : Good2 p s) :
    ∃ a b za zb, p za zb ∧ strip s = s ∧ splitOn ',' s = [a, b] ∧ split1 ',' s = (a, some b) ∧
      pyInt 10 a = some za ∧ pyInt 10 b = some zb := by
  obtain ⟨a, b, za, zb, hs, ha, hb, hp⟩ := h
  have hca := numeral?_chars ha
  have hcb := numeral?_chars hb
  have hna : ',' ∉ a := fun m => (hca.2 _ m).2.2 rfl
  have hnb : ',' ∉ b := fun m => (hcb.2 _ m).2.2 rfl
  refine ⟨a, b, za, zb, hp, ?_, ?_, ?_, pyInt_numeral ha, pyInt_numeral hb⟩
  · apply strip_id
    intro c hc
    rw [hs] at hc
    simp only [List.mem_append, List.mem_cons] at hc
    rcases hc with hc | rfl | hc
    · exact (hca.2 c hc).1
    · decide
    · exact (hcb.2 c hc).1
  · rw [hs, splitOn_append ',' a b hna, splitOn_no_sep ',' b hnb]
  · rw [hs, split1_append ',' a b hna]

variable {σ : Type}

theorem int2_good {p : Int → Int → Prop} {s : Str} (h : Good2 p s) (w : World σ) :
    ∃ za zb, int2 (splitOn ',' (strip s)) w = (.ok (.pair (.int za) (.int zb)), w) := by
  obtain ⟨a, b, za, zb, -, hst, hsp, -, ha, hb⟩ := good2_facts h
  refine ⟨za, zb, ?_⟩
  rw [hst, hsp]
  simp [int2, ha, hb, bind_apply]

theorem qeDecode_good {s : Str}
    (h : Good2 (fun a b => (resMap a).isSome = true ∧ (resMap b).isSome = true) s) (w : World σ) :
    ∃ ra rb, qeDecode (splitOn ',' s) w = (.ok (.pair (.int ra) (.int rb)), w) := by
  obtain ⟨a, b, za, zb, hp, -, hsp, -, ha, hb⟩ := good2_facts h
  obtain ⟨ra, hra⟩ := Option.isSome_iff_exists.mp hp.1
  obtain ⟨rb, hrb⟩ := Option.isSome_iff_exists.mp hp.2
  refine ⟨ra, rb, ?_⟩
  rw [hsp]
  simp [qeDecode, ha, hb, hra, hrb, bind_apply]

theorem currentDecode_good {p : Int → Int → Prop} {s : Str} (h : Good2 p s) (w : World σ) :
    ∃ za zb, currentDecode (split1 ',' s) w = (.ok (.pair (.int za) (.int zb)), w) := by
  obtain ⟨a, b, za, zb, -, -, -, hsp, ha, hb⟩ := good2_facts h
  refine ⟨za, zb, ?_⟩
  rw [hsp]
  simp [currentDecode, ha, hb, bind_apply]

theorem voltageDecode_good {p : Int → Int → Prop} {s : Str} (th : Int) (h : Good2 p s) (w : World σ) :
    ∃ b, voltageDecode th (split1 ',' s) w = (.ok (.bool b), w) := by
  obtain ⟨a, b, za, zb, -, -, -, hsp, ha, hb⟩ := good2_facts h
  refine ⟨!(zb < th), ?_⟩
  rw [hsp]
  simp [voltageDecode, hb]

theorem boolOfStr_good {s : Str} {z : Int} (h : numeral? s = some z) (w : World σ) :
    boolOfStr s w = (.ok (.bool (z ≠ 0)), w) := by
  simp [boolOfStr, pyInt_numeral h]

theorem intOfVal_good {s : Str} {z : Int} (h : numeral? s = some z) (w : World σ) :
    intOfVal (.str s) w = (.ok (.int z), w) := by
  simp [intOfVal, pyInt_numeral h]

end Ebb3
end Plotink
