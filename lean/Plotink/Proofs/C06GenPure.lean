import Plotink.Proofs.Keeps
/-! # Statements that do no I/O leave the world alone

The helpers that *query* the board post-process the reply (`split`, `int`, comparisons, `try … except`).  For "what was
transmitted" only the fact matters that this part touches neither the port nor the fuel: `PureE` / `PureX` / `PureS` are
`KeepsE` / `KeepsS` of `Keeps` for the relation "the same world" with running out of fuel excluded (the `_keeps` lemmas,
in the set `fr`), so they are closed under the combinators of `PyObj` except `while`, and `fr_walk` proves them of the
tail of a generated helper. -/
namespace Plotink
namespace C06Gen
open PyObj
section
variable {ω σ : Type}

def flowWorld : Flow ω σ → Option (World ω)
  | .norm _ w => some w
  | .ret _ w => some w
  | .exc _ _ w => some w
  | .brk _ w => some w
  | .cont _ w => some w
  | .fuelOut => Option.none

def PureE (e : Eff ω) : Prop := ∀ w, (∃ v, e w = (.ok v, w)) ∨ (∃ c, e w = (.exc c, w))
def PureX (e : Expr ω σ) : Prop := ∀ fuel env, PureE (e fuel env)
def PureS (s : Stmt ω σ) : Prop := ∀ fuel env w, flowWorld (s fuel env w) = some w

def eqRel : WRel ω := ⟨fun w w' => w' = w, fun _ => rfl, fun h1 h2 => h2.trans h1⟩

theorem pureE_keeps {e : Eff ω} : PureE e ↔ KeepsE eqRel False e := by
  refine forall_congr' fun w => ?_
  show _ ↔ (e w).2 = w ∧ ((e w).1 = .fuelOut → False)
  rcases e w with ⟨r, w'⟩
  constructor
  · rintro (⟨v, h⟩ | ⟨c, h⟩) <;> cases h <;> exact ⟨rfl, nofun⟩
  · rintro ⟨rfl, h⟩
    cases r
    · exact Or.inl ⟨_, rfl⟩
    · exact Or.inr ⟨_, rfl⟩
    · exact (h rfl).elim

theorem flowWorld_keeps {w : World ω} {fl : Flow ω σ} : flowWorld fl = some w ↔ KeepsF eqRel False w fl := by
  cases fl <;> simp [flowWorld, KeepsF, eqRel]

theorem pureS_keeps {s : Stmt ω σ} : PureS s ↔ KeepsS eqRel False s :=
  forall_congr' fun _ => forall_congr' fun _ => forall_congr' fun _ => flowWorld_keeps

theorem pureX_keeps {e : Expr ω σ} : PureX e ↔ ∀ fuel env, KeepsE eqRel False (e fuel env) :=
  forall_congr' fun _ => forall_congr' fun _ => pureE_keeps

theorem keepsEs_of_mem : ∀ {l : List (Eff ω)}, (∀ e ∈ l, PureE e) → KeepsEs eqRel False l
  | [], _ => trivial
  | a :: _, h => ⟨pureE_keeps.mp (h a List.mem_cons_self), keepsEs_of_mem fun e he => h e (List.mem_cons_of_mem _ he)⟩

theorem keepsSs_of_mem : ∀ {l : List (Stmt ω σ)}, (∀ s ∈ l, PureS s) → KeepsSs eqRel False l
  | [], _ => trivial
  | a :: _, h => ⟨pureS_keeps.mp (h a List.mem_cons_self), keepsSs_of_mem fun e he => h e (List.mem_cons_of_mem _ he)⟩

theorem keepsHs_of_mem : ∀ {l : List (Handler ω σ)}, (∀ h ∈ l, PureS h.body) → KeepsHs eqRel False l
  | [], _ => trivial
  | a :: _, h => ⟨pureS_keeps.mp (h a List.mem_cons_self), keepsHs_of_mem fun e he => h e (List.mem_cons_of_mem _ he)⟩

theorem pureE_app3 (f : Val → Val → Val → P) {a b c : Eff ω} (ha : PureE a) (hb : PureE b) (hc : PureE c) :
    PureE (app3 f a b c) :=
  pureE_keeps.mpr (.app3 f (pureE_keeps.mp ha) (pureE_keeps.mp hb) (pureE_keeps.mp hc))
theorem pureE_or {a b : Eff ω} (ha : PureE a) (hb : PureE b) : PureE (or_ a b) :=
  pureE_keeps.mpr (.or_ (pureE_keeps.mp ha) (pureE_keeps.mp hb))
theorem pureE_mkList (l : List (Eff ω)) (hl : ∀ e ∈ l, PureE e) : PureE (mkList l) :=
  pureE_keeps.mpr (.mkList (keepsEs_of_mem hl))

theorem flowWorld_of_pureE {e : Eff ω} (he : PureE e) (w : World ω) (k : Res × World ω → Flow ω σ)
    (hok : ∀ v, flowWorld (k (.ok v, w)) = some w) (hexc : ∀ c, flowWorld (k (.exc c, w)) = some w) :
    flowWorld (k (e w)) = some w := by
  rcases he w with ⟨v, h⟩ | ⟨c, h⟩
  · rw [h]; exact hok v
  · rw [h]; exact hexc c

theorem pureS_expr {e : Expr ω σ} (he : PureX e) : PureS (expr e) := pureS_keeps.mpr (.expr (pureX_keeps.mp he))

theorem flowWorld_seq {a b : Stmt ω σ} (hb : PureS b) (fuel : Nat) (env : σ) (w w1 : World ω)
    (ha : flowWorld (a fuel env w) = some w1) : flowWorld (seq a b fuel env w) = some w1 :=
  flowWorld_keeps.mpr (KeepsF.seq (flowWorld_keeps.mp ha) (pureS_keeps.mp hb))

theorem pureS_block : ∀ (l : List (Stmt ω σ)), (∀ s ∈ l, PureS s) → PureS (block l) :=
  fun l h => pureS_keeps.mpr (.block l (keepsSs_of_mem h))

theorem flowWorld_try {body : Stmt ω σ} {hs : List (Handler ω σ)} (hh : ∀ h ∈ hs, PureS h.body) (fuel : Nat) (env : σ)
    (w w1 : World ω) (hb : flowWorld (body fuel env w) = some w1) : flowWorld (tryExcept body hs fuel env w) = some w1 :=
  flowWorld_keeps.mpr (KeepsF.tryExcept (flowWorld_keeps.mp hb) (keepsHs_of_mem hh))

theorem flowWorld_ifte_true {c : Expr ω σ} {a b : Stmt ω σ} {fuel : Nat} {env : σ} {w : World ω} {v : Val}
    (hc : c fuel env w = (.ok v, w)) (hv : truthy v = true) : ifte c a b fuel env w = a fuel env w := by
  simp only [ifte, hc, hv, ↓reduceIte]

end

attribute [fr] pureE_keeps pureS_keeps pureX_keeps

end C06Gen
end Plotink
