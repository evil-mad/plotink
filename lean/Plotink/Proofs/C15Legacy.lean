import Plotink.Proofs.C15Io
/-! # C15 — legacy layer: `min_version` and the gated features (core Lean only) -/
namespace Plotink.C15

/-- the board's version reply passes the gate `thr` -/
def GateOk (io : Io) (thr : Str) : Prop :=
  ∃ reply v g, Reports io reply ∧ versionOf reply = some v ∧ parseVersion thr = some g ∧ vle g v = true

theorem read_written {io io' : Io} {x : Option Str} (h : io.read = (x, io')) : io'.written = io.written := by
  rw [read_eq] at h; rw [← (Prod.mk.inj h).2]

theorem read_cases {io io' : Io} {l : Str} (h : io.read = (some l, io')) :
    io.reads = .line l :: io'.reads ∨
    (l = [] ∧ (io.reads = .empty :: io'.reads ∨ (io.reads = [] ∧ io'.reads = []))) := by
  unfold Io.read at h
  split at h
  · rename_i h0; simp at h; obtain ⟨h1, h2⟩ := h; subst h2; right; exact ⟨h1, Or.inr ⟨h0, h0⟩⟩
  · rename_i s r h0; simp at h; obtain ⟨h1, h2⟩ := h; subst h2; subst h1; left; exact h0
  · rename_i r h0; simp at h; obtain ⟨h1, h2⟩ := h; subst h2; right; exact ⟨h1, Or.inl h0⟩
  · simp at h

theorem reports_cons {io io' : Io} {r : Rd} {s : Str} (hr : r.silent = true) (h : io.reads = r :: io'.reads) :
    Reports io' s → Reports io s
  | ⟨pre, post, hreads, hpre, hs⟩ =>
    ⟨r :: pre, post, by rw [h, hreads]; rfl, List.forall_mem_cons.mpr ⟨hr, hpre⟩, hs⟩

theorem reports_of_read {io io' : Io} {s : Str} (h : io.read = (some [], io')) (hr : Reports io' s) :
    Reports io s := by
  rcases read_cases h with h1 | ⟨_, h1 | ⟨_, h2⟩⟩
  · exact reports_cons rfl h1 hr
  · exact reports_cons rfl h1 hr
  · obtain ⟨pre, post, hreads, _⟩ := hr
    rw [h2] at hreads; simp at hreads

/-- after the write, first read and retry loop are one loop from `''` -/
theorem retryL_nil (d : Bool) (n : Nat) (io : Io) :
    retryL d (n + 1) (.str []) io =
      match io.read with
      | (Option.none, io') => (.str [], true, io')
      | (some l, io') => retryL d n (if d then .str l else .bytes l) io' := rfl

/-- the text of the `try` block, whether or not the trailing line is skipped -/
theorem lqueryTry_fst (P : Params) (hd : P.decodeRetry = true) (io : Io) (c : List Char) :
    (lqueryTry P io c).1 =
      if (io.write c).1 = true then .str [] else (retryL true (P.retryL + 1) (.str []) (io.write c).2).1 := by
  rw [lqueryTry, hd]
  rcases io.write c with ⟨_ | _, io1⟩
  · simp only [retryL_nil, Bool.false_eq_true, ↓reduceIte]
    rcases io1.read with ⟨_ | l, io2⟩
    · rfl
    · dsimp only
      rcases retryL true P.retryL (.str l) io2 with ⟨r, _ | _, io3⟩ <;> rfl
  · rfl

theorem retryL_written (d : Bool) (n : Nat) (r : Resp) (io : Io) :
    (retryL d n r io).2.2.written = io.written := by
  induction n generalizing r io with
  | zero => rfl
  | succ n ih =>
    unfold retryL
    split
    · rfl
    · split
      · rename_i h; exact read_written h
      · rename_i h; rw [ih]; exact read_written h

theorem retryL_nonempty (d : Bool) (n : Nat) {r : Resp} (io : Io) (hr : r.text ≠ []) :
    retryL d n r io = (r, false, io) := by
  cases n with
  | zero => rfl
  | succ n =>
    simp only [retryL, List.isEmpty_eq_false_iff.mpr hr, Bool.not_false, ↓reduceIte]

/-- a read of `l` followed by the retry loop on a response with that text: what comes out is the board's report,
given that it is for the rest of the script when `l` is empty -/
theorem reports_step {d : Bool} {n : Nat} {io io' : Io} {l s : Str} {r : Resp} (hrd : io.read = (some l, io'))
    (hr : r.text = l) (h : (retryL d n r io').1 = .str s) (hs : s ≠ []) (ih : l = [] → Reports io' s) :
    Reports io s := by
  by_cases hl : l = []
  · subst hl; exact reports_of_read hrd (ih rfl)
  · rw [retryL_nonempty d n io' (hr ▸ hl)] at h
    have hls : l = s := by rw [← hr, show r = .str s from h]; rfl
    subst hls
    rcases read_cases hrd with h1 | ⟨h1, _⟩
    · exact ⟨[], io'.reads, by simpa using h1, by simp, hs⟩
    · exact absurd h1 hl

theorem retryL_reports (d : Bool) (n : Nat) (r : Resp) (io : Io) (s : Str)
    (h : (retryL d n r io).1 = .str s) (hs : s ≠ []) (hr : r.text = []) : Reports io s := by
  induction n generalizing r io with
  | zero =>
    simp only [retryL] at h
    rw [h] at hr; exact absurd hr hs
  | succ n ih =>
    unfold retryL at h
    simp only [hr, List.isEmpty_nil, Bool.not_true, Bool.false_eq_true, ↓reduceIte] at h
    split at h
    · simp only at h; rw [h] at hr; exact absurd hr hs
    · rename_i l io' hrd
      have ht : (if d = true then Resp.str l else Resp.bytes l).text = l := by cases d <;> rfl
      exact reports_step hrd ht h hs (fun hl => ih _ io' h (hl ▸ ht))

theorem write_raise {io io1 : Io} {b : Str} (h : io.write b = (true, io1)) : io1.written = io.written := by
  rw [write_eq] at h
  simp only [Prod.mk.injEq, decide_eq_true_eq] at h
  obtain ⟨h1, h2⟩ := h
  subst h2; simp [h1]

theorem write_ok {io io1 : Io} {b : Str} (h : io.write b = (false, io1)) :
    io1.written = io.written ++ [b] ∧ io1.reads = io.reads := by
  rw [write_eq] at h
  simp only [Prod.mk.injEq, decide_eq_false_iff_not] at h
  obtain ⟨h1, h2⟩ := h
  subst h2; simp [h1]

theorem lqueryExtra_written (P : Params) (io : Io) (cmd : Str) : (lqueryExtra P io cmd).written = io.written := by
  unfold lqueryExtra
  split
  · rfl
  · split
    · rename_i io4 hr; exact read_written hr
    · rename_i u io4 hr; rw [retryL_written]; exact read_written hr

theorem lqueryTry_cases (P : Params) (io : Io) (cmd : Str) :
    ((lqueryTry P io cmd).1 = .str [] ∧ (lqueryTry P io cmd).2.written = io.written) ∨
    (lqueryTry P io cmd).2.written = io.written ++ [cmd] := by
  unfold lqueryTry
  split
  · rename_i io1 hw; left; exact ⟨rfl, write_raise hw⟩
  · rename_i io1 hw
    right
    have h1 := (write_ok hw).1
    split
    · rename_i io2 hr; simp only; rw [read_written hr]; exact h1
    · rename_i l io2 hr
      have h2 := read_written hr
      have h3 := retryL_written P.decodeRetry P.retryL (.str l) io2
      split
      · rename_i r io3 hl
        rw [hl] at h3; simp only at h3 ⊢; rw [h3, h2, h1]
      · rename_i r io3 hl
        rw [hl] at h3; simp only at h3 ⊢
        rw [lqueryExtra_written, h3, h2, h1]

theorem lqueryTry_reports (P : Params) (io : Io) (cmd s : Str)
    (h : (lqueryTry P io cmd).1 = .str s) (hs : s ≠ []) : Reports io s := by
  unfold lqueryTry at h
  split at h
  · simp only [Resp.str.injEq] at h; exact absurd h.symm hs
  · rename_i io1 hw
    have key : Reports io1 s := by
      split at h
      · simp only [Resp.str.injEq] at h; exact absurd h.symm hs
      · rename_i l io2 hr
        have hfirst : (retryL P.decodeRetry P.retryL (.str l) io2).1 = .str s := by
          split at h <;> (rename_i r io3 hl; rw [hl]; exact h)
        exact reports_step hr rfl hfirst hs (fun hl => retryL_reports _ _ _ _ _ hfirst hs hl)
    obtain ⟨pre, post, h1, h2, h3⟩ := key
    exact ⟨pre, post, by rw [← (write_ok hw).2]; exact h1, h2, h3⟩

theorem lquery_fst (P : Params) (io : Io) (cmd : Str) : (lquery P io cmd).1 = (lqueryTry P io cmd).2 := by
  unfold lquery; split <;> (rename_i h; rw [h])

theorem lquery_ok {P : Params} {io : Io} {cmd s : Str} (h : (lquery P io cmd).2 = .ok s) :
    (lqueryTry P io cmd).1 = .str s := by
  unfold lquery at h
  split at h
  · rename_i h'; rw [h', ← Except.ok.inj h]
  · cases h

theorem lquery_written (P : Params) (io : Io) (cmd : Str) :
    (lquery P io cmd).1.written = io.written ∨ (lquery P io cmd).1.written = io.written ++ [cmd] := by
  rw [lquery_fst]; exact (lqueryTry_cases P io cmd).imp And.right id

theorem lquery_written_ok (P : Params) (io : Io) (cmd s : Str)
    (h : (lquery P io cmd).2 = .ok s) (hs : s ≠ []) : (lquery P io cmd).1.written = io.written ++ [cmd] := by
  rw [lquery_fst]
  exact (lqueryTry_cases P io cmd).resolve_left fun ⟨h0, _⟩ => hs (Resp.str.inj ((lquery_ok h).symm.trans h0))

theorem lquery_reports (P : Params) (io : Io) (cmd s : Str)
    (h : (lquery P io cmd).2 = .ok s) (hs : s ≠ []) : Reports io s :=
  lqueryTry_reports P io cmd s (lquery_ok h) hs

theorem lcommand_written (P : Params) (io : Io) (cmd : Str) :
    (lcommand P io cmd).written = io.written ∨ (lcommand P io cmd).written = io.written ++ [cmd] := by
  unfold lcommand
  split
  · rename_i io1 hw; left; exact write_raise hw
  · rename_i io1 hw
    right
    split
    · rename_i io2 hr; rw [read_written hr]; exact (write_ok hw).1
    · rename_i l io2 hr
      rw [retryL_written, read_written hr]; exact (write_ok hw).1

theorem versionText_nil : versionText [] = none := by
  have h : fwv.isEmpty = false := by
    show "Firmware Version ".toList.isEmpty = false
    rw [String.toList_ofList]; rfl
  unfold versionText afterFirst
  rw [h]; rfl

theorem lminVersion_io (P : Params) (io : Io) (thr : Str) : (lminVersion P io thr).1 = (lquery P io vQuery).1 := by
  unfold lminVersion
  rcases lquery P io vQuery with ⟨io1, e | reply⟩
  · rfl
  · dsimp only; split; rfl; split <;> rfl

theorem lminVersion_written (P : Params) (io : Io) (thr : Str) :
    (lminVersion P io thr).1.written = io.written ∨ (lminVersion P io thr).1.written = io.written ++ [vQuery] := by
  rw [lminVersion_io]; exact lquery_written P io vQuery

theorem truthy_some (b : Bool) : truthy (some b) = b := by cases b <;> rfl

theorem lminVersion_truthy (P : Params) (io : Io) (thr : Str) (vs : Option Bool)
    (h : (lminVersion P io thr).2 = .ok vs) (ht : truthy vs = true) :
    GateOk io thr ∧ (lminVersion P io thr).1.written = io.written ++ [vQuery] := by
  rw [lminVersion_io]
  unfold lminVersion at h
  split at h
  · cases h
  · rename_i io1 reply hq
    have hq : (lquery P io vQuery).2 = .ok reply := by rw [hq]
    split at h
    · cases h; cases ht
    · rename_i t hvt
      split at h
      · rename_i v g hv hg
        cases h
        rw [truthy_some, versionGe_eq_vle] at ht
        have hne : reply ≠ [] := by rintro rfl; rw [versionText_nil] at hvt; cases hvt
        have hvo : versionOf reply = some v := by simp only [versionOf, hvt, hv, Option.bind_some]
        exact ⟨⟨reply, v, g, lquery_reports P io vQuery reply hq hne, hvo, hg, ht⟩,
          lquery_written_ok P io vQuery reply hq hne⟩
      · cases h

theorem lminVersion_of_reply {P : Params} {io : Io} {thr reply : Str} {v g : List Nat}
    (hq : (lquery P io vQuery).2 = .ok reply) (hv : versionOf reply = some v) (hg : parseVersion thr = some g) :
    (lminVersion P io thr).2 = .ok (some (vle g v)) := by
  obtain ⟨t, hvt, hv⟩ := Option.bind_eq_some_iff.mp hv
  unfold lminVersion
  revert hq
  rcases lquery P io vQuery with ⟨io1, r⟩
  rintro rfl
  simp only [hvt, hv, hg, versionGe_eq_vle]

/-- shape shared by the five gated features: what reaches the device is nothing, the version query, or the
version query followed by the feature's command — the last only when the version reply passes the gate -/
def GateShape (io io' : Io) (thr cmd : Str) : Prop :=
  io'.written = io.written ∨ io'.written = io.written ++ [vQuery] ∨
  (io'.written = io.written ++ [vQuery, cmd] ∧ GateOk io thr)

/-- the five gated features are this `match`: an error of the gate call is passed on, otherwise `body` runs on what the
call left of the script.  If `body` writes at most `cmd`, and nothing when the gate's answer is not truthy, the feature
has the gate shape. -/
theorem gateShape_gated {α : Type} (P : Params) (io : Io) (thr cmd : Str) (body : Io → Option Bool → Io × Except PyExc α)
    (hpass : ∀ io1 vs, truthy vs = true →
      (body io1 vs).1.written = io1.written ∨ (body io1 vs).1.written = io1.written ++ [cmd])
    (hstop : ∀ io1 vs, truthy vs = false → (body io1 vs).1 = io1) :
    GateShape io (match lminVersion P io thr with
      | (io1, .error e) => (io1, Except.error e)
      | (io1, .ok vs) => body io1 vs).1 thr cmd := by
  have hb : GateShape io (lminVersion P io thr).1 thr cmd :=
    (lminVersion_written P io thr).elim Or.inl fun h => Or.inr (Or.inl h)
  rcases h : lminVersion P io thr with ⟨io1, e | vs⟩
  · rw [h] at hb; exact hb
  · cases ht : truthy vs with
    | true =>
      obtain ⟨hg, h1⟩ := lminVersion_truthy P io thr vs (by rw [h]) ht
      rw [h] at h1
      rcases hpass io1 vs ht with h2 | h2
      · exact Or.inr (Or.inl (by rw [h2, h1]))
      · exact Or.inr (Or.inr ⟨by rw [h2, h1, List.append_assoc]; rfl, hg⟩)
    | false => rw [h] at hb; simp only [hstop io1 vs ht]; exact hb

/-- a query whose continuation `k` leaves the script alone writes at most `cmd`; `r` with `hr` stands for the feature's own
`match`, which the caller hands over by `rfl` -/
theorem lquery_then_written {α : Type} (P : Params) (io1 : Io) (cmd : Str) (k : Io → Str → Io × Except PyExc α)
    (hk : ∀ io2 raw, (k io2 raw).1 = io2) (r : Io × Except PyExc α)
    (hr : r = match lquery P io1 cmd with
      | (io2, .error e) => (io2, Except.error e)
      | (io2, .ok raw) => k io2 raw) :
    r.1.written = io1.written ∨ r.1.written = io1.written ++ [cmd] := by
  have h := lquery_written P io1 cmd
  rcases hq : lquery P io1 cmd with ⟨io2, e | raw⟩ <;> rw [hq] at h hr <;> subst hr
  · exact h
  · rw [hk io2 raw]; exact h

/-- the `SR` command text of `servo_timeout` -/
def srCmd (timeoutMs : Int) (state : Option Int) : Str :=
  match state with
  | none => "SR,".toList ++ fmtInt timeoutMs ++ ['\r']
  | some s => "SR,".toList ++ fmtInt timeoutMs ++ [','] ++ fmtInt s ++ ['\r']

theorem srCmd_none (t : Int) : srCmd t none = "SR,".toList ++ fmtInt t ++ ['\r'] := rfl
theorem srCmd_some (t s : Int) : srCmd t (some s) = "SR,".toList ++ fmtInt t ++ [','] ++ fmtInt s ++ ['\r'] := rfl

end Plotink.C15
