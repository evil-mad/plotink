import Plotink.Proofs.C13Gen
import Plotink.Proofs.C13Adj
import Plotink.Proofs.C13Build

/-! # C13 — the regenerated constructor: `Gen.grid_Index_find_adjacents` and `Gen.grid_Index_init` are the model's `adjacents` / `build`

Both are regenerated from `plotink/spatial_grid.py` (`lean/Plotink/Gen/grid_Index.lean`).  Exact arithmetic.

`find_adjacents` is proved for any family of instances with an `adjacents` and a `bins_per_side` field (`AdjInst`): its two
nested `range(bins_per_side)` loops (loop 1 over `y`, loop 2 over `x`) with their up-to-eight guarded `append`s build exactly
`C13.adjacents bins` and leave every other field alone.  In `__init__` the extent loop (loop 1) over `math.inf`/`-math.inf`
sentinels is the fold `extP`, which is the model's `extent`; `min(math.floor((v - lo) / size), max_bin)` is `binHi`; the
`enumerate(vertices)` loop (loop 2) is the model's `buildLoop`, every index being in range because every indexed vertex lies
inside the extent (`ptOK_of_geometry`). -/

namespace Plotink
namespace C13
open Py Py.Val

/-- an instance whose `adjacents` field holds `A` (all other fields arbitrary) -/
def instA (f1 : Val) (A : List (List Nat)) (f3 f4 f5 f6 f7 f8 f9 f10 : Val) (bins : Nat) : Val :=
  .tup [.str "Index", f1, encCells A, f3, f4, f5, f6, f7, f8, f9, f10, .int (bins : Int)]

section
variable (f1 f3 f4 f5 f6 f7 f8 f9 f10 : Val) (bins : Nat)
theorem instA_set2 (A B : List (List Nat)) :
    Py.setField (instA f1 A f3 f4 f5 f6 f7 f8 f9 f10 bins) 2 (encCells B) = instA f1 B f3 f4 f5 f6 f7 f8 f9 f10 bins := rfl
end

abbrev KA2 := Val → Val → Val → Loop (Val × Val × Val)

/-- `self.adjacents[ii].append(v)` as the generated code spells it -/
def appAdj (s ii v : Val) : Val :=
  Py.setField s 2 (Py.setItem (Py.getItem s 2) ii (Py.list_append (Py.index (Py.getItem s 2) ii) v))

/-- `if c: self.adjacents[ii].append(w)`, where the value `w` may read `self` -/
def gapp (ii : Val) (c : Bool) (w : Val → Val) (s : Val) : Val :=
  if c = true then appAdj s ii (w s) else s

/-- the statements under an `x` guard of `find_adjacents`: one `append`, then one under each `y` guard -/
def blk (ii : Val) (c0 c1 : Bool) (w w0 w1 : Val → Val) (s : Val) : Val :=
  gapp ii c1 w1 (gapp ii c0 w0 (appAdj s ii (w s)))

/-- the body of the inner loop of `find_adjacents`, block by block -/
theorem fa_body2_eq (R : Rounding) (prec : Nat) (mb yr : Val) (k : KA2) (it jx ji self : Val) :
    Gen.grid_Index_find_adjacents_body2 R prec mb yr k it jx ji self =
      (let ii := Py.add R prec it (Py.mul R prec yr (Py.getItem self 11))
       let s1 := if Py.gtE it (.int 0) = true then
           blk ii (Py.gtE yr (.int 0)) (Py.ltE yr mb) (fun _ => Py.sub R prec ii (.int 1))
             (fun s => Py.sub R prec (Py.sub R prec ii (Py.getItem s 11)) (.int 1))
             (fun s => Py.sub R prec (Py.add R prec ii (Py.getItem s 11)) (.int 1)) self
         else self
       let s2 := if Py.ltE it mb = true then
           blk ii (Py.gtE yr (.int 0)) (Py.ltE yr mb) (fun _ => Py.add R prec ii (.int 1))
             (fun s => Py.add R prec (Py.sub R prec ii (Py.getItem s 11)) (.int 1))
             (fun s => Py.add R prec (Py.add R prec ii (Py.getItem s 11)) (.int 1)) s1
         else s1
       k it ii (gapp ii (Py.ltE yr mb) (fun s => Py.add R prec ii (Py.getItem s 11))
         (gapp ii (Py.gtE yr (.int 0)) (fun s => Py.sub R prec ii (Py.getItem s 11)) s2))) := rfl

abbrev KA1 := Val → Val → Val → Val → Loop (Val × Val × Val × Val)

theorem gtE_nat0 (y : Nat) : Py.gtE (encNat y) (.int 0) = decide (y > 0) := by
  rw [encNat, gtE_int]; exact decide_eq_decide.2 (by omega)
theorem ltE_maxbin (y bins : Nat) (hb : 0 < bins) : Py.ltE (encNat y) (.int ((bins : Int) - 1)) = decide (y < bins - 1) := by
  rw [encNat, ltE_int]; exact decide_eq_decide.2 (by omega)

/-- the adjacency table when the cells `0 … k-1` have been given their lists: the two loops of `find_adjacents` visit the
cells row by row, so one number says how far they are -/
def tbl (bins k : Nat) : List (List Nat) :=
  (List.range (bins * bins)).map fun n => if n < k then adjOf bins (n % bins) (n / bins) else [n]

theorem tbl_zero (bins : Nat) : tbl bins 0 = (List.range (bins * bins)).map fun a => [a] :=
  List.map_congr_left fun _ _ => if_neg (Nat.not_lt_zero _)

theorem tbl_all (bins : Nat) : tbl bins (bins * bins) = adjacents bins :=
  List.map_congr_left fun _ h => if_pos (List.mem_range.mp h)

section
variable {bins x y : Nat} (hx : x < bins) (hy : y < bins)
include hx hy

theorem tbl_get : (tbl bins (x + y * bins))[x + y * bins]? = some [x + y * bins] := by
  rw [tbl, List.getElem?_map, List.getElem?_range (idx_lt hx hy), Option.map_some, if_neg (Nat.lt_irrefl _)]

theorem tbl_set : (tbl bins (x + y * bins)).set (x + y * bins) (adjOf bins x y) = tbl bins (x + 1 + y * bins) := by
  apply List.ext_getElem?
  intro n
  rw [List.getElem?_set, tbl, tbl, List.length_map, List.length_range, List.getElem?_map, List.getElem?_map]
  by_cases hn : x + y * bins = n
  · subst hn
    rw [if_pos rfl, if_pos (idx_lt hx hy), List.getElem?_range (idx_lt hx hy), Option.map_some, if_pos (by omega),
      idx_mod hx, idx_div hx]
  · rw [if_neg hn]
    by_cases hN : n < bins * bins
    · rw [List.getElem?_range hN, Option.map_some, Option.map_some]
      exact congrArg some (if_congr (by omega) rfl rfl)
    · rw [List.getElem?_eq_none (by rw [List.length_range]; omega)]; rfl
end

/-- what `find_adjacents` needs to know about the instances `I A` it runs on: `adjacents` holds `A` and can be
replaced, `bins_per_side` is `bins` -/
structure AdjInst (bins : Nat) (I : List (List Nat) → Val) : Prop where
  get2 : ∀ A, Py.getItem (I A) 2 = encCells A
  set2 : ∀ A B, Py.setField (I A) 2 (encCells B) = I B
  get11 : ∀ A, Py.getItem (I A) 11 = .int (bins : Int)

theorem adjInst_instA (f1 f3 f4 f5 f6 f7 f8 f9 f10 : Val) (bins : Nat) :
    AdjInst bins fun A => instA f1 A f3 f4 f5 f6 f7 f8 f9 f10 bins :=
  ⟨fun _ => rfl, fun _ _ => rfl, fun _ => rfl⟩

section
variable {bins : Nat} {I : List (List Nat) → Val} (hI : AdjInst bins I) {A : List (List Nat)} {i : Nat}
include hI

theorem appAdj_inst (hi : i < A.length) (cur : List Nat) (v : Nat) :
    appAdj (I (A.set i cur)) (encNat i) (encNat v) = I (A.set i (cur ++ [v])) := by
  have h : (A.set i cur)[i]? = some cur := by simp [hi]
  rw [appAdj, hI.get2, encCells, encNat,
    Py.modifyItem_map encNats h (Py.list_append · (encNat v)) _ (Py.list_append_map encNat cur v), List.set_set]
  exact hI.set2 _ _

theorem gapp_inst (hi : i < A.length) (cur : List Nat) (c : Bool) (w : Val → Val) (n : Nat)
    (hw : c = true → ∀ L, w (I (A.set i L)) = encNat n) :
    gapp (encNat i) c w (I (A.set i cur)) =
      I (A.set i (cur ++ if c = true then [n] else [])) := by
  unfold gapp
  cases c with
  | false => simp only [Bool.false_eq_true, if_false, List.append_nil]
  | true => simp only [if_true, hw rfl, appAdj_inst hI hi]

theorem blk_inst (hi : i < A.length) (cur : List Nat) (c0 c1 : Bool) (w w0 w1 : Val → Val) (n n0 n1 : Nat)
    (hw : ∀ L, w (I (A.set i L)) = encNat n)
    (h0 : c0 = true → ∀ L, w0 (I (A.set i L)) = encNat n0)
    (h1 : c1 = true → ∀ L, w1 (I (A.set i L)) = encNat n1) :
    blk (encNat i) c0 c1 w w0 w1 (I (A.set i cur)) =
      I (A.set i (cur ++ ([n] ++ (if c0 = true then [n0] else []) ++ (if c1 = true then [n1] else [])))) := by
  unfold blk
  rw [hw, appAdj_inst hI hi, gapp_inst hI hi _ c0 w0 n0 h0, gapp_inst hI hi _ c1 w1 n1 h1]
  simp only [List.append_assoc]

omit hI in
/-- a guarded block on an instance whose entry `i` is `cur`: inside the block the guard may be used -/
theorem guard_inst (cur cur' : List Nat) (c : Bool) (T : Val)
    (h : c = true → T = I (A.set i (cur ++ cur'))) :
    (if c = true then T else I (A.set i cur)) =
      I (A.set i (cur ++ if c = true then cur' else [])) := by
  cases c with
  | false => simp only [Bool.false_eq_true, if_false, List.append_nil]
  | true => simp only [if_true, h rfl]

theorem fa_body2 (amb : Nat) (k : KA2) (A : List (List Nat)) (x y : Nat) (hx : x < bins)
    (hA : A[x + y * bins]? = some [x + y * bins]) (jx ji : Val) :
    Gen.grid_Index_find_adjacents_body2 Rounding.exact amb (.int ((bins : Int) - 1)) (encNat y) k (encNat x) jx ji
      (I A) =
    k (encNat x) (encNat (x + y * bins)) (I (A.set (x + y * bins) (adjOf bins x y))) := by
  obtain ⟨hi, hA0⟩ := List.getElem?_eq_some_iff.mp hA
  have hb : 0 < bins := by omega
  have hidx : Py.add Rounding.exact amb (encNat x) (Py.mul Rounding.exact amb (encNat y) (.int (bins : Int))) = encNat (x + y * bins) := by
    show Val.int ((x : Int) + (y : Int) * (bins : Int)) = Val.int _
    congr 1
  have hyb : 0 < y → bins ≤ y * bins := fun h => Nat.le_mul_of_pos_left bins h
  rw [fa_body2_eq, ← List.set_getElem_self hi, hA0]
  simp only [hI.get11, hidx, gtE_nat0, ltE_maxbin _ _ hb]
  generalize hxy : x + y * bins = i at *
  have int_eq : ∀ (z : Int) {n : Nat}, z = n → Val.int z = encNat n := fun _ _ h => by rw [h]; rfl
  rw [guard_inst [i] _ (decide (x > 0)) _ fun h => blk_inst hI hi [i] _ _ _ _ _ (i - 1) (i - bins - 1) (i + bins - 1)
      (fun _ => int_eq (i - 1) (by have := of_decide_eq_true h; omega))
      (fun h0 _ => by simp only [hI.get11]; exact int_eq (i - bins - 1) (by have := of_decide_eq_true h; have := hyb (of_decide_eq_true h0); omega))
      (fun _ _ => by simp only [hI.get11]; exact int_eq (i + bins - 1) (by have := of_decide_eq_true h; omega)),
    guard_inst _ _ (decide (x < bins - 1)) _ fun h => blk_inst hI hi _ _ _ _ _ _ (i + 1) (i - bins + 1) (i + bins + 1)
      (fun _ => int_eq (i + 1) (by omega))
      (fun h0 _ => by simp only [hI.get11]; exact int_eq (i - bins + 1) (by have := hyb (of_decide_eq_true h0); omega))
      (fun _ _ => by simp only [hI.get11]; exact int_eq (i + bins + 1) (by omega)),
    gapp_inst hI hi _ _ _ (i - bins) fun h0 _ => by simp only [hI.get11]; exact int_eq (i - bins) (by have := hyb (of_decide_eq_true h0); omega),
    gapp_inst hI hi _ _ _ (i + bins) fun _ _ => by simp only [hI.get11]; exact int_eq (i + bins) (by omega), List.set_set]
  simp only [adjOf, hxy, decide_eq_true_eq, List.append_assoc]

theorem fa_loop2 (amb : Nat) {y : Nat} (hy : y < bins) : ∀ (m x : Nat), x + m ≤ bins → ∀ (jx ji : Val),
    ∃ k0 k1, Gen.grid_Index_find_adjacents_loop2 Rounding.exact amb (.int ((bins : Int) - 1)) (encNat y)
      ((List.range' x m).map encNat) jx ji (I (tbl bins (x + y * bins))) =
        .done (k0, k1, I (tbl bins (x + m + y * bins))) := by
  intro m
  induction m with
  | zero => intro x _ jx ji; exact ⟨_, _, rfl⟩
  | succ m ih =>
    intro x h jx ji
    have hx : x < bins := by omega
    rw [List.range'_succ, List.map_cons, Gen.grid_Index_find_adjacents_loop2,
      fa_body2 hI amb _ _ x y hx (tbl_get hx hy), tbl_set hx hy, show x + (m + 1) = x + 1 + m by omega]
    exact ih (x + 1) (by omega) _ _

theorem fa_loop1 (amb : Nat) : ∀ (m y : Nat), y + m ≤ bins → ∀ (jy jx ji : Val),
    ∃ k0 k1 k2, Gen.grid_Index_find_adjacents_loop1 Rounding.exact amb (.int ((bins : Int) - 1))
      ((List.range' y m).map encNat) jy jx ji (I (tbl bins (y * bins))) =
        .done (k0, k1, k2, I (tbl bins ((y + m) * bins))) := by
  intro m
  induction m with
  | zero => intro y _ jy jx ji; exact ⟨_, _, _, rfl⟩
  | succ m ih =>
    intro y h jy jx ji
    rw [List.range'_succ, List.map_cons, Gen.grid_Index_find_adjacents_loop1]
    unfold Gen.grid_Index_find_adjacents_body1
    have hit : Py.iter (Py.range_ [Py.getItem (I (tbl bins (y * bins))) 11]) = some ((List.range' 0 bins).map encNat) := by
      rw [hI.get11, Py.range_nat encNat fun _ => rfl, List.range_eq_range']; rfl
    obtain ⟨k0, k1, hl⟩ := fa_loop2 hI amb (y := y) (by omega) bins 0 (Nat.le_of_eq (Nat.zero_add _)) jx ji
    rw [Nat.zero_add, Nat.zero_add, Nat.add_comm bins, ← Nat.succ_mul] at hl
    simp only [hit, hl]
    rw [show y + (m + 1) = y + 1 + m by omega]
    exact ih (y + 1) (by omega) _ _ _

theorem find_adjacents_inst (amb : Nat) (A : List (List Nat)) :
    Gen.grid_Index_find_adjacents Rounding.exact amb (I A) = .tup [.none_, I (adjacents bins)] := by
  unfold Gen.grid_Index_find_adjacents
  simp only [hI.get11, Py.mul_nat, Py.range_nat encNat fun _ => rfl]
  rw [Py.comp_some encNat encNats _ _ (fun a => [a]) fun _ => rfl, ← encCells, hI.set2, hI.get11, Py.range_nat encNat fun _ => rfl,
    show Py.sub Rounding.exact amb (.int (bins : Int)) (.int 1) = .int ((bins : Int) - 1) from rfl, Py.iter_map,
    List.range_eq_range']
  simp only
  obtain ⟨k0, k1, k2, hl⟩ := fa_loop1 hI amb bins 0 (Nat.le_of_eq (Nat.zero_add _)) .err .err .err
  rw [Nat.zero_mul, tbl_zero, Nat.zero_add, tbl_all] at hl
  rw [hl]
end

section
variable (f1 f3 f4 f5 f6 f7 f8 f9 f10 : Val) (bins : Nat)

/-- a guarded `if c: self.adjacents[i].append(v)` on an instance whose entry `i` is `cur` -/
theorem cond_append (A : List (List Nat)) (i : Nat) (hi : i < A.length) (cur : List Nat) (c : Bool) (vv : Val) (vn : Nat)
    (hv : c = true → vv = encNat vn) :
    (if c = true then
        Py.setField (instA f1 (A.set i cur) f3 f4 f5 f6 f7 f8 f9 f10 bins) 2
          (Py.setItem (Py.getItem (instA f1 (A.set i cur) f3 f4 f5 f6 f7 f8 f9 f10 bins) 2) (encNat i)
            (Py.list_append (Py.index (Py.getItem (instA f1 (A.set i cur) f3 f4 f5 f6 f7 f8 f9 f10 bins) 2) (encNat i)) vv))
      else instA f1 (A.set i cur) f3 f4 f5 f6 f7 f8 f9 f10 bins)
      = instA f1 (A.set i (if c = true then cur ++ [vn] else cur)) f3 f4 f5 f6 f7 f8 f9 f10 bins := by
  cases c with
  | false => rfl
  | true => rw [if_pos rfl, if_pos rfl, hv rfl]; exact appAdj_inst (adjInst_instA f1 f3 f4 f5 f6 f7 f8 f9 f10 bins) hi cur vn
end

/-- the eleven attributes of an instance under construction -/
structure Flds where
  f1 : Val
  f2 : Val
  f3 : Val
  f4 : Val
  f5 : Val
  f6 : Val
  f7 : Val
  f8 : Val
  f9 : Val
  f10 : Val
  f11 : Val

def encF (F : Flds) : Val := .tup [.str "Index", F.f1, F.f2, F.f3, F.f4, F.f5, F.f6, F.f7, F.f8, F.f9, F.f10, F.f11]

section flds
variable (F : Flds) (v : Val)
theorem gF4 : Py.getItem (encF F) 4 = F.f4 := rfl
theorem gF9 : Py.getItem (encF F) 9 = F.f9 := rfl
theorem gF10 : Py.getItem (encF F) 10 = F.f10 := rfl
theorem gF11 : Py.getItem (encF F) 11 = F.f11 := rfl
theorem sF1 : Py.setField (encF F) 1 v = encF { F with f1 := v } := rfl
theorem sF3 : Py.setField (encF F) 3 v = encF { F with f3 := v } := rfl
theorem sF4 : Py.setField (encF F) 4 v = encF { F with f4 := v } := rfl
theorem sF5 : Py.setField (encF F) 5 v = encF { F with f5 := v } := rfl
theorem sF6 : Py.setField (encF F) 6 v = encF { F with f6 := v } := rfl
theorem sF7 : Py.setField (encF F) 7 v = encF { F with f7 := v } := rfl
theorem sF8 : Py.setField (encF F) 8 v = encF { F with f8 := v } := rfl
theorem sF9 : Py.setField (encF F) 9 v = encF { F with f9 := v } := rfl
theorem sF10 : Py.setField (encF F) 10 v = encF { F with f10 := v } := rfl
theorem sF11 : Py.setField (encF F) 11 v = encF { F with f11 := v } := rfl
end flds

/-- the running extent `(xmin, xmax, ymin, ymax)`; `none` = `(inf, -inf, inf, -inf)` -/
def extP : Option (Rat × Rat × Rat × Rat) → Pt → Option (Rat × Rat × Rat × Rat)
  | none, p => some (p.1, p.1, p.2, p.2)
  | some (x0, x1, y0, y1), p => some (min x0 p.1, max x1 p.1, min y0 p.2, max y1 p.2)

/-- the four running values as Python values: `self.xmin`, `xmax`, `self.ymin`, `ymax` -/
def extV : Option (Rat × Rat × Rat × Rat) → Val × Val × Val × Val
  | none => (Py.posInf, Py.negInf, Py.posInf, Py.negInf)
  | some (x0, x1, y0, y1) => (.flt x0, .flt x1, .flt y0, .flt y1)

theorem ext_point (F : Flds) (st : Option (Rat × Rat × Rat × Rat)) (xm ym : Val) (p : Pt)
    (h9 : F.f9 = (extV st).1) (hxm : xm = (extV st).2.1) (h10 : F.f10 = (extV st).2.2.1) (hym : ym = (extV st).2.2.2) :
    Py.minE [F.f9, .flt p.1] = (extV (extP st p)).1 ∧ Py.maxE [xm, .flt p.1] = (extV (extP st p)).2.1 ∧
    Py.minE [F.f10, .flt p.2] = (extV (extP st p)).2.2.1 ∧ Py.maxE [ym, .flt p.2] = (extV (extP st p)).2.2.2 := by
  subst hxm hym
  rw [h9, h10]
  rcases st with _ | ⟨x0, x1, y0, y1⟩
  · exact ⟨minE_posInf _, maxE_negInf _, minE_posInf _, maxE_negInf _⟩
  · exact ⟨minE_flt _ _, maxE_flt _ _, minE_flt _ _, maxE_flt _ _⟩

abbrev KB1 := Val → Val → Val → Val → Val → Val → Val → Loop (Val × Val × Val × Val × Val × Val × Val)

def extPath (rev : Bool) (st : Option (Rat × Rat × Rat × Rat)) (p : Path) : Option (Rat × Rat × Rat × Rat) :=
  if rev then extP (extP st p.1) p.2 else extP st p.1

/-- `F` with `xmin`, `ymin` taken from the extent state -/
def withExt (F : Flds) (st : Option (Rat × Rat × Rat × Rat)) : Flds :=
  { F with f9 := (extV st).1, f10 := (extV st).2.2.1 }

theorem init_body1 (amb : Nat) (rev : Bool) (k : KB1) (p : Path) (j0 j1 j2 j3 : Val) (F : Flds)
    (st : Option (Rat × Rat × Rat × Rat)) :
    Gen.grid_Index_init_body1 Rounding.exact amb (.bool_ rev) k (encPath p) j0 j1 j2 j3 (encF (withExt F st)) (extV st).2.1 (extV st).2.2.2 =
    k (.flt p.1.1) (.flt p.1.2) (.flt p.2.1) (.flt p.2.2) (encF (withExt F (extPath rev st p)))
      (extV (extPath rev st p)).2.1 (extV (extPath rev st p)).2.2.2 := by
  unfold Gen.grid_Index_init_body1 encPath encPt
  simp only [Py.unpackN_tup2, Py.getItem_cons_zero, Py.getItem_cons_succ, gF9, gF10, sF9, sF10, Py.truthy]
  obtain ⟨a1, a2, a3, a4⟩ := ext_point (withExt F st) st (extV st).2.1 (extV st).2.2.2 p.1 rfl rfl rfl rfl
  simp only [withExt] at a1 a3 ⊢
  rw [a1, a2, a3, a4]
  cases rev with
  | false => simp only [Bool.false_eq_true, if_false, extPath]
  | true =>
    simp only [if_true, extPath]
    obtain ⟨b1, b2, b3, b4⟩ := ext_point (withExt F (extP st p.1)) (extP st p.1) (extV (extP st p.1)).2.1
      (extV (extP st p.1)).2.2.2 p.2 rfl rfl rfl rfl
    simp only [withExt] at b1 b3
    rw [b1, b2, b3, b4]

theorem init_loop1 (amb : Nat) (rev : Bool) (F : Flds) : ∀ (verts : List Path) (j0 j1 j2 j3 : Val)
    (st : Option (Rat × Rat × Rat × Rat)),
    ∃ k0 k1 k2 k3, Gen.grid_Index_init_loop1 Rounding.exact amb (.bool_ rev) (verts.map encPath) j0 j1 j2 j3
      (encF (withExt F st)) (extV st).2.1 (extV st).2.2.2 =
      .done (k0, k1, k2, k3, encF (withExt F (verts.foldl (extPath rev) st)), (extV (verts.foldl (extPath rev) st)).2.1,
        (extV (verts.foldl (extPath rev) st)).2.2.2) := by
  intro verts
  induction verts with
  | nil => intro j0 j1 j2 j3 st; exact ⟨_, _, _, _, rfl⟩
  | cons p ps ih =>
    intro j0 j1 j2 j3 st
    rw [List.map_cons, Gen.grid_Index_init_loop1, init_body1]
    exact ih _ _ _ _ _

theorem foldl_extP (ps : List Pt) : ps.foldl extP none = extent ps := by
  cases ps with
  | nil => rfl
  | cons p ps =>
    simp only [List.foldl_cons, extP, extent]
    have key : ∀ (ps : List Pt) (x0 x1 y0 y1 : Rat), ps.foldl extP (some (x0, x1, y0, y1)) =
        some (ps.foldl (fun a q => min a q.1) x0, ps.foldl (fun a q => max a q.1) x1,
              ps.foldl (fun a q => min a q.2) y0, ps.foldl (fun a q => max a q.2) y1) := by
      intro ps
      induction ps with
      | nil => intro x0 x1 y0 y1; rfl
      | cons q qs ih => intro x0 x1 y0 y1; simp only [List.foldl_cons, extP, ih]
    exact key ps _ _ _ _

theorem foldl_extPath (rev : Bool) (verts : List Path) (st : Option (Rat × Rat × Rat × Rat)) :
    verts.foldl (extPath rev) st = (points verts rev).foldl extP st := by
  induction verts generalizing st with
  | nil => rfl
  | cons p ps ih =>
    simp only [List.foldl_cons, points, List.flatMap_cons, List.foldl_append]
    rw [ih]
    cases rev <;> rfl

theorem modify_append (cells : List (List Nat)) (gi id : Nat) (h : gi < cells.length) :
    cells.modify gi (· ++ [id]) = cells.set gi (cells[gi] ++ [id]) := by
  rw [List.modify_eq_set, List.getElem?_eq_getElem h]
  rfl

/-- the attributes while the `enumerate(vertices)` loop runs: the two tables, `path_count`, the geometry; the rest as
in `X` -/
def gridF (G : Geo) (n : Nat) (X : Flds) (st : List (List Nat) × List Nat) : Flds :=
  { X with f1 := encCells st.1, f3 := encNats st.2, f4 := .int (n : Int), f7 := .flt G.bx, f8 := .flt G.by_,
           f9 := .flt G.xmin, f10 := .flt G.ymin, f11 := .int (G.bins : Int) }

/-- `self.grid[gi].append(id); self.lookup[id] = gi` for the cell of the vertex `pt` -/
theorem place (amb : Nat) (G : Geo) (n : Nat) (X : Flds) (cells : List (List Nat)) (lookup : List Nat) (pt : Pt) (id : Nat)
    (hbx : G.bx ≠ 0) (hby : G.by_ ≠ 0)
    (h0 : 0 ≤ binHi G.bins G.xmin G.bx pt.1 + (G.bins : Int) * binHi G.bins G.ymin G.by_ pt.2)
    (hgi : cellIdxHi G pt < cells.length) (hid : id < lookup.length) :
    let F := gridF G n X (cells, lookup)
    let xb := Py.minE [Py.math_floor (Py.truediv Rounding.exact amb (Py.sub Rounding.exact amb (.flt pt.1) (Py.getItem (encF F) 9)) (Py.getItem (encF F) 7)), .int ((G.bins : Int) - 1)]
    let yb := Py.minE [Py.math_floor (Py.truediv Rounding.exact amb (Py.sub Rounding.exact amb (.flt pt.2) (Py.getItem (encF F) 10)) (Py.getItem (encF F) 8)), .int ((G.bins : Int) - 1)]
    let gi := Py.add Rounding.exact amb xb (Py.mul Rounding.exact amb (Py.getItem (encF F) 11) yb)
    let s1 := Py.setField (encF F) 1 (Py.setItem (Py.getItem (encF F) 1) gi (Py.list_append (Py.index (Py.getItem (encF F) 1) gi) (encNat id)))
    Py.setField s1 3 (Py.setItem (Py.getItem s1 3) (encNat id) gi) =
      encF (gridF G n X (cells.modify (cellIdxHi G pt) (· ++ [id]), lookup.set id (cellIdxHi G pt))) := by
  intro F xb yb gi s1
  have hxb : xb = .int (binHi G.bins G.xmin G.bx pt.1) := binHi_bridge amb G.bins _ _ _ hbx
  have hyb : yb = .int (binHi G.bins G.ymin G.by_ pt.2) := binHi_bridge amb G.bins _ _ _ hby
  have hgiv : gi = encNat (cellIdxHi G pt) := by
    show Py.add _ _ xb (Py.mul _ _ (.int (G.bins : Int)) yb) = _
    rw [hxb, hyb]
    show Val.int (binHi G.bins G.xmin G.bx pt.1 + (G.bins : Int) * binHi G.bins G.ymin G.by_ pt.2) = Val.int _
    congr 1
    unfold cellIdxHi
    rw [Int.toNat_of_nonneg h0]
  have hs1 : s1 = encF (gridF G n X (cells.modify (cellIdxHi G pt) (· ++ [id]), lookup)) := by
    show Py.setField (encF F) 1 (Py.setItem (encCells cells) gi (Py.list_append (Py.index (encCells cells) gi) (encNat id))) = _
    rw [hgiv, encCells, encNat, Py.modifyItem_map encNats (List.getElem?_eq_getElem hgi) (Py.list_append · (encNat id)) _
      (Py.list_append_map encNat _ id), sF1, modify_append _ _ _ hgi]
    rfl
  rw [hs1, hgiv]
  show Py.setField _ 3 (Py.setItem (encNats lookup) (encNat id) (encNat (cellIdxHi G pt))) = _
  rw [encNats, encNat, Py.setItem_map encNat _ hid, sF3]
  rfl

/-- a vertex that may be placed: its cell exists and needs no lower clamp -/
def PtOK (G : Geo) (ncells : Nat) (pt : Pt) : Prop :=
  0 ≤ binHi G.bins G.xmin G.bx pt.1 + (G.bins : Int) * binHi G.bins G.ymin G.by_ pt.2 ∧ cellIdxHi G pt < ncells

abbrev KB2 := Val → Val → Val → Val → Val → Val → Val → Val → Val →
  Loop (Val × Val × Val × Val × Val × Val × Val × Val × Val)

theorem init_body2 (amb : Nat) (G : Geo) (rev : Bool) (n : Nat) (k : KB2) (X : Flds) (cells : List (List Nat)) (lookup : List Nat)
    (p : Path) (i : Nat) (j0 j1 j2 j3 j4 j5 j6 j7 : Val)
    (hbx : G.bx ≠ 0) (hby : G.by_ ≠ 0) (hp1 : PtOK G cells.length p.1) (hp2 : rev = true → PtOK G cells.length p.2)
    (hi : i < lookup.length) (hi2 : rev = true → n + i < lookup.length) :
    ∃ k5 k6 k7, Gen.grid_Index_init_body2 Rounding.exact amb (.bool_ rev) (.int ((G.bins : Int) - 1)) k (.tup [encNat i, encPath p])
        j0 j1 j2 j3 j4 j5 j6 j7 (encF (gridF G n X (cells, lookup))) =
      k (encNat i) (.flt p.1.1) (.flt p.1.2) (.flt p.2.1) (.flt p.2.2) k5 k6 k7
        (encF (gridF G n X (buildStep G rev n p i (cells, lookup)))) := by
  unfold Gen.grid_Index_init_body2 encPath encPt
  simp only [Py.unpackN_tup2, Py.getItem_cons_zero, Py.getItem_cons_succ]
  have e2 := place amb G n X cells lookup p.1 i hbx hby hp1.1 hp1.2 hi
  rw [e2]
  cases rev with
  | false =>
    simp only [Py.truthy, Bool.false_eq_true, if_false, buildStep]
    exact ⟨_, _, _, rfl⟩
  | true =>
    simp only [Py.truthy, if_true, buildStep]
    have hp2' := hp2 rfl
    have hlen : (cells.modify (cellIdxHi G p.1) (· ++ [i])).length = cells.length := List.length_modify _ _ _
    have e4 := place amb G n X (cells.modify (cellIdxHi G p.1) (· ++ [i])) (lookup.set i (cellIdxHi G p.1)) p.2 (n + i)
      hbx hby hp2'.1 (by rw [hlen]; exact hp2'.2) (by rw [List.length_set]; exact hi2 rfl)
    have hadd : ∀ (st : List (List Nat) × List Nat) (v : Val),
        Py.add Rounding.exact amb (Py.getItem (Py.setField (encF (gridF G n X st)) 1 v) 4) (encNat i) = encNat (n + i) :=
      fun _ _ => rfl
    have hadd0 : ∀ st : List (List Nat) × List Nat,
        Py.add Rounding.exact amb (Py.getItem (encF (gridF G n X st)) 4) (encNat i) = encNat (n + i) := fun _ => rfl
    simp only [hadd, hadd0]
    rw [e4]
    exact ⟨_, _, _, rfl⟩

def encItems : List Path → Nat → List Val
  | [], _ => []
  | p :: ps, i => .tup [encNat i, encPath p] :: encItems ps (i + 1)

theorem enumerate_paths (ps : List Path) (i : Nat) :
    ((ps.map encPath).zipIdx i).map (fun p => Val.tup [.int p.2, p.1]) = encItems ps i := by
  induction ps generalizing i with
  | nil => rfl
  | cons p ps ih => simp only [List.map_cons, List.zipIdx_cons, encItems, ih]; rfl

theorem init_loop2 (amb : Nat) (G : Geo) (rev : Bool) (n NC L : Nat) (X : Flds) (hbx : G.bx ≠ 0) (hby : G.by_ ≠ 0)
    (hL : L = if rev then 2 * n else n) :
    ∀ (ps : List Path) (i : Nat) (st : List (List Nat) × List Nat) (j0 j1 j2 j3 j4 j5 j6 j7 : Val),
    st.1.length = NC → st.2.length = L →
    (∀ p ∈ ps, PtOK G NC p.1 ∧ (rev = true → PtOK G NC p.2)) → i + ps.length ≤ n →
    ∃ a0 a1 a2 a3 a4 a5 a6 a7, Gen.grid_Index_init_loop2 Rounding.exact amb (.bool_ rev) (.int ((G.bins : Int) - 1)) (encItems ps i)
        j0 j1 j2 j3 j4 j5 j6 j7 (encF (gridF G n X st)) =
      .done (a0, a1, a2, a3, a4, a5, a6, a7, encF (gridF G n X (buildLoop G rev n ps i st))) := by
  intro ps
  induction ps with
  | nil =>
    intro i st j0 j1 j2 j3 j4 j5 j6 j7 _ _ _ _
    exact ⟨j0, j1, j2, j3, j4, j5, j6, j7, by rw [encItems, Gen.grid_Index_init_loop2, buildLoop]⟩
  | cons p ps ih =>
    intro i st j0 j1 j2 j3 j4 j5 j6 j7 hc hl hok hn
    obtain ⟨cells, lookup⟩ := st
    rw [encItems, Gen.grid_Index_init_loop2, buildLoop_cons]
    have hc : cells.length = NC := hc
    have hl : lookup.length = L := hl
    have hlen : i + ps.length + 1 ≤ n := by simpa [Nat.add_assoc] using hn
    have hi : i < lookup.length := by rw [hl, hL]; cases rev <;> simp <;> omega
    have hi2 : rev = true → n + i < lookup.length := by intro hr; rw [hl, hL, hr]; simp; omega
    have hp := hok p (List.mem_cons_self)
    obtain ⟨k5, k6, k7, e⟩ := init_body2 amb G rev n
      (Gen.grid_Index_init_loop2 Rounding.exact amb (.bool_ rev) (.int ((G.bins : Int) - 1)) (encItems ps (i + 1)))
      X cells lookup p i j0 j1 j2 j3 j4 j5 j6 j7 hbx hby (hc ▸ hp.1) (fun hr => hc ▸ hp.2 hr) hi hi2
    rw [e]
    obtain ⟨l1, l2⟩ := buildStep_len G rev n p i (cells, lookup)
    exact ih (i + 1) _ _ _ _ _ _ _ _ _ (l1.trans hc) (l2.trans hl) (fun q hq => hok q (List.mem_cons_of_mem _ hq)) (by omega)

theorem comp_const (k : Nat) (v : Val) (f : Val → Option Val) (hf : ∀ x, f x = some v) :
    Py.comp (Py.range_ [.int (k : Int)]) f = .tup (List.replicate k v) := by
  rw [Py.range_nat encNat fun _ => rfl, Py.comp_some encNat id _ f (fun _ => v) fun _ => hf _, List.map_map]
  exact congrArg _ ((List.map_const' ..).trans (by rw [List.length_range]))

theorem find_adjacents_encF (amb : Nat) (X : Flds) (bins : Nat) (h2 : X.f2 = encCells []) (h11 : X.f11 = .int (bins : Int)) :
    Gen.grid_Index_find_adjacents Rounding.exact amb (encF X) =
      .tup [.none_, encF { X with f2 := encCells (adjacents bins) }] := by
  rw [← find_adjacents_inst (I := fun A => encF { X with f2 := encCells A }) ⟨fun _ => rfl, fun _ _ => rfl, fun _ => h11⟩
    amb [], ← h2]

theorem ptOK_of_geometry {verts : List Path} {bins : Nat} {rev : Bool} {G : Geo} (hG : geometry verts bins rev = some G) :
    ∀ pt ∈ points verts rev, PtOK G (bins * bins) pt := by
  obtain ⟨hbins, hbpos, hbx, hby, hpts⟩ := geometry_spec hG
  have hb : 0 < G.bins := hbins ▸ hbpos
  intro pt hpt
  obtain ⟨hx, hy⟩ := hpts pt hpt
  refine ⟨?_, ?_⟩
  · rw [binHi_eq_clamp hb hbx hx, binHi_eq_clamp hb hby hy]
    exact Int.add_nonneg (binClamp_range hb G.xmin G.bx pt.1).1
      (Int.mul_nonneg (Int.natCast_nonneg _) (binClamp_range hb G.ymin G.by_ pt.2).1)
  · rw [cellIdxHi_eq hb hbx hby hx hy, ← hbins]; exact cellIdx_lt hb pt

theorem init_bridge (amb : Nat) (verts : List Path) (bins : Nat) (rev : Bool) (g : Grid)
    (h : build verts bins rev = some g) :
    Gen.grid_Index_init Rounding.exact amb (encPaths verts) (.int (bins : Int)) (.bool_ rev) = encGrid g := by
  unfold build at h
  cases hG : geometry verts bins rev with
  | none => simp [hG] at h
  | some G =>
    simp only [hG] at h
    obtain ⟨-, hbpos, hbx, hby, -⟩ := geometry_spec hG
    have hok := ptOK_of_geometry hG
    obtain ⟨x0, x1, y0, y1, hext, rfl, -⟩ := geometry_eq hG
    obtain rfl := Option.some.inj h
    unfold Gen.grid_Index_init
    -- the class defaults and the four assignments of the header
    have hlen : Py.len_ (encPaths verts) = .int (verts.length : Int) := by simp [encPaths, Py.len_]
    have hiter : Py.iter (encPaths verts) = some (verts.map encPath) := rfl
    have hsub : Py.sub Rounding.exact amb (.int (bins : Int)) (.int 1) = .int ((bins : Int) - 1) := rfl
    rw [show (Val.tup [Val.str "Index", Val.tup [], Val.tup [], Val.tup [], Val.int 0, Val.none_, Val.bool_ false,
      Val.flt (1 : Rat), Val.flt (1 : Rat), Val.flt (-1 : Rat), Val.flt (-1 : Rat), Val.int 3]) =
      encF ⟨.tup [], encCells [], .tup [], .int 0, .none_, .bool_ false, .flt 1, .flt 1, .flt (-1), .flt (-1), .int 3⟩ from rfl]
    simp only [sF5, sF6, sF11, sF4, hlen, hiter, hsub]
    rw [find_adjacents_encF amb _ bins rfl rfl]
    simp only [Py.unpackN_tup2, Py.getItem_cons_zero, Py.getItem_cons_succ, sF9, sF10]
    -- the extent loop
    obtain ⟨F, hF⟩ : ∃ F : Flds, F = ⟨.tup [], encCells (adjacents bins), .tup [], .int (verts.length : Int), encPaths verts,
      .bool_ rev, .flt 1, .flt 1, Py.posInf, Py.posInf, .int (bins : Int)⟩ := ⟨_, rfl⟩
    obtain ⟨k0, k1, k2, k3, hl1⟩ := init_loop1 amb rev F verts .err .err .err .err none
    rw [foldl_extPath, foldl_extP, hext] at hl1
    simp only [extV, withExt, hF] at hl1
    rw [hl1]
    -- shim, bin sizes, the empty tables
    have hb0 : (bins : Int) ≠ 0 := by exact_mod_cast (Nat.pos_iff_ne_zero.mp hbpos)
    have hex : ∀ q : Rat, Rounding.exact.f64 q = q := fun _ => rfl
    have hm2 : Py.mul Rounding.exact amb (.int 2) (.int (verts.length : Int)) = .int ((2 * verts.length : Nat) : Int) := by
      show Val.int (2 * (verts.length : Int)) = _
      congr 1
    have hmb : Py.mul Rounding.exact amb (.int (bins : Int)) (.int (bins : Int)) = .int ((bins * bins : Nat) : Int) := by
      show Val.int ((bins : Int) * bins) = _
      congr 1
    have hen : Py.iter (Py.enumerate_ (encPaths verts)) = some (encItems verts 0) := by
      show some _ = _
      rw [enumerate_paths]
    simp only [gF9, gF10, gF4, sF9, sF10, sF7, sF8, sub_flt_flt, add_flt_flt,
      truediv_flt_int amb _ 200 (by decide), truediv_flt_int amb _ (bins : Int) hb0, hex, hm2, hen,
      comp_const _ (.int 0) _ (fun _ => rfl), Int.cast_ofNat, Int.cast_natCast]
    rw [show ∀ X : Flds, (if Py.truthy (.bool_ rev) = true then Py.setField (encF X) 3 (.tup (List.replicate (2 * verts.length) (.int 0)))
        else Py.setField (encF X) 3 (.tup (List.replicate verts.length (.int 0)))) =
        encF { X with f3 := encNats (List.replicate (if rev then 2 * verts.length else verts.length) 0) } from fun X => by
      cases rev <;> simp [Py.truthy, sF3, encNats, encNat, List.map_replicate]]
    simp only [gF11, hmb, comp_const _ (.tup []) _ (fun _ => rfl), sF1]
    rw [show Val.tup (List.replicate (bins * bins) (Val.tup [])) = encCells (List.replicate (bins * bins) []) from by
      simp [encCells, encNats, List.map_replicate]]
    -- the vertex loop
    obtain ⟨a0, a1, a2, a3, a4, a5, a6, a7, e⟩ := init_loop2 amb _ rev verts.length (bins * bins)
      (if rev then 2 * verts.length else verts.length) F (ne_of_gt hbx) (ne_of_gt hby) rfl verts 0
      (List.replicate (bins * bins) [], List.replicate (if rev then 2 * verts.length else verts.length) 0)
      .err k0 k1 k2 k3 .err .err .err (List.length_replicate ..) (List.length_replicate ..)
      (fun p hp => ⟨hok _ (fst_mem_points hp), fun hr => hok _ (snd_mem_points hp hr)⟩) (by simp)
    simp only [gridF, hF] at e
    rw [e]
    rfl

end C13
end Plotink
