import Plotink.Proofs.C10
import Mathlib.Algebra.Order.Archimedean.Basic
import Mathlib.Algebra.Order.Field.Rat

/-! Termination of the subdivision for `flat > 0`: every squared edge of the control polygon shrinks
by the factor 4 at each split, and a piece whose three edges are all shorter than `flat` is flat. -/
namespace Plotink
namespace C10
open C09 (Pt atSq wSq)

def EdgesLt (c : Cubic) (M : Rat) : Prop := wSq c.p0 c.p1 < M ∧ wSq c.p1 c.p2 < M ∧ wSq c.p2 c.p3 < M

theorem edges_flat (c : Cubic) (flat : Rat) (h : EdgesLt c (flat * flat)) : FlatPiece c flat := by
  obtain ⟨h1, _, h3⟩ := h
  constructor
  · have := C09.distSq_le_atSq c.p0 c.p3 c.p1 0 (le_refl _) (by norm_num)
    have e : atSq c.p0 c.p3 c.p1 0 = wSq c.p0 c.p1 := by unfold atSq wSq; ring
    linarith
  · have := C09.distSq_le_atSq c.p0 c.p3 c.p2 1 (by norm_num) (le_refl _)
    have e : atSq c.p0 c.p3 c.p2 1 = wSq c.p2 c.p3 := by unfold atSq wSq; ring
    linarith

theorem sq_tpoint_half_left (a b : Pt) : wSq a (tpoint a b half) = wSq a b / 4 := by
  simp only [wSq, tpoint, half]; ring

theorem sq_tpoint_half_right (a b : Pt) : wSq (tpoint a b half) b = wSq a b / 4 := by
  simp only [wSq, tpoint, half]; ring

/-- The segment joining the midpoints of `ab` and `cd` is the mean of `ac` and `bd`, so no longer than the
longer of the two: `|u + v|² / 4 = (|u|² + |v|²) / 2 - |u - v|² / 4`. -/
theorem sq_tpoint_half_lt {a b c d : Pt} {M : Rat} (h1 : wSq a c < M) (h2 : wSq b d < M) :
    wSq (tpoint a b half) (tpoint c d half) < M := by
  simp only [wSq, tpoint, half] at *
  linarith [mul_self_nonneg ((c.1 - a.1) - (d.1 - b.1)), mul_self_nonneg ((c.2 - a.2) - (d.2 - b.2))]

/-- de Casteljau at one half: every edge of either half is half of a segment between midpoints of the level above -/
theorem edges_split (c : Cubic) (M : Rat) (h : EdgesLt c M) :
    EdgesLt (splitAt c half).1 (M / 4) ∧ EdgesLt (splitAt c half).2 (M / 4) := by
  obtain ⟨h1, h2, h3⟩ := h
  have h12 := sq_tpoint_half_lt h1 h2
  have h23 := sq_tpoint_half_lt h2 h3
  have h123 := sq_tpoint_half_lt h12 h23
  simp only [EdgesLt, splitAt, sq_tpoint_half_left, sq_tpoint_half_right]
  exact ⟨⟨by linarith, by linarith, by linarith⟩, by linarith, by linarith, by linarith⟩

/-- a piece whose squared edges are below `4 ^ k * flat²` is refined after at most `k` levels of splitting -/
theorem refined_piece (flat : Rat) : ∀ (k : Nat) (rest : List Node) (a b : Node) (M : Rat),
    EdgesLt (pieceOf a b) M → M ≤ 4 ^ k * (flat * flat) →
    (∀ b' : Node, b'.p = b.p → b'.hout = b.hout → ∃ r, Refined flat b' rest r) →
    ∃ r, Refined flat a (b :: rest) r := by
  intro k
  induction k with
  | zero =>
    intro rest a b M hE hM hcont
    rw [pow_zero, one_mul] at hM
    have hflat : isFlat (pieceOf a b) flat = some true :=
      (isFlat_iff _ _).mpr (edges_flat _ _ ⟨hE.1.trans_le hM, hE.2.1.trans_le hM, hE.2.2.trans_le hM⟩)
    obtain ⟨r, hr⟩ := hcont b rfl rfl
    exact ⟨a :: r, .keep hflat hr⟩
  | succ k ih =>
    intro rest a b M hE hM hcont
    cases hf : isFlat (pieceOf a b) flat with
    | none => exact absurd hf (isFlat_ne_none _ _)
    | some ok =>
      cases ok with
      | true =>
        obtain ⟨r, hr⟩ := hcont b rfl rfl
        exact ⟨a :: r, .keep hf hr⟩
      | false =>
        obtain ⟨hE1, hE2⟩ := edges_split _ _ hE
        have hM4 : M / 4 ≤ 4 ^ k * (flat * flat) := by rw [pow_succ] at hM; linarith
        -- left half first; its continuation is the right half, whose continuation is the caller's
        obtain ⟨r, hr⟩ := ih (splitR a b :: rest) (splitL a b) (splitM a b) (M / 4) hE1 hM4 (by
          intro n' hp hh
          refine ih rest n' (splitR a b) (M / 4) ?_ hM4 hcont
          rw [show pieceOf n' (splitR a b) = (splitAt (pieceOf a b) half).2 by
            simp only [pieceOf, hp, hh]; rfl]
          exact hE2)
        exact ⟨r, .split hf hr⟩

theorem refined_total (flat : Rat) (hflat : 0 < flat) : ∀ (rest : List Node) (a : Node),
    ∃ r, Refined flat a rest r := by
  intro rest
  induction rest with
  | nil => intro a; exact ⟨[a], .last a⟩
  | cons b rest ih =>
    intro a
    have hpos : 0 < flat * flat := mul_pos hflat hflat
    have h1 := C09.wSq_nonneg (pieceOf a b).p0 (pieceOf a b).p1
    have h2 := C09.wSq_nonneg (pieceOf a b).p1 (pieceOf a b).p2
    have h3 := C09.wSq_nonneg (pieceOf a b).p2 (pieceOf a b).p3
    obtain ⟨k, hk⟩ := pow_unbounded_of_one_lt ((wSq (pieceOf a b).p0 (pieceOf a b).p1 + wSq (pieceOf a b).p1 (pieceOf a b).p2
      + wSq (pieceOf a b).p2 (pieceOf a b).p3 + 1) / (flat * flat)) (by norm_num : (1 : Rat) < 4)
    rw [div_lt_iff₀ hpos] at hk
    exact refined_piece flat k rest a b _ ⟨by linarith, by linarith, by linarith⟩ hk.le (fun b' _ _ => ih b')

end C10
end Plotink
