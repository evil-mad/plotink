import Plotink.Proofs.Ebb3GenMethods
import Plotink.Proofs.Ebb3GenDecode
import Plotink.Gen.EBB3_var_write_int32
import Plotink.Gen.EBB3_var_read_int32

/-! # Bridges: `var_write_int32`, `var_read_int32`

The Python methods loop over four slots; the model writes the four calls out.  `writeBytes` / `readVals` are the
model's calls as a recursion over the list the loop runs through, so that the loops go by induction (`vwi_loop`,
`vri_loop`, each stated under the frames that follow the loop in its method). -/

namespace Plotink
namespace Ebb3Gen
open PyObj Gen

theorem toBytes4_range {v a b c d : Int} (h : Ebb3.toBytes4 v = .ok (a, b, c, d)) :
    (0 ≤ a ∧ a < 256) ∧ (0 ≤ b ∧ b < 256) ∧ (0 ≤ c ∧ c < 256) ∧ (0 ≤ d ∧ d < 256) := by
  unfold Ebb3.toBytes4 at h
  split at h
  · rename_i hr
    injection h with h
    injection h with h1 h
    injection h with h2 h
    injection h with h3 h4
    subst h1 h2 h3 h4
    omega
  · cases h

theorem char_ofNat_toNat (n : Nat) (h : n < 256) : (Char.ofNat n).toNat = n := by
  have hv : n.isValidChar := Or.inl (by omega)
  simp [Char.ofNat, hv, Char.ofNatAux, Char.toNat]

theorem byteVal (a : Int) (h : 0 ≤ a ∧ a < 256) : Val.int ((Char.ofNat a.toNat).toNat : Int) = Val.int a := by
  rw [char_ofNat_toNat _ (by omega)]
  congr 1
  omega

def writeBytes : List Int → Int → Ebb3.M Ebb3.Script Unit
  | [], _ => pure ()
  | b :: r, i => (Ebb3.varWriteP Ebb3.srcParams Ebb3.scriptDev b i).run >>= fun _ => writeBytes r (i + 1)

/-- the `for byte in bytes_sequence` loop of `var_write_int32` and the tail of the method, against `writeBytes` and
`errIsNone` -/
theorem vwi_loop (fuel : Nat) (hf : 26 ≤ fuel) (val bs : Val) :
    ∀ (l : List Int) (i : Int) (bt : Val) (w : World EBB3_Obj), Good w →
      SimK Sim fuel [.seq (block [EBB3_var_write_int32_if2, return_ (fun _ _ => ok (.bool true))])]
        (forLoop (fun (env : EBB3_var_write_int32_Env) v => { env with byte := v }) EBB3_var_write_int32_fbody1 fuel
          (l.map Val.int) ⟨val, .int i, bs, bt⟩ w)
        ((writeBytes l i >>= fun _ => Ebb3.errIsNone) (absWorld w))
  | [], i, bt, w, hg => SimK.next (SimK.errTail hg)
  | b :: r, i, bt, w, hg => by
    unfold EBB3_var_write_int32_fbody1 writeBytes
    rw [M_bind_assoc]
    refine SimK.for_ (SimK.block ?_)
    rw [expr_onRes]
    refine SimK.call (var_write_bridge fuel hf b i w hg) rfl fun _ w1 hg1 _ _ => SimK.next ?_
    rw [block_one, assign_of (v := .int (i + 1)) (w' := w1) rfl]
    exact SimK.nextItem (vwi_loop fuel hf val bs r (i + 1) _ w1 hg1)

theorem var_write_int32_bridge (fuel : Nat) (hf : 26 ≤ fuel) (v i : Int) (w : World EBB3_Obj) (hg : Good w) :
    Sim (EBB3_var_write_int32 fuel (.int v) (.int i) w)
      (Ebb3.run Ebb3.srcParams Ebb3.scriptDev (.var_write_int32 v i) (absWorld w)) := by
  refine SimK.guarded (.bool false) hg fun _ => SimK.block ?_
  show SimK _ _ _ _ ((match Ebb3.toBytes4 v with
        | .error e => (Ebb3.M.raise e : Ebb3.M Ebb3.Script Ebb3.Val)
        | .ok (b3, b2, b1, b0) => _) (absWorld w))
  cases htb : Ebb3.toBytes4 v with
  | error e =>
    have he : e = .overflowError := by
      unfold Ebb3.toBytes4 at htb
      split at htb
      · cases htb
      · injection htb with h; exact h.symm
    subst he
    rw [assign_exc (c := .overflowError) (w' := w) (by
      simp only [app1_ok, meth_to_bytes4_big_signed, intOf, htb, ofP_error, raise_apply])]
    exact SimK.raised (ex := .overflowError) hg
  | ok q =>
    obtain ⟨b3, b2, b1, b0⟩ := q
    obtain ⟨h3, h2, h1, h0⟩ := toBytes4_range htb
    rw [assign_of (v := .bytes [Char.ofNat b3.toNat, Char.ofNat b2.toNat, Char.ofNat b1.toNat, Char.ofNat b0.toNat]) (w' := w) (by
      simp only [app1_ok, meth_to_bytes4_big_signed, intOf, htb, ofP_ok, ok_apply])]
    refine SimK.next (SimK.block ?_)
    unfold EBB3_var_write_int32_for1
    rw [forIn_of (v := .bytes _) rfl rfl]
    simp only [List.map_cons, List.map_nil, byteVal b3 h3, byteVal b2 h2, byteVal b1 h1, byteVal b0 h0]
    have := vwi_loop fuel hf (.int v) (.bytes [Char.ofNat b3.toNat, Char.ofNat b2.toNat, Char.ofNat b1.toNat, Char.ofNat b0.toNat])
      [b3, b2, b1, b0] i .unbound w hg
    simp only [writeBytes, M_bind_assoc, M_pure_bind, Int.add_assoc, Int.reduceAdd] at this
    exact this

def readVals (start : Int) : List Int → Ebb3.M Ebb3.Script (List Ebb3.Val)
  | [] => pure []
  | k :: r => (Ebb3.varReadP Ebb3.srcParams Ebb3.scriptDev (start + k)).run >>= fun v =>
      readVals start r >>= fun vs => pure (v :: vs)

/-- the `for byte_offset in range(0, 4)` loop of `var_read_int32` against `readVals`, then `kont`: the values read are
appended to `bytes_sequence`, one for each offset -/
theorem vri_loop (fuel : Nat) (hf : 26 ≤ fuel) (start : Int) {fs : List (Frame EBB3_Obj EBB3_var_read_int32_Env)}
    (hfs : noCatch fs = true) {kont : List Ebb3.Val → Ebb3.M Ebb3.Script Ebb3.Val} :
    ∀ (ks : List Int) (acc : List Val) (bo vl : Val) (w : World EBB3_Obj), Good w →
      (∀ vs bo' vl' w', Good w' → vs.length = ks.length →
        SimK Sim fuel fs (.norm ⟨.int start, .list (acc ++ vs.map encVal), bo', vl'⟩ w') (kont vs (absWorld w'))) →
      SimK Sim fuel fs (forLoop (fun (env : EBB3_var_read_int32_Env) v => { env with byte_offset := v })
          EBB3_var_read_int32_fbody1 fuel (ks.map Val.int) ⟨.int start, .list acc, bo, vl⟩ w)
        ((readVals start ks >>= kont) (absWorld w))
  | [], acc, bo, vl, w, hg, hk => by
    have := hk [] bo vl w hg rfl
    rwa [List.map_nil, List.append_nil] at this
  | k :: r, acc, bo, vl, w, hg, hk => by
    unfold EBB3_var_read_int32_fbody1 readVals
    rw [M_bind_assoc]
    refine SimK.for_ (SimK.block ?_)
    rw [assign_onRes]
    refine SimK.call (var_read_bridge fuel hf (start + k) w hg)
      (by simp only [load_int, app2_ok, op_add, intOf, ofP_ok, mcall1_ok_apply]) (fun v w1 hg1 _ _ => SimK.next ?_) hfs
    refine SimK.block ?_
    rw [assign_of (v := .int (k + 1)) (w' := w1) (by simp only [load_int, app2_ok, op_add, intOf, ofP_ok, ok_apply])]
    refine SimK.next ?_
    rw [block_one, assign_of (v := .list (acc ++ [encVal v])) (w' := w1) (by
      simp only [load_list, load_of_bound (encVal_ne_unbound v), app2_ok, meth_append, ofP_ok, ok_apply]), M_bind_assoc]
    refine SimK.nextItem (vri_loop fuel hf start hfs r (acc ++ [encVal v]) _ _ w1 hg1 fun vs bo' vl' w' hg' hl => ?_)
    have := hk (v :: vs) bo' vl' w' hg' (by simp [hl])
    rwa [List.map_cons, List.append_cons] at this

theorem fromBytes4_enc (a b c d : Ebb3.Val) :
    Ebb3.fromBytes4 (toEbb3Val (encVal a)) (toEbb3Val (encVal b)) (toEbb3Val (encVal c)) (toEbb3Val (encVal d))
      = Ebb3.fromBytes4 a b c d := by
  -- `fromBytes4` gives up at the first argument that is not an `int`: 20 cases, not 625
  cases a <;> try rfl
  cases b <;> try rfl
  cases c <;> try rfl
  cases d <;> rfl

theorem var_read_int32_bridge (fuel : Nat) (hf : 26 ≤ fuel) (i : Int) (w : World EBB3_Obj) (hg : Good w) :
    Sim (EBB3_var_read_int32 fuel (.int i) w)
      (Ebb3.run Ebb3.srcParams Ebb3.scriptDev (.var_read_int32 i) (absWorld w)) := by
  refine SimK.guarded (.bool false) hg fun _ => ?_
  rw [block_cons2, seq_assign_of (v := .list []) (w' := w) (by simp only [mkList, evalList_nil, ok_apply])]
  refine SimK.block ?_
  have hfor : EBB3_var_read_int32_for1 fuel ⟨.int i, .list [], .unbound, .unbound⟩ w
      = forLoop (fun (env : EBB3_var_read_int32_Env) v => { env with byte_offset := v }) EBB3_var_read_int32_fbody1 fuel
        ([0, 1, 2, 3].map Val.int) ⟨.int i, .list [], .unbound, .unbound⟩ w := by
    unfold EBB3_var_read_int32_for1
    exact forIn_of (v := .list ([0, 1, 2, 3].map Val.int)) rfl rfl
  have hloop := vri_loop fuel hf i (fs := [.seq (block [EBB3_var_read_int32_if2,
      return_ (fun _ env => app1 b_from_bytes_big_signed (load env.bytes_sequence))])]) rfl
    (kont := fun vs => Ebb3.M.getSt >>= fun st =>
      if st.err.isSome = true then pure Ebb3.Val.none
      else match vs with
        | [a, b, c, d] => (match Ebb3.fromBytes4 a b c d with
          | .ok z => pure (Ebb3.Val.int z)
          | .error e => Ebb3.M.raise e)
        | _ => pure Ebb3.Val.none) [0, 1, 2, 3] [] .unbound .unbound w hg
  rw [hfor]
  simp only [readVals, Int.add_zero, M_bind_assoc, M_pure_bind] at hloop
  refine hloop fun vs bo' vl' w' hg' hlen => SimK.next (SimK.block ?_)
  unfold EBB3_var_read_int32_if2
  rw [Ebb3.bind_apply, Ebb3.getSt_apply, errGuard_stmt _ _ _ _ hg'.obj]
  simp only [isSome_err w' hg'.obj]
  cases isNone w'.obj.err
  · exact SimK.done (v := .none) hg'
  · match vs, hlen with
    | [a, b, c, d], _ =>
      refine SimK.next ?_
      rw [block_one, return_onRes]
      simp only [List.nil_append, List.map_cons, List.map_nil,
        load_list, app1_ok,
        b_from_bytes_big_signed, items, fromBytes4_enc, Bool.not_true, Bool.false_eq_true, ↓reduceIte]
      cases Ebb3.fromBytes4 a b c d with
      | ok z => exact SimK.done (v := .int z) hg'
      | error e => exact SimK.raised hg'

end Ebb3Gen
end Plotink
