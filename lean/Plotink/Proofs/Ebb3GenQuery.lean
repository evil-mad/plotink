import Plotink.Proofs.Ebb3GenCommand
import Plotink.Proofs.C05FailRep
import Plotink.Gen.EBB3_query

/-! # Bridge: regenerated `EBB3.query` = `Ebb3.run … (.query req)`, and the rules for `self.query(text)` in a caller -/

namespace Plotink
namespace Ebb3Gen
open PyObj Gen

theorem qry_lens : Lens (σ := EBB3_query_Env) (·.response) (·.n_retry_count)
    (fun env v => { env with response := v }) (fun env v => { env with n_retry_count := v }) := by
  constructor <;> intros <;> rfl

theorem qry_test1_eq : EBB3_query_test1 = retryTest (σ := EBB3_query_Env) (·.response) (·.n_retry_count) 25 := rfl
theorem qry_body1_eq : EBB3_query_body1 = retryBody (σ := EBB3_query_Env) (·.n_retry_count)
    (fun env v => { env with response := v }) (fun env v => { env with n_retry_count := v }) := rfl

theorem srcRetryQry : Ebb3.srcParams.retryQry = 25 := rfl
theorem srcIgnoreQry : Ebb3.srcParams.ignoreQry = [['r', 'b'], ['r'], ['b', 'l']] := by decide

theorem qry_if2 (fuel : Nat) (env : EBB3_query_Env) (c : List Char) (hc : env.qry = .str c) (w : World EBB3_Obj) :
    EBB3_query_if2 fuel env w =
      (match Ebb3.cmdName c with
       | .ok name => .norm { env with qry_name := .str name } w
       | .error e => .exc (excOfEbb3 e) env w) :=
  nameStmt_eval (σ := EBB3_query_Env) (·.qry) (fun env v => { env with qry_name := v }) fuel env c hc w

theorem qry_try1_eq : EBB3_query_try1 = exchangeStmt (σ := EBB3_query_Env) (·.qry) (·.response) (·.n_retry_count)
    (fun env v => { env with response := v }) (fun env v => { env with n_retry_count := v }) 25 := rfl

/-- the tail of `query`: strip the name and one separating comma off the reply -/
theorem qry_tail (fuel : Nat) (c name resp : List Char) (nrc em hl : Val) (w : World EBB3_Obj) :
    PyObj.run (block [
      (assign (fun (env : EBB3_query_Env) v => { env with header_len := v }) (fun _ env => app1 op_len (load env.qry_name))),
      EBB3_query_if7,
      (return_ (fun _ env => app3 op_slice (load env.response) (load env.header_len) (ok .none)))])
      fuel ⟨.str c, .str name, .str resp, nrc, em, hl⟩ w = .val (.str (Ebb3.stripHeader name resp)) w := by
  rw [block_cons2, block_cons2, block_one]
  rw [run_seq_norm (assign_of (v := .int name.length) (w' := w) (by simp only [load_str, app1_ok, op_len, ofP_ok, ok_apply]))]
  unfold EBB3_query_if7 EBB3_query_if8 Ebb3.stripHeader
  have hgt : op_gt (.int resp.length) (.int name.length) = .ok (.bool (decide (name.length < resp.length))) := by
    simp only [op_gt, ltVal, intOf, ofOptBool]
    congr 2
    simp
  by_cases hlt : name.length < resp.length
  · have hgi : op_getitem (.str resp) (.int name.length) = .ok (.str [resp[name.length]]) := by
      simp only [op_getitem, intOf, normIdx]
      have h0 : (0 : Int) ≤ (name.length : Int) := by omega
      simp only [h0, ↓reduceIte, Int.toNat_natCast, hlt, List.getElem?_eq_getElem hlt]
    rw [List.drop_eq_getElem_cons hlt]
    by_cases hx : resp[name.length] = ','
    · rw [run_seq_norm (env' := ⟨.str c, .str name, .str resp, nrc, em, .int (name.length + 1)⟩) (w' := w) (by
        simp only [ifte, load_str, load_int, app1_ok, app2_ok, op_len, ofP_ok, hgt, ok_apply, truthy_bool, hlt, decide_true,
          ↓reduceIte, hgi, hx, op_eq, pyEq, assign, op_add, intOf]
        rfl)]
      simp only [PyObj.run, return_, load_str, load_int, app3_ok]
      have : ((name.length : Int) + 1) = ((name.length + 1 : Nat) : Int) := by omega
      rw [this, slice_from, if_pos hx]
      rfl
    · have hne : ([resp[name.length]] == [',']) = false := by simp [hx]
      rw [run_seq_norm (env' := ⟨.str c, .str name, .str resp, nrc, em, .int name.length⟩) (w' := w) (by
        simp only [ifte, load_str, load_int, app1_ok, app2_ok, op_len, ofP_ok, hgt, ok_apply, truthy_bool, hlt, decide_true,
          ↓reduceIte, hgi, op_eq, pyEq, hne, Bool.false_eq_true, pass])]
      simp only [PyObj.run, return_, load_str, load_int, app3_ok, ofP_ok, ok_apply, slice_from, hx, ↓reduceIte,
        List.drop_eq_getElem_cons hlt]
  · have hd : resp.drop name.length = [] := List.drop_eq_nil_of_le (by omega)
    rw [run_seq_norm (env' := ⟨.str c, .str name, .str resp, nrc, em, .int name.length⟩) (w' := w) (by
      simp only [ifte, load_str, load_int, app1_ok, app2_ok, op_len, ofP_ok, hgt, ok_apply, truthy_bool, hlt, decide_false,
        Bool.false_eq_true, ↓reduceIte, pass])]
    simp only [PyObj.run, return_, load_str, load_int, app3_ok, ofP_ok, ok_apply, slice_from, hd]

/-- the validation of the reply (`if ('Err:' in response) or (not response.startswith(qry_name)): …; return None`) and
the tail, against `queryJudge` -/
theorem qry_judge (fuel : Nat) (c name resp : List Char) (nrc em hl : Val) (w : World EBB3_Obj) (hg : Good w) :
    SimK Sim fuel [] (block [
        EBB3_query_if5,
        (assign (fun (env : EBB3_query_Env) v => { env with header_len := v }) (fun _ env => app1 op_len (load env.qry_name))),
        EBB3_query_if7,
        (return_ (fun _ env => app3 op_slice (load env.response) (load env.header_len) (ok .none)))]
        fuel ⟨.str c, .str name, .str resp, nrc, em, hl⟩ w)
      (Ebb3.queryJudge c name resp (absWorld w)) := by
  unfold EBB3_query_if5 Ebb3.queryJudge
  refine SimK.block (SimK.ite (p := Ebb3.hasErr resp || !Ebb3.startsWith name resp) ?_ (fun _ => ?_) fun _ => SimK.next ?_)
  · simp only [load_str, app2_ok, op_in_Err, ofP_ok, or_ok, truthy_bool, meth_startswith, not_ok]
    cases Ebb3.hasErr resp <;> rfl
  · rw [← apply_ite Ebb3.recordError]
    refine SimK.errRet (getE := EBB3_query_Env.error_msg) hg
      (env' := ⟨.str c, .str name, .str resp, nrc, .str (if resp.isEmpty then Ebb3.Msg.qryTimeout c else Ebb3.Msg.qryUnexpected c resp), hl⟩) ?_ rfl
    unfold EBB3_query_if6 Ebb3.Msg.qryTimeout Ebb3.Msg.qryUnexpected
    rw [String.toList_ofList, String.toList_ofList, String.toList_ofList]
    simp only [ifte, assign, load_str, ok_apply, truthy_str, fstr, evalList_cons_ok, evalList_nil, app2_ok_left, bind_ok,
      op_add, ofP_ok]
    cases resp with
    | nil =>
      simp only [List.isEmpty_nil, Bool.not_true, Bool.false_eq_true, ↓reduceIte, flatten_strs2]
    | cons a t =>
      simp only [List.isEmpty_cons, Bool.not_false, ↓reduceIte, Bool.false_eq_true, flatten_strs4,
        List.cons_append, List.nil_append, List.append_assoc]
  · exact SimK.ofRun (by rw [qry_tail]; exact ⟨rfl, rfl, hg⟩)

theorem query_bridge (fuel : Nat) (hf : 26 ≤ fuel) (req : Option Ebb3.Str)
    (hasc : ∀ s, req = some s → PyIO.isAscii (Ebb3.strip s) = true) (w : World EBB3_Obj) (hg : Good w) :
    Sim (EBB3_query fuel (encReq req) w)
      (Ebb3.run Ebb3.srcParams Ebb3.scriptDev (.query req) (absWorld w)) := by
  unfold EBB3_query EBB3_query_main EBB3_query_if1
  rw [block_cons2]
  refine SimK.guarded3 .none EBB3_query_Env.qry req rfl hg (Ebb3.queryBody Ebb3.srcParams Ebb3.scriptDev) rfl
    fun s hs hb => ?_
  subst hs
  have hp : w.obj.port = .port := not_blocked_port _ hg.obj hb
  rw [block_cons2, seq_assign_of (v := .str (Ebb3.strip s)) (w' := w) (by
    simp only [encReq, load_str, app1_ok, meth_strip, ofP_ok, ok_apply])]
  show SimK _ _ _ _ (Ebb3.queryCore Ebb3.srcParams Ebb3.scriptDev (Ebb3.strip s) (absWorld w))
  unfold Ebb3.queryCore
  refine SimK.block ?_
  rw [qry_if2 fuel _ (Ebb3.strip s) rfl w]
  cases hname : Ebb3.cmdName (Ebb3.strip s) with
  | error e => exact SimK.raised hg
  | ok name =>
    refine SimK.next ?_
    rw [block_cons2, seq_assign_of (v := .str []) (w' := w) rfl, srcRetryQry, srcIgnoreQry]
    refine SimK.block (SimK.try_ ?_)
    rw [qry_try1_eq]
    refine SimK.exchange (getC := EBB3_query_Env.qry) qry_lens 25 hf (Ebb3.strip s) (hasc s rfl) _ ?_ ?_ w hp hg
      (fun resp nrc w1 hg1 _ => SimK.leave (SimK.next (qry_judge fuel _ name resp _ _ _ w1 hg1)))
      fun cl nrc w1 hcl hg1 _ => ?_
    · rfl
    · rfl
    -- a fault: the handler records it and returns, or (reboot requests) lets the empty reply be judged
    unfold EBB3_query_handlers1 EBB3_query_if4
    refine SimK.caught hcl ?_
    cases hi : [['r', 'b'], ['r'], ['b', 'l']].contains (Ebb3.lower name) with
    | true =>
      exact SimK.ifF (by simp only [ignoreTest_eval, hi]; rfl) (SimK.next (qry_judge fuel _ name [] _ _ _ w1 hg1))
    | false =>
      refine SimK.ifT (by simp only [ignoreTest_eval, hi]; rfl)
        (SimK.errRet (getE := EBB3_query_Env.error_msg) hg1 (text := Ebb3.Msg.qryUsb (Ebb3.strip s)) (assign_of ?_) rfl)
      unfold Ebb3.Msg.qryUsb
      rw [String.toList_ofList]
      simp only [load_str, fstr, evalList_cons_ok, evalList_nil, flatten_strs2, ok_apply]

theorem query_bridge_ascii (fuel : Nat) (hf : 26 ≤ fuel) (req : Option Ebb3.Str)
    (hasc : ∀ s, req = some s → PyIO.isAscii s = true) (w : World EBB3_Obj) (hg : Good w) :
    Sim (EBB3_query fuel (encReq req) w)
      (Ebb3.run Ebb3.srcParams Ebb3.scriptDev (.query req) (absWorld w)) :=
  query_bridge fuel hf req (fun s hs => isAscii_strip s (hasc s hs)) w hg

section Callers
variable {σ : Type} {S : EndRel} {fuel : Nat} {fs : List (Frame EBB3_Obj σ)} {env : σ} {w : World EBB3_Obj}
  {text : List Char} {k : Ebb3.Val → Ebb3.M Ebb3.Script Ebb3.Val}

/-- `x = self.query(text)` and the like: `query` answers `None` or a string -/
theorem SimK.query {F : Val → World EBB3_Obj → Flow EBB3_Obj σ} {e : Eff EBB3_Obj} (hf : 26 ≤ fuel) (hg : Good w)
    (he : e = ok (.str text)) (hasc : PyIO.isAscii text = true)
    (hk : ∀ v w1, Good w1 → (v = .none ∨ ∃ s, v = .str s) → SimK S fuel fs (F (encVal v) w1) (k v (absWorld w1)))
    (hfs : noCatch fs = true := by rfl) (hS : SimIn S := by exact id) :
    SimK S fuel fs (onRes env F (mcall1 (EBB3_query fuel) e w))
      (((Ebb3.queryP Ebb3.srcParams Ebb3.scriptDev (some text)).run >>= k) (absWorld w)) :=
  SimK.call (query_bridge_ascii fuel hf (some text) (fun _ hs => Option.some.inj hs ▸ hasc) w hg) (by rw [he]; rfl)
    (fun v w1 hg1 hv _ => hk v w1 hg1 ((Ebb3.query_res _ _ _ hv).imp_right fun ⟨s, hs, _⟩ => ⟨s, hs⟩)) hfs hS

/-- **the shape `x = self.query(text)`; `if x is None: return X`; decoder(x)**: it is enough to relate the decoder on
a string reply -/
theorem SimK.queryDecode (hf : 26 ≤ fuel) (hg : Good w) {set : σ → Val → σ} {get : σ → Val}
    (hget : ∀ env v, get (set env v) = v) {t ret : Expr EBB3_Obj σ} (ht : t fuel env = ok (.str text))
    (hasc : PyIO.isAscii text = true) (X : Ebb3.Val) (hret : ∀ env, ret fuel env = ok (encVal X))
    {tail : Stmt EBB3_Obj σ} (hnone : k .none = pure X)
    (hk : ∀ s w1, Good w1 → SimK S fuel fs (tail fuel (set env (.str s)) w1) (k (.str s) (absWorld w1)))
    (hfs : noCatch fs = true := by rfl) (hS : SimIn S := by exact id) :
    SimK S fuel fs (PyObj.seq (assign set (fun fuel env => mcall1 (EBB3_query fuel) (t fuel env)))
        (PyObj.seq (ifte (fun _ env => app1 op_is_none (load (get env))) (return_ ret) pass) tail) fuel env w)
      (((Ebb3.queryP Ebb3.srcParams Ebb3.scriptDev (some text)).run >>= k) (absWorld w)) := by
  refine SimK.seq ?_
  rw [assign_onRes]
  refine SimK.query hf hg ht hasc (fun v w1 hg1 hv => SimK.next (SimK.seq ?_)) hfs hS
  have htest : (fun (_ : Nat) (env : σ) => app1 op_is_none (load (get env))) fuel (set env (encVal v)) w1
      = (.ok (.bool (isNone (encVal v))), w1) := by
    simp only [hget, load_of_bound (encVal_ne_unbound v), app1_ok, op_is_none, ofP_ok, ok_apply]
  rcases hv with rfl | ⟨s, rfl⟩
  · rw [hnone]
    exact SimK.ifT htest (SimK.ret hg1 (congrFun (hret _) w1) hS)
  · exact SimK.ifF htest (SimK.next (hk s w1 hg1))

end Callers

end Ebb3Gen
end Plotink
