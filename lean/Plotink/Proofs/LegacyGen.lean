import Plotink.Gen.ebb_serial_min_version
import Plotink.Proofs.PyIOLemmas
import Plotink.Proofs.C06
import Plotink.Proofs.C15Prims
import Plotink.Model.C19

/-! # What the bridges of the regenerated module-level functions share (legacy layers, port discovery)

* C19: how ports and optional strings are encoded as Python values (`encPort`, `encOptStr`; `encOptStr` is injective).
* C06: where a call leaves the world (`outWorld`).
* C15, `min_version_bridge`: the decision layer of `Gen.ebb_serial_min_version` against `C15.lminVersion`, given what
  the version query returned; the agreement of the two version-parsing libraries on the texts involved is an explicit
  hypothesis (`PyObj` uses the primitives of `Model/Ebb3.lean`).
-/

namespace Plotink
namespace LegacyGen
open PyObj Gen

theorem load_tuple {ω : Type} (l : List Val) : (load (.tuple l) : Eff ω) = ok (.tuple l) := PyObj.load_tuple l
theorem load_list {ω : Type} (l : List Val) : (load (.list l) : Eff ω) = ok (.list l) := PyObj.load_list l

def encPort (p : C19.Port) : Val := .tuple [.str p.dev, .str p.desc, .str p.hwid]

def encOptStr : Option C19.Str → Val
  | some s => .str s
  | Option.none => .none

theorem encOptStr_inj {a b : Option C19.Str} (h : encOptStr a = encOptStr b) : a = b := by
  cases a <;> cases b <;> first | rfl | rw [Val.str.inj h] | cases h

/-- reading a returned optional string: `.str d` is `encOptStr (some d)` and `.none` is `encOptStr none` -/
theorem val_enc_iff {ω : Type} {o o' : Option C19.Str} {w : World ω} :
    Out.val (encOptStr o) w = .val (encOptStr o') w ↔ o = o' :=
  ⟨fun h => encOptStr_inj (Out.val.inj h).1, fun h => h ▸ rfl⟩

def outWorld {ω : Type} : Out ω → Option (World ω)
  | .val _ w => some w
  | .exc _ w => some w
  | .fuelOut => Option.none

/-- the outcome of `min_version(port, thr)` once its version query returned `reply` in world `w'`, in the primitives of
`PyObj` -/
def gateOut (thr reply : List Char) (w' : World NoObj) : Out NoObj :=
  match Ebb3.splitSub1 ['F', 'i', 'r', 'm', 'w', 'a', 'r', 'e', ' ', 'V', 'e', 'r', 's', 'i', 'o', 'n', ' '] reply with
  | Option.none => .val .none w'
  | some (_, b) =>
    match Ebb3.parseRelease (Ebb3.strip b), Ebb3.parseRelease thr with
    | some v, some g => .val (.bool (Ebb3.vle g v)) w'
    | _, _ => .exc .invalidVersion w'

theorem min_version_eval (fuel : Nat) (thr reply : List Char) (w w' : World NoObj)
    (hq : ebb_serial_queryVersion fuel .port w = .val (.str reply) w') :
    ebb_serial_min_version fuel .port (.str thr) w = gateOut thr reply w' := by
  rw [ebb_serial_min_version, ebb_serial_min_version_main, PyObj.run, block_cons2, block_one, seq,
    ebb_serial_min_version_if1, ifte_pos rfl rfl, block_cons2, block_cons2, block_cons2, block_cons2, block_cons2, block_one,
    seq_norm (assign_of (v := .str reply) (w' := w') (by rw [mcall1_ok_apply, hq]; rfl)), gateOut]
  cases hs : Ebb3.splitSub1 ['F', 'i', 'r', 'm', 'w', 'a', 'r', 'e', ' ', 'V', 'e', 'r', 's', 'i', 'o', 'n', ' '] reply with
  | none =>
    rw [seq_norm (assign_of (v := .list [.str reply]) (w' := w') (by
        simp only [load_str, app1_ok, meth_split1_str, hs, ofP_ok, ok_apply])),
      ebb_serial_min_version_if2, seq_ret ((ifte_neg rfl rfl).trans rfl)]
  | some ab =>
    obtain ⟨a, b⟩ := ab
    rw [seq_norm (assign_of (v := .list [.str a, .str b]) (w' := w') (by
        simp only [load_str, app1_ok, meth_split1_str, hs, ofP_ok, ok_apply])),
      ebb_serial_min_version_if2, seq_norm ((ifte_pos rfl rfl).trans (assign_of rfl)), seq_norm (assign_of rfl),
      ebb_serial_min_version_if3, seq]
    simp only [ifte, load_str, app1_ok, b_parse_version]
    cases Ebb3.parseRelease (Ebb3.strip b) with
    | none =>
      simp only [ofP_error, app2, bind_raise, raise_apply]
    | some v =>
      cases Ebb3.parseRelease thr with
      | none =>
        simp only [ofP_ok, ofP_error, app2, bind_ok, bind_raise, raise_apply]
      | some g =>
        simp only [ofP_ok, app2_ok, op_ge, ofOptBool, leVal, ok_apply, truthy_bool]
        cases Ebb3.vle g v <;> rfl

/-- how the result of the model's gate shows as the outcome of the regenerated function -/
def encGate (w : World NoObj) : Except C15.PyExc (Option Bool) → Out NoObj
  | .ok Option.none => .val .none w
  | .ok (some b) => .val (.bool b) w
  | .error .versionSyntax => .exc .invalidVersion w
  | .error .typeError => .exc .typeError w
  | .error .valueError => .exc .valueError w
  | .error _ => .exc .exception w

/-- **C15: the decision layer of the legacy gate.**  Suppose the version query returned the text
`reply` — in the regenerated code (`hq`) and in the hand model (`hm`; relating the two I/O models `C07.query` and
`C15.lquery` is a model-to-model matter) — and the two version parsers agree on the two texts involved (`hp1`, `hp2`:
they differ on a leading `v`, which `Ebb3.parseRelease` rejects).  Then the regenerated `min_version` returns exactly
what `C15.lminVersion` returns: `None` without the `Firmware Version ` marker, `True`/`False` by
`Version(reply) >= Version(threshold)`, `InvalidVersion` for an unparsable text. -/
theorem min_version_bridge (fuel : Nat) (thr reply : List Char) (w w' : World NoObj)
    (hq : ebb_serial_queryVersion fuel .port w = .val (.str reply) w')
    (P : C15.Params) (io io1 : C15.Io) (hm : C15.lquery P io C15.vQuery = (io1, .ok reply))
    (hp1 : ∀ t, C15.versionText reply = some t → Ebb3.parseRelease t = C15.parseVersion t)
    (hp2 : Ebb3.parseRelease thr = C15.parseVersion thr) :
    ebb_serial_min_version fuel .port (.str thr) w = encGate w' (C15.lminVersion P io thr).2 := by
  rw [min_version_eval fuel thr reply w w' hq]
  unfold gateOut C15.lminVersion
  rw [hm]
  simp only []
  rw [versionText_eq] at hp1 ⊢
  cases hs : Ebb3.splitSub1 ['F', 'i', 'r', 'm', 'w', 'a', 'r', 'e', ' ', 'V', 'e', 'r', 's', 'i', 'o', 'n', ' '] reply with
  | none => rfl
  | some ab =>
    rw [hs] at hp1
    simp only [Option.map_some, hp1 _ rfl, hp2]
    cases C15.parseVersion (Ebb3.strip ab.2) with
    | none => cases C15.parseVersion thr <;> rfl
    | some v =>
      cases C15.parseVersion thr with
      | none => rfl
      | some g => simp only [vle_agree, encGate]

end LegacyGen
end Plotink
