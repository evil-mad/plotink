import Plotink.Proofs.C13Build
import Mathlib.Tactic.NormNum

/-! C13: concrete witnesses for the non-vacuity examples in Props/C13.lean. -/
namespace Plotink
namespace C13

/-- two paths starting at (0,0) and (200,0); 3 bins per side; no reversal -/
def wverts : List Path := [((0, 0), (0, 0)), ((200, 0), (0, 0))]

theorem wgeo : geometry wverts 3 false = some ⟨3, -1, -1, 202/3, 2/3⟩ := by
  norm_num [geometry, extent, points, wverts]

theorem near_refl (G : Geo) (p : Pt) : Near (cellOf G p) (cellOf G p) := by
  unfold Near; omega

/-- index of `wverts` after removing path 1, queried far to the right: the only remaining end is
two columns away from the query's (clamped) cell -/
theorem witness_far : ∃ (g : Grid) (live : List Nat) (q : Pt), Inv g live ∧ live ≠ [] ∧
    ∀ id p, LiveEnd g.verts g.rev live id p → ¬ Near (cellOf g.toGeo q) (cellOf g.toGeo p) := by
  have hb : ∃ g0, build wverts 3 false = some g0 ∧ g0.toGeo = ⟨3, -1, -1, 202/3, 2/3⟩ := by
    simp [build, wgeo]
  obtain ⟨g0, hg0, hgeo0⟩ := hb
  obtain ⟨hinv0, e1, e2, e3, _⟩ := inv_build hg0
  have hlen : wverts.length = 2 := rfl
  rw [hlen] at hinv0 e3
  obtain ⟨g, _, hinv, f1, f2, f3, f4⟩ := inv_remove hinv0 (p := 1) (by simp)
  have hlive : ∀ k, k ∈ (List.range 2).filter (· ≠ 1) ↔ k = 0 := by
    intro k; simp only [List.mem_filter, List.mem_range, ne_eq, decide_eq_true_eq]; omega
  refine ⟨g, _, (300, 0), hinv, ?_, ?_⟩
  · intro he
    have := (hlive 0).mpr rfl
    rw [he] at this
    exact absurd this (by simp)
  · intro id p hp
    obtain ⟨⟨hv, hl⟩, hpt⟩ := (liveEnd_iff hinv id p).mp hp
    have hn : g.n = 2 := f3.trans e3
    have hrev : g.rev = false := f2.trans e2
    have hid : id = 0 := by
      rw [hlive] at hl
      unfold ValidId at hv
      rw [hrev, hn] at hv
      unfold pathOf at hl
      rw [hn] at hl
      rcases hv with hv | ⟨hf, _⟩
      · simpa [hv] using hl
      · cases hf
    subst hid
    have hp0 : p = (0, 0) := by
      rw [← hpt]
      unfold endPt endPtV
      rw [f4.trans e1, hn]
      simp [wverts]
    subst hp0
    rw [f1, hgeo0]
    unfold Near cellOf binClamp binHi
    simp only []
    have h1 : (((0 : Rat) - (-1)) / (202 / 3)).floor < 1 := Rat.floor_lt_iff.mpr (by norm_num)
    have h2 : (2 : Int) ≤ (((300 : Rat) - (-1)) / (202 / 3)).floor := Rat.le_floor_iff.mpr (by norm_num)
    omega

/-- any non-empty index queried at one of its live ends -/
theorem witness_near {g : Grid} {live : List Nat} (h : Inv g live) (hne : live ≠ []) :
    ∃ (q : Pt) (id : Nat) (p : Pt), LiveEnd g.verts g.rev live id p ∧
      Near (cellOf g.toGeo q) (cellOf g.toGeo p) ∧ sqDist q p ≤ min g.bx g.by_ * min g.bx g.by_ := by
  cases live with
  | nil => exact absurd rfl hne
  | cons k t =>
    have hl : LiveEnd g.verts g.rev (k :: t) k (endPt g k) :=
      (liveEnd_iff h k _).mpr ⟨.of_mem h List.mem_cons_self, rfl⟩
    refine ⟨endPt g k, k, endPt g k, hl, near_refl _ _, ?_⟩
    have : sqDist (endPt g k) (endPt g k) = 0 := by simp [sqDist]
    rw [this]
    exact mul_self_nonneg _

end C13
end Plotink
