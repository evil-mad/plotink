import Plotink.Proofs.C05Frame
import Plotink.Model.Ebb3Params
import Plotink.Proofs.C15Connect
import Plotink.Proofs.C15Prims
/-! # C15 — the two hand models of `EBB3.connect` agree up to the minimum-version check

`Model/Ebb3.lean` (`Ebb3.connectBody`, a monadic program over a device) and `Model/C15.lean` (`C15.connect`, a function of
the script) model the same method.  On the `Ebb3` script behind a `C15` script (`scriptOf`) and the same attributes
(`toSt`), `Ebb3.identify` is `C15.handshake` and the head of `Ebb3.connectBody` ends as the head of `C15.connect` does
(the `C15` side with the runtime's parser, `connectHeadP Ebb3.parseRelease`).  `Ebb3` logs attempted writes and counts
reads, `C15` logs successful writes: the statements carry the `Ebb3` log.  No generated code is involved
(`Ebb3.srcParams` holds the literals read from the source). -/
namespace Plotink.C15Gen
open C15

def rdEv : Rd → Ebb3.ReadEv
  | .line s => .line s
  | .empty => .line []
  | .raise => .raise

def wrEv : Wr → Ebb3.WriteEv
  | .ok => .ok
  | .raise => .raise

/-- the `Ebb3` script behind a `C15` script (whether the port opens is an argument of the `Ebb3` call) -/
def scriptOf (io : Io) : Ebb3.Script := ⟨io.reads.map rdEv, io.writes.map wrEv⟩

def toSt (st : St) : Ebb3.St := ⟨st.port, st.err, st.version, st.vparsed, st.name, st.caller, st.portName⟩

abbrev ebb3World (st : St) (sc : Ebb3.Script) (out : List Ebb3.Str) (n : Nat) : Ebb3.World Ebb3.Script :=
  ⟨toSt st, sc, out, n⟩

/-- the object after `_get_port_name`: the located port name, and an error when none was found (port location is
C19's business: an input here, as in the model) -/
def locSt (st : C15.St) (given found : Option (List Char)) : C15.St :=
  match found with
  | Option.none => C15.recordError { st with portName := Option.none } (C15.msgLocate given)
  | some pn => { st with portName := some pn }

theorem parse_min : Ebb3.parseRelease ['3', '.', '0', '.', '2'] = some [3, 0, 2] := by decide +kernel
theorem parse_minC : C15.parseVersion ['3', '.', '0', '.', '2'] = some [3, 0, 2] := by decide +kernel

theorem isEbbReply_eq (s : C15.Str) : Ebb3.isEbbReply s = isEbb s := by
  unfold Ebb3.isEbbReply isEbb
  rw [LegacyGen.hasSub_agree]; rfl

theorem toSt_recordError (st : St) (m : C15.Str) : Ebb3.recordErrorSt m (toSt st) = toSt (recordError st m) := by
  obtain ⟨port, p, v, vp, nm, err, cl⟩ := st
  cases err <;> rfl

/-- `record_error(m); disconnect()` followed by a result (`Ebb3.probeFail`, `Ebb3.connectFailed`) -/
theorem recDisc_agree {α : Type} (m : C15.Str) (v : α) (st : St) (sc : Ebb3.Script) (out : List Ebb3.Str) (n : Nat) :
    (Ebb3.recordError m >>= fun _ => Ebb3.disconnectM >>= fun _ => (pure v : Ebb3.M Ebb3.Script α)) (ebb3World st sc out n) =
      (.ok v, ebb3World (disconnect (recordError st m)) sc out n) := by
  simp only [Ebb3.bind_apply, Ebb3.recordError, Ebb3.modifySt_apply, Ebb3.disconnectM, Ebb3.pure_apply, toSt_recordError]
  rfl

/-- one version probe of the handshake: write `v\r`, read a line and strip it; `none` = a `SerialException` -/
def probe (io : Io) : Option Str × Io :=
  match io.write vProbe with
  | (true, io1) => (none, io1)
  | (false, io1) =>
    match io1.read with
    | (none, io2) => (none, io2)
    | (some l, io2) => (some (strip l), io2)

theorem handshake_probe (io : Io) :
    handshake io =
      match io.open with
      | (false, io0) => ⟨false, true, false, [], io0⟩
      | (true, io0) =>
        match probe io0 with
        | (none, io2) => ⟨false, true, true, [], io2⟩
        | (some s, io2) =>
          if isEbb s then ⟨true, false, true, s, io2⟩
          else match probe io2 with
            | (none, io4) => ⟨false, true, true, s, io4⟩
            | (some s2, io4) => ⟨isEbb s2, false, true, s2, io4⟩ := by
  unfold handshake probe
  rcases io.open with ⟨_ | _, io0⟩
  · rfl
  · simp only
    rcases io0.write vProbe with ⟨_ | _, io1⟩
    · simp only
      rcases io1.read with ⟨_ | l, io2⟩
      · rfl
      · simp only
        split
        · rfl
        · rcases io2.write vProbe with ⟨_ | _, io3⟩
          · simp only
            rcases io3.read with ⟨_ | l2, io4⟩ <;> rfl
          · rfl
    · rfl

/-- one probe: same reply, same remaining script; `Ebb3` logs the attempted write and counts the read -/
theorem probe_agree (io : Io) (st : Ebb3.St) (out : List Ebb3.Str) (n : Nat) :
    ∃ kr, Ebb3.probe Ebb3.scriptDev ⟨st, scriptOf io, out, n⟩ =
      (.ok (probe io).1, ⟨st, scriptOf (probe io).2, out ++ [vProbe], n + kr⟩) := by
  obtain ⟨opens, reads, writes, written⟩ := io
  unfold Ebb3.probe probe vProbe
  simp only [Ebb3.bind_apply, Ebb3.portWrite, Ebb3.scriptDev, scriptOf, Io.write, Io.read, LegacyGen.strip_agree]
  rcases writes with _ | ⟨_ | _, ws⟩
  · rcases reads with _ | ⟨_ | _ | _, rs⟩ <;> exact ⟨1, rfl⟩
  · rcases reads with _ | ⟨_ | _ | _, rs⟩ <;> exact ⟨1, rfl⟩
  · exact ⟨0, rfl⟩

/-- **`Ebb3.identify` is `C15.handshake`**; `k` probes were attempted -/
theorem identify_handshake (io : Io) (st : St) (pn : C15.Str) (out : List Ebb3.Str) (n : Nat) :
    ∃ k kr, k ≤ 2 ∧ (openAt io 0 = false → k = 0) ∧
      Ebb3.identify Ebb3.scriptDev pn (openAt io 0) (ebb3World st (scriptOf io) out n) =
        (.ok (if (handshake io).verified then some (handshake io).sv else none),
          ebb3World (hsSt st pn (handshake io)) (scriptOf (handshake io).io) (out ++ List.replicate k vProbe) (n + kr)) := by
  rw [handshake_probe, open_eq]
  unfold Ebb3.identify hsSt Ebb3.probeFail
  cases openAt io 0 with
  | false =>
    refine ⟨0, 0, by omega, fun _ => rfl, ?_⟩
    simp only [Bool.false_eq_true, ↓reduceIte, recDisc_agree, List.replicate_zero, List.append_nil]
    rfl
  | true =>
    have hsc : scriptOf { io with opens := io.opens.drop 1 } = scriptOf io := rfl
    have hreset : ∀ w : Ebb3.World Ebb3.Script, Ebb3.portReset Ebb3.scriptDev w = (.ok (), w) := fun _ => rfl
    simp only [↓reduceIte, Ebb3.bind_apply, Ebb3.modifySt_apply, hreset]
    obtain ⟨kr1, e1⟩ := probe_agree { io with opens := io.opens.drop 1 } (toSt { st with port := true }) out n
    rw [hsc] at e1
    rw [show ({ toSt st with port := true } : Ebb3.St) = toSt { st with port := true } from rfl, e1]
    obtain ⟨o1, io2, hp1⟩ : ∃ o1 io2, probe { io with opens := io.opens.drop 1 } = (o1, io2) := ⟨_, _, rfl⟩
    simp only [hp1]
    rcases o1 with _ | s1
    · exact ⟨1, kr1, by omega, nofun, by simp only [recDisc_agree]; rfl⟩
    · simp only [isEbbReply_eq]
      by_cases h1 : isEbb s1 = true
      · simp only [h1, ↓reduceIte]
        exact ⟨1, kr1, by omega, nofun, rfl⟩
      · obtain ⟨kr2, e2⟩ := probe_agree io2 (toSt { st with port := true }) (out ++ [vProbe]) (n + kr1)
        obtain ⟨o2, io4, hp2⟩ : ∃ o2 io4, probe io2 = (o2, io4) := ⟨_, _, rfl⟩
        simp only [h1, Bool.false_eq_true, ↓reduceIte, Ebb3.bind_apply, e2, hp2]
        rcases o2 with _ | s2
        · exact ⟨2, kr1 + kr2, by omega, nofun, by
            simp only [recDisc_agree, List.append_assoc, Nat.add_assoc]; rfl⟩
        · refine ⟨2, kr1 + kr2, by omega, nofun, ?_⟩
          simp only [List.append_assoc, Nat.add_assoc]
          by_cases h2 : isEbb s2 = true
          · simp only [h2, ↓reduceIte]; rfl
          · simp only [h2, Bool.false_eq_true, ↓reduceIte]; rfl

theorem getPortName_agree (given found : Option C15.Str) (st : St) (sc : Ebb3.Script) (out : List Ebb3.Str) (n : Nat) :
    Ebb3.getPortName given found (ebb3World st sc out n) = (.ok (), ebb3World (locSt st given found) sc out n) := by
  unfold Ebb3.getPortName locSt
  cases found with
  | some pn => rfl
  | none =>
    simp only [Ebb3.bind_apply, Ebb3.modifySt_apply, Ebb3.recordError]
    cases given <;> exact congrArg (fun s => (Except.ok (), (⟨s, sc, out, n⟩ : Ebb3.World Ebb3.Script)))
      (toSt_recordError { st with portName := none } _)

/-- `parse_version` of the two models, with the runtime's parser on the `C15` side -/
theorem parseVersionM_agree (sv : C15.Str) (st : St) (sc : Ebb3.Script) (out : List Ebb3.Str) (n : Nat) :
    Ebb3.parseVersionM sv (ebb3World st sc out n) =
      match parseStmtP Ebb3.parseRelease st sv with
      | some st' => (.ok (), ebb3World st' sc out n)
      | none => (.error .invalidVersion, ebb3World { st with version := versionText sv } sc out n) := by
  unfold Ebb3.parseVersionM parseStmtP
  rw [LegacyGen.versionText_eq, String.toList_ofList]
  cases Ebb3.splitSub1 _ sv with
  | none => rfl
  | some ab =>
    simp only [Option.map_some, Ebb3.setVersion, Ebb3.bind_apply, Ebb3.modifySt_apply]
    cases Ebb3.parseRelease (Ebb3.strip ab.2) <;> rfl

theorem minVersionM_agree {thr : C15.Str} {g : List Nat} (hg : Ebb3.parseRelease thr = some g) (st : St)
    (sc : Ebb3.Script) (out : List Ebb3.Str) (n : Nat) :
    Ebb3.minVersionM thr (ebb3World st sc out n) =
      match st.vparsed with
      | some v => (.ok (.bool (versionGe v g)), ebb3World st sc out n)
      | none => (.error .typeError, ebb3World st sc out n) := by
  unfold Ebb3.minVersionM
  rw [hg]
  simp only [Ebb3.bind_apply, Ebb3.getSt_apply]
  cases hv : st.vparsed with
  | none => simp only [toSt, hv]; rfl
  | some v => simp only [toSt, hv, LegacyGen.vle_agree]; rfl

theorem msgOld_agree (ver : Option C15.Str) (minv : C15.Str) :
    Ebb3.Msg.oldFirmware (ver.getD "None".toList) minv = msgOld ver minv := by
  cases ver <;> rfl

/-- how `Ebb3.connectBody`, started with `out` written, ends for each way the head of `C15.connect` can end: a refusal
returns `False` in the `C15` state after at most two probes attempted (none under `c0`), a failure is an exception other
than `SerialException`; nothing is claimed when the head passes -/
def HeadM (r : Except Ebb3.PyExc Ebb3.Val × Ebb3.World Ebb3.Script) (out : List Ebb3.Str) (c0 : Prop) : Head → Prop
  | .refused st' _ => ∃ k sc n', k ≤ 2 ∧ (c0 → k = 0) ∧
      r = (.ok (.bool false), ebb3World st' sc (out ++ List.replicate k vProbe) n')
  | .failed _ _ _ => ∃ e aw, r = (.error e, aw) ∧ e ≠ .serialException
  | .pass _ _ => True

/-- **the head of `Ebb3.connectBody` is the head of `C15.connect`** -/
theorem connectBody_head (P : Params) (hmin : P.minVersion = ['3', '.', '0', '.', '2']) (st : St) (hp : st.port = false)
    (given caller found : Option C15.Str) (io : Io) (out : List Ebb3.Str) (n : Nat) :
    HeadM (Ebb3.connectBody Ebb3.srcParams Ebb3.scriptDev given caller found (openAt io 0)
        (ebb3World st (scriptOf io) out n)) out
      (found = none ∨ openAt io 0 = false) (connectHeadP Ebb3.parseRelease P st given found io) := by
  unfold Ebb3.connectBody connectHeadP
  rw [Ebb3.bind_ok (Ebb3.getSt_apply _)]
  simp only [show (toSt st).port = false from hp, Bool.false_eq_true, ↓reduceIte]
  rw [Ebb3.bind_ok (getPortName_agree given found st _ out n)]
  cases found with
  | none => exact ⟨0, _, _, by omega, fun _ => rfl, by simp only [List.replicate_zero, List.append_nil]; rfl⟩
  | some pn =>
    obtain ⟨k, kr, hk, hk0, e⟩ := identify_handshake io { st with portName := some pn } pn out n
    simp only [locSt]
    rw [Ebb3.bind_ok e]
    have hk0' : some pn = none ∨ openAt io 0 = false → k = 0 := fun h => hk0 (h.resolve_left nofun)
    generalize handshake io = hs at *
    cases hv : hs.verified with
    | false =>
      simp only [Bool.false_eq_true, ↓reduceIte, Bool.not_false]
      exact ⟨k, _, _, hk, hk0', recDisc_agree ..⟩
    | true =>
      simp only [↓reduceIte, Bool.not_true, Bool.false_eq_true]
      unfold Ebb3.checkVersion
      rw [show Ebb3.srcParams.minVersion = ['3', '.', '0', '.', '2'] by decide, Ebb3.bind_apply, parseVersionM_agree]
      cases parseStmtP Ebb3.parseRelease (hsSt { st with portName := some pn } pn hs) hs.sv with
      | none => exact ⟨_, _, rfl, nofun⟩
      | some st3 =>
        simp only [Ebb3.bind_apply, minVersionM_agree parse_min, versionCheck, minVersion3, hmin, parse_minC]
        cases hv3 : st3.vparsed with
        | none => exact ⟨_, _, rfl, nofun⟩
        | some v =>
          simp only
          cases versionGe v [3, 0, 2] with
          | true => trivial
          | false =>
            refine ⟨k, scriptOf hs.io, n + kr, hk, hk0', ?_⟩
            simp only [Ebb3.Val.bool.injEq, Bool.false_eq_true, ↓reduceIte, Ebb3.bind_apply, Ebb3.getSt_apply,
              Ebb3.recordError, Ebb3.modifySt_apply, Ebb3.pure_apply, msgOld_agree, toSt_recordError]
            rfl

theorem queryNickname_ok (P : Ebb3.Params) (w : Ebb3.World Ebb3.Script) :
    ∃ v w', (Ebb3.queryNicknameP P Ebb3.scriptDev).run w = (.ok v, w') := by
  rcases Ebb3.Prog.run_cases (Ebb3.queryNicknameP P Ebb3.scriptDev) .none rfl w with h | ⟨-, h⟩
  · exact ⟨_, _, h⟩
  · rw [h]
    obtain ⟨v, w1, hq⟩ := Ebb3.queryRun_ok P Ebb3.scriptDev "QT".toList (by decide) w
    show ∃ v w', ((Ebb3.queryP P Ebb3.scriptDev (some "QT".toList)).run >>= _) _ = _
    rw [Ebb3.bind_ok hq]
    cases v with
    | str raw => cases h : Ebb3.isSpaceStr raw <;> simp only [h, Bool.false_eq_true, ↓reduceIte] <;> exact ⟨_, _, rfl⟩
    | _ => exact ⟨_, _, rfl⟩

/-- the tail of the model's `connect` returns `True` or lets a `SerialException` escape -/
theorem enterFuture_res (P : Ebb3.Params) (caller : Option Ebb3.Str) (w : Ebb3.World Ebb3.Script) :
    ∃ w', Ebb3.enterFuture P Ebb3.scriptDev caller w = (.ok (.bool true), w') ∨
      Ebb3.enterFuture P Ebb3.scriptDev caller w = (.error .serialException, w') := by
  unfold Ebb3.enterFuture
  rw [Ebb3.bind_ok (show Ebb3.portWrite Ebb3.scriptDev _ w = (.ok _, _) from rfl)]
  split
  · rw [Ebb3.bind_ok (show Ebb3.portRead Ebb3.scriptDev _ = (.ok _, _) from rfl)]
    split
    · dsimp only
      rw [Ebb3.bind_ok (show Ebb3.portReset Ebb3.scriptDev _ = (.ok (), _) from rfl)]
      obtain ⟨v, w', h⟩ := queryNickname_ok P _
      rw [Ebb3.bind_ok h]
      cases caller <;> exact ⟨_, Or.inl rfl⟩
    · exact ⟨_, Or.inr rfl⟩
  · exact ⟨_, Or.inr rfl⟩

end Plotink.C15Gen
