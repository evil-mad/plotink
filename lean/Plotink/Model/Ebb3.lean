/-!
# Model of the EBB3 serial layer  (`plotink/ebb3_serial.py` class `EBB3`,
# `plotink/ebb3_motion.py` class `EBBMotionWrap`)

One model serves C04 (error latch) and C05 (framing / fault handling); it is written so that
C06 / C15 / C16 can run the same methods against other devices.  Core Lean only (this file is
linked into the native driver).  Layers, bottom up:

1. **Strings** – the `str` operations the code uses, on `List Char` (ASCII alphabet).
2. **Python values / exceptions / `int()`** – `Val`, `PyExc`, `pyInt`.
3. **Versions** – release-only model of `packaging.version.parse` and its order.
4. **Devices** – a port is a `Device σ` (what one `write`, one `readline`, one
   `reset_input_buffer` do to a device state `σ`).  `Script` (two outcome lists, DESIGN §5d) is the
   instance used by C04/C05; `Proofs/C05Conf.lean` has a responsive device (`confDev`); a board
   state machine (C16) or an all-acknowledging device (C06) are further instances of the same
   interface.
5. **Object state and the monad `M`** – `St` (the attributes of the Python object), `World`
   (object state + device state + log of everything handed to `port.write` + number of `readline`
   calls), `M σ α = World σ → Except PyExc α × World σ` (an exception keeps the world: the Python
   object survives a raised exception with whatever was mutated before it).
6. **Primitives** – `recordError`, `command`, `query`, `queryStatusByte`, raw writes, mirroring
   the code statement by statement.  Exceptions the Python code raises on its own
   (`None.split`, `int('x')`, `''[1]`, `None >= Version`, `to_bytes` overflow …) are explicit
   `PyExc` values; `SerialException` raised by the port is a *device outcome* and is handled where
   (and only where) the code has a matching `except`.
7. **Methods** – every public method of both classes as a `Prog` = *guard* (the
   `if (self.port is None) or (self.err is not None): return <failure value>` first statement,
   present exactly where the Python method has it) + *body*.
8. **The table** – `Method` (38 public methods), `Call` (a method with its arguments),
   `guardOf : Method → Option Val` (the finite table of guards and failure values),
   `prog : Call → Prog`, `run`, `runCall`, `runCalls` (histories).
9. **Spec** – list-combinator specification of one request/reply exchange (`Spec.firstReply`,
   `Spec.readsUsed`, `Spec.commandError`, `Spec.queryError`, `Spec.queryValue`), independent of the
   read loop of section 6.

The model mirrors the source *with the four C05 repairs of `fixes/c05_*.diff` applied*
(`query_voltage`, `query_current`: `None` check before `.split`; `query_statusbyte`: return after
an unexpected reply; `write_nickname`: result of `command` decides) — marked "(repair …)" below.

Parameters (`Params`) are the constants read from the source by `translator/extract_params.py`
into `Gen/Params.lean` (`Model/Ebb3Params.lean : srcParams`): retry limits, the names whose I/O
errors are ignored, the pause chunk, the minimum firmware version, the default voltage threshold.

Helper methods modelled only as far as needed (they never touch the port): `find_first` (the
result of the `comports()` scan is an argument of the call; C19 models the scan), `parse_version` /
`min_version` (release-only versions `N(.N)*`; anything else is `invalidVersion`), `connect`
(port search result and whether `serial.Serial()` opens are arguments of the call);
`record_error`, `disconnect` are modelled fully.

Proof toolkit (`Proofs/Ebb3Rel.lean`, `C04Latch.lean`, `Ebb3Verdict.lean`, `C05Frame.lean`,
`C05Decode.lean`, `C05Methods.lean`, `C05FailRep.lean`): symbolic execution lemmas (`bind_ok`,
`bind_inv`), the guard lemma (`run_blocked`), compositional predicates (`KeepsErr`, `NoIO`, `Inert`,
`RetNone`; the first three, with `Replay` and `Proj`, are instances of the relations of `Ebb3Rel`),
`command` / `query` on any device as one exchange and a verdict (`commandCore_of_exchange`,
`queryCore_of_exchange`; on scripts `commandCore_script`, `queryCore_script`), and the generic
`total_of_sound`: for any device and invariant such that every exchange from a world of the
invariant returns, keeps it and answers the decoded queries with well-formed payloads (`Sound`),
every request method returns and keeps the invariant.
-/

namespace Plotink
namespace Ebb3

abbrev Str := List Char

/-! ## 1. Strings -/

/-- Python `str.isspace` / `strip()` whitespace, restricted to ASCII:
TAB LF VT FF CR, FS GS RS US, SPACE. -/
def isSpace (c : Char) : Bool :=
  let n := c.toNat
  n == 32 || (9 ≤ n && n ≤ 13) || (28 ≤ n && n ≤ 31)

def lstrip (s : Str) : Str := s.dropWhile isSpace

def rstrip : Str → Str
  | [] => []
  | c :: cs =>
    match rstrip cs with
    | [] => if isSpace c then [] else [c]
    | r => c :: r

/-- `str.strip()` -/
def strip (s : Str) : Str := rstrip (lstrip s)

/-- `s.startswith(p)` -/
def startsWith (p s : Str) : Bool := p.isPrefixOf s

/-- `p in s` for strings -/
def hasSub (p : Str) : Str → Bool
  | [] => p.isEmpty
  | c :: cs => p.isPrefixOf (c :: cs) || hasSub p cs

/-- `'Err:' in s` -/
def hasErr (s : Str) : Bool := hasSub "Err:".toList s

/-- `s.lower()` (ASCII) -/
def lower (s : Str) : Str := s.map Char.toLower

/-- `s.isspace()` -/
def isSpaceStr (s : Str) : Bool := !s.isEmpty && s.all isSpace

/-- `s.split(sep)` for a one-character separator -/
def splitOn (sep : Char) : Str → List Str
  | [] => [[]]
  | c :: cs =>
    if c = sep then [] :: splitOn sep cs
    else match splitOn sep cs with
      | [] => [[c]]
      | h :: t => (c :: h) :: t

/-- `s.split(sep, 1)`: `(s, none)` when `sep` does not occur -/
def split1 (sep : Char) : Str → Str × Option Str
  | [] => ([], none)
  | c :: cs =>
    if c = sep then ([], some cs)
    else let (a, b) := split1 sep cs; (c :: a, b)

/-- `s.split(p, 1)` for a string separator: the parts around the first occurrence -/
def splitSub1 (p : Str) : Str → Option (Str × Str)
  | [] => if p.isEmpty then some ([], []) else none
  | c :: cs =>
    if p.isPrefixOf (c :: cs) then some ([], (c :: cs).drop p.length)
    else (splitSub1 p cs).map (fun ab => (c :: ab.1, ab.2))

/-- f-string rendering of an `int` -/
def showInt (z : Int) : Str := (toString z).toList

/-! ## 2. Python values, exceptions, `int()` -/

/-- exceptions that can escape a method (`serialException` only where the code has no handler) -/
inductive PyExc where
  | attributeError | valueError | indexError | typeError | keyError | overflowError
  | invalidVersion | serialException
  deriving DecidableEq, Repr

/-- the values methods take and return -/
inductive Val where
  | none
  | bool (b : Bool)
  | int (z : Int)
  | str (s : Str)
  | pair (a b : Val)
  deriving DecidableEq, Repr

/-- value of one digit in `base` -/
def digitVal (base : Nat) (c : Char) : Option Nat :=
  let n := c.toNat
  let v : Option Nat :=
    if 48 ≤ n ∧ n ≤ 57 then some (n - 48)
    else if 97 ≤ n ∧ n ≤ 122 then some (n - 87)
    else if 65 ≤ n ∧ n ≤ 90 then some (n - 55)
    else Option.none
  match v with
  | some d => if d < base then some d else Option.none
  | Option.none => Option.none

/-- where we are in a digit string: nothing yet, right after a `0x` prefix, after a digit, after `_` -/
inductive DigSt where
  | start | pfx | digit | under
  deriving DecidableEq, Repr

/-- digits with single underscores between them (`1_000`) -/
def parseDigits (base : Nat) : Str → Nat → DigSt → Option Nat
  | [], acc, .digit => some acc
  | [], _, _ => Option.none
  | c :: cs, acc, s =>
    if c.toNat = 95 then
      (match s with
       | .digit => parseDigits base cs acc .under
       | .pfx => parseDigits base cs acc .under
       | _ => Option.none)
    else match digitVal base c with
      | some d => parseDigits base cs (acc * base + d) .digit
      | Option.none => Option.none

def has0x (s : Str) : Bool :=
  match s with
  | a :: b :: _ => a.toNat == 48 && (b.toNat == 120 || b.toNat == 88)
  | _ => false

/-- whitespace skipped by `int()` on ASCII text (C `isspace`): TAB LF VT FF CR SPACE — unlike
`str.strip()` it does *not* include FS GS RS US -/
def isSpaceC (c : Char) : Bool :=
  c.toNat == 32 || (9 ≤ c.toNat && c.toNat ≤ 13)

def rstripC : Str → Str
  | [] => []
  | c :: cs =>
    match rstripC cs with
    | [] => if isSpaceC c then [] else [c]
    | r => c :: r

/-- `int(s, base)` for `base ∈ {10, 16}` on ASCII text; `none` = `ValueError` -/
def pyInt (base : Nat) (s : Str) : Option Int :=
  let t := rstripC (s.dropWhile isSpaceC)
  let (neg, u) : Bool × Str :=
    match t with
    | c :: r => if c.toNat = 45 then (true, r) else if c.toNat = 43 then (false, r) else (false, t)
    | [] => (false, [])
  let v := if base = 16 ∧ has0x u then parseDigits 16 (u.drop 2) 0 .pfx
           else parseDigits base u 0 .start
  v.map (fun n => if neg then -(n : Int) else (n : Int))

/-! ## 3. Versions (release-only model of `packaging.version`) -/

def parseNat? (s : Str) : Option Nat :=
  if s.isEmpty then Option.none
  else s.foldl (fun acc c => match acc with
    | some a => if 48 ≤ c.toNat ∧ c.toNat ≤ 57 then some (a * 10 + (c.toNat - 48)) else Option.none
    | Option.none => Option.none) (some 0)

/-- `packaging.version.parse` restricted to release-only versions `N(.N)*` (surrounding whitespace
allowed); everything else is `none` (= `InvalidVersion`; pre/post/dev/local/epoch forms are outside
the model and logged as out of domain by the harness). -/
def parseRelease (s : Str) : Option (List Nat) :=
  ((splitOn '.' (strip s)).map parseNat?).foldr
    (fun o acc => match o, acc with | some a, some l => some (a :: l) | _, _ => Option.none) (some [])

def dropTrailingZeros (l : List Nat) : List Nat :=
  (l.reverse.dropWhile (· == 0)).reverse

def lexLe : List Nat → List Nat → Bool
  | [], _ => true
  | _ :: _, [] => false
  | a :: as, b :: bs => a < b || (a == b && lexLe as bs)

/-- `Version(a) <= Version(b)` on releases: trailing zeros are insignificant -/
def vle (a b : List Nat) : Bool := lexLe (dropTrailingZeros a) (dropTrailingZeros b)

/-! ## 4. Devices -/

/-- outcome of one `readline()`: the raw line (ASCII, `[]` = timeout) or `SerialException` -/
inductive ReadEv where
  | line (s : Str)
  | raise
  deriving DecidableEq, Repr

/-- a read that times out -/
abbrev ReadEv.empty : ReadEv := .line []

/-- outcome of one `write()` -/
inductive WriteEv where
  | ok
  | raise
  deriving DecidableEq, Repr

/-- what the port does, as a state machine over a device state `σ` -/
structure Device (σ : Type) where
  /-- `port.write(text)` -/
  write : σ → Str → WriteEv × σ
  /-- `port.readline()` -/
  read : σ → ReadEv × σ
  /-- `port.reset_input_buffer()` -/
  reset : σ → σ

/-- DESIGN §5d: a port as two outcome lists; an exhausted list means silence resp. ok. -/
structure Script where
  reads : List ReadEv
  writes : List WriteEv
  deriving DecidableEq, Repr

def scriptDev : Device Script where
  write sc _ := match sc.writes with
    | [] => (.ok, sc)
    | w :: ws => (w, { sc with writes := ws })
  read sc := match sc.reads with
    | [] => (.line [], sc)
    | r :: rs => (r, { sc with reads := rs })
  reset sc := sc

/-! ## 5. Object state, world, monad -/

/-- attributes of the Python object -/
structure St where
  /-- `self.port is not None` -/
  port : Bool
  /-- `self.err` -/
  err : Option Str
  /-- `self.version` -/
  version : Option Str
  /-- `self.version_parsed` (release segments) -/
  versionParsed : Option (List Nat)
  /-- `self.name` -/
  name : Option Str
  /-- `self.caller` -/
  caller : Option Str
  /-- `self.port_name` -/
  portName : Option Str
  deriving DecidableEq, Repr

/-- a fresh object (`__init__`) -/
def St.init : St := ⟨false, .none, .none, .none, .none, .none, .none⟩

/-- the guard condition `(self.port is None) or (self.err is not None)` -/
def St.blocked (st : St) : Bool := !st.port || st.err.isSome

structure World (σ : Type) where
  st : St
  dev : σ
  /-- every text handed to `port.write`, oldest first (including writes that raised) -/
  out : List Str
  /-- number of `readline()` calls so far -/
  nreads : Nat

/-- computations: an exception keeps the world -/
def M (σ α : Type) := World σ → Except PyExc α × World σ

namespace M
variable {σ α β : Type}

@[inline] def ret (a : α) : M σ α := fun w => (.ok a, w)

@[inline] def andThen (x : M σ α) (f : α → M σ β) : M σ β := fun w =>
  match x w with
  | (.ok a, w') => f a w'
  | (.error e, w') => (.error e, w')

instance : Monad (M σ) where
  pure := M.ret
  bind := M.andThen

def raise (e : PyExc) : M σ α := fun w => (.error e, w)

def getSt : M σ St := fun w => (.ok w.st, w)

def modifySt (f : St → St) : M σ Unit := fun w => (.ok (), { w with st := f w.st })

/-- lift `Option` with the exception to raise on `none` -/
def ofOption (e : PyExc) : Option α → M σ α
  | some a => ret a
  | .none => raise e

end M

open M

variable {σ : Type}

/-- parameters read from the source -/
structure Params where
  /-- `n_retry_count < retryCmd` in `command` -/
  retryCmd : Nat
  /-- `n_retry_count < retryQry` in `query` -/
  retryQry : Nat
  /-- lower-cased names whose I/O exceptions are ignored in `command` -/
  ignoreCmd : List Str
  /-- the same list in `query` -/
  ignoreQry : List Str
  /-- `pause_time > pauseCmp` in `timed_pause` -/
  pauseCmp : Int
  /-- `time_delay = pauseChunk` -/
  pauseChunk : Int
  /-- `MIN_VERSION_STRING` -/
  minVersion : Str
  /-- default `threshold` of `query_voltage` -/
  vThreshold : Int

/-! ## 6. Primitives

Style rule for everything below (it keeps the terms that proofs see small): inside a `do` block a
conditional is either the *last* statement or a parenthesised term with both branches, so that the
`do` elaborator never has to introduce a join point for the code after it. -/

/-- `record_error`: first error wins -/
def recordErrorSt (msg : Str) (st : St) : St :=
  if st.err.isNone then { st with err := some msg } else st

def recordError (msg : Str) : M σ Unit := modifySt (recordErrorSt msg)

/-- `self.port.write(text)`; `true` = ok, `false` = raised `SerialException` -/
def portWrite (D : Device σ) (text : Str) : M σ Bool := fun w =>
  let r := D.write w.dev text
  (.ok (r.1 == .ok), { w with dev := r.2, out := w.out ++ [text] })

/-- `self.port.readline().decode('ascii')`; `none` = raised `SerialException` -/
def portRead (D : Device σ) : M σ (Option Str) := fun w =>
  let r := D.read w.dev
  (.ok (match r.1 with | .line s => some s | .raise => Option.none),
   { w with dev := r.2, nreads := w.nreads + 1 })

def portReset (D : Device σ) : M σ Unit := fun w => (.ok (), { w with dev := D.reset w.dev })

/-- `self.disconnect()` (an exception in `close()` is swallowed by the code) -/
def disconnectM : M σ Unit := modifySt (fun st => { st with port := false })

/-- The one- or two-letter name of a trimmed request (`IndexError` on the empty string). -/
def cmdName (cmd : Str) : Except PyExc Str :=
  match cmd with
  | [] => .error .indexError
  | [c] => .ok [c]
  | c :: d :: _ => if d = ',' then .ok [c] else .ok [c, d]

/-- the read loop: at most `n` reads, stop at the first non-empty (after `strip`) line;
`some []` = all empty; `none` = a read raised -/
def readLoop (D : Device σ) : Nat → M σ (Option Str)
  | 0 => pure (some [])
  | n + 1 => do
    let r ← portRead D
    match r with
    | .none => pure .none
    | some l => if (strip l).isEmpty then readLoop D n else pure (some (strip l))

/-- the guard as a combinator: in a blocked state return `fv` and touch nothing -/
def guardM (fv : Val) (body : M σ Val) : M σ Val := fun w =>
  if w.st.blocked then (.ok fv, w) else body w

/-- a method: optional guard (with the value returned when blocked) and body -/
structure Prog (σ : Type) where
  guard : Option Val
  body : M σ Val

def Prog.run (p : Prog σ) : M σ Val :=
  match p.guard with
  | some fv => guardM fv p.body
  | .none => p.body

namespace Msg
def cmdUnexpected (cmd resp : Str) : Str :=
  "\nUnexpected response from EBB.    Command: ".toList ++ cmd ++ "\n    Response: ".toList ++ resp
def cmdTimeout (cmd : Str) : Str := "EBB Serial Timeout after command: ".toList ++ cmd
def cmdUsb (cmd : Str) : Str := "USB communication error after command: ".toList ++ cmd
def cmdErr (cmd resp : Str) : Str :=
  "Error reported by EBB.\n    Command: ".toList ++ cmd ++ "\n    Response: ".toList ++ resp
def qryUnexpected (q resp : Str) : Str :=
  "\nUnexpected response from EBB.    Query: ".toList ++ q ++ "\n    Response: ".toList ++ resp
def qryTimeout (q : Str) : Str := "EBB Serial Timeout after query: ".toList ++ q
def qryUsb (q : Str) : Str := "USB communication error after query: ".toList ++ q
def qgUnexpected (resp : Str) : Str :=
  "\nUnexpected response from EBB.    Response to QG query: ".toList ++ resp
def qgTimeout : Str := "EBB Serial Timeout while reading status byte.".toList
def qgUsb : Str := "USB communication error after status byte query".toList
def qgErr (resp : Str) : Str :=
  "Error reported by EBB.\n    Query: QG\n    Response: ".toList ++ resp
def noDevice : Str := "Unable to locate device on USB".toList
def noNamed (n : Str) : Str := "Unable to locate ".toList ++ n ++ " on USB".toList
def usbTest (pn : Str) : Str := "Error testing USB connection (port name: ".toList ++ pn ++ ")".toList
def connectFail (pn : Str) : Str := "Failed to connect via USB (port name: ".toList ++ pn ++ ")".toList
def oldFirmware (ver minv : Str) : Str :=
  "Firmware version (".toList ++ ver ++ ") not supported.\nFirmware ".toList ++ minv ++
  " or newer is required.\nVisit https://bantam.tools/ndfw to update your firmware.".toList
end Msg

/-- `write(text + '\r')` then the bounded read loop (`1 + retry` reads at most);
`none` = some I/O call raised (`response` is then `''`) -/
def exchange (D : Device σ) (retry : Nat) (text : Str) : M σ (Option Str) := do
  let okw ← portWrite D (text ++ ['\r'])
  if okw then readLoop D (retry + 1) else pure .none

/-- what `command` records for the outcome of the exchange -/
def commandJudge (P : Params) (cmd name : Str) : Option Str → M σ Unit
  | .none =>
    -- `except (serial.SerialException, IOError, RuntimeError, OSError)`; `response == ''`
    if P.ignoreCmd.contains (lower name) then pure () else recordError (Msg.cmdUsb cmd)
  | some resp => do
    (if startsWith name resp then pure ()
     else if resp.isEmpty then recordError (Msg.cmdTimeout cmd)
     else recordError (Msg.cmdUnexpected cmd resp))
    (if hasErr resp then recordError (Msg.cmdErr cmd resp) else pure ())

/-- `return bool(self.err is None)` -/
def errIsNone : M σ Val := do
  let st ← getSt
  pure (.bool st.err.isNone)

/-- `command` on the trimmed text -/
def commandCore (P : Params) (D : Device σ) (cmd : Str) : M σ Val :=
  match cmdName cmd with
  | .error e => raise e
  | .ok name => do
    let r ← exchange D P.retryCmd cmd
    commandJudge P cmd name r
    errIsNone

/-- body of `EBB3.command` after its guard -/
def commandBody (P : Params) (D : Device σ) : Option Str → M σ Val
  | .none => pure (.bool false)
  | some cmd0 => commandCore P D (strip cmd0)

/-- `EBB3.command` -/
def commandP (P : Params) (D : Device σ) (cmd : Option Str) : Prog σ :=
  ⟨some (.bool false), commandBody P D cmd⟩

/-- remove one leading comma, if there is one -/
def dropComma : Str → Str
  | c :: rest => if c = ',' then rest else c :: rest
  | [] => []

/-- strip the name and one separating comma off an accepted reply -/
def stripHeader (name resp : Str) : Str :=
  match resp.drop name.length with
  | c :: rest => if c = ',' then rest else c :: rest
  | [] => []

/-- validation of the (possibly empty) response of a query -/
def queryJudge (q name resp : Str) : M σ Val :=
  if hasErr resp || !(startsWith name resp) then do
    (if resp.isEmpty then recordError (Msg.qryTimeout q) else recordError (Msg.qryUnexpected q resp))
    pure .none
  else pure (.str (stripHeader name resp))

/-- `query` on the trimmed text -/
def queryCore (P : Params) (D : Device σ) (q : Str) : M σ Val :=
  match cmdName q with
  | .error e => raise e
  | .ok name => do
    let r ← exchange D P.retryQry q
    match r with
    | some resp => queryJudge q name resp
    | .none =>
      -- an ignored exception falls through with `response == ''`
      if P.ignoreQry.contains (lower name) then queryJudge q name []
      else do
        recordError (Msg.qryUsb q)
        pure .none

/-- body of `EBB3.query` after its guard; returns `none` or `str` -/
def queryBody (P : Params) (D : Device σ) : Option Str → M σ Val
  | .none => pure .none
  | some q0 => queryCore P D (strip q0)

/-- `EBB3.query` -/
def queryP (P : Params) (D : Device σ) (qry : Option Str) : Prog σ :=
  ⟨some .none, queryBody P D qry⟩

/-- validation of the reply to `QG` (with repair `c05_statusbyte_wrong_reply`: a reply that does not
begin with `QG` is a failure and `None` is returned) -/
def qgJudge (resp : Str) : M σ Val :=
  if !(startsWith "QG".toList resp) then do
    (if resp.isEmpty then recordError Msg.qgTimeout else recordError (Msg.qgUnexpected resp))
    pure .none
  else if hasErr resp then do
    recordError (Msg.qgErr resp)
    pure .none
  else match pyInt 16 (resp.drop 3) with
    | some v => pure (.int v)
    | .none => pure .none          -- `except (TypeError, ValueError): return None`

def qgUsbFail : M σ Val := do
  recordError Msg.qgUsb
  pure .none

/-- body of `EBB3.query_statusbyte` (one read, no retry) -/
def queryStatusByteBody (D : Device σ) : M σ Val := do
  let okw ← portWrite D "QG\r".toList
  if okw then do
    let r ← portRead D
    match r with
    | .none => qgUsbFail
    | some l => qgJudge (strip l)
  else qgUsbFail

def queryStatusByteP (D : Device σ) : Prog σ := ⟨some .none, queryStatusByteBody D⟩

/-- body of `reboot` / `bootload`: raw write, close on success, I/O error ⇒ `False` (not recorded) -/
def rawCloseBody (D : Device σ) (text : Str) : M σ Val := do
  let okw ← portWrite D text
  if okw then do
    disconnectM
    pure (.bool true)
  else pure (.bool false)

def rebootP (D : Device σ) : Prog σ := ⟨some (.bool false), rawCloseBody D "RB\r".toList⟩
def bootloadP (D : Device σ) : Prog σ := ⟨some (.bool false), rawCloseBody D "BL\r".toList⟩

/-! ## 7. Methods of `EBB3` -/

def setName (n : Str) : M σ Unit := modifySt (fun st => { st with name := some n })

/-- `query_nickname` -/
def queryNicknameP (P : Params) (D : Device σ) : Prog σ :=
  ⟨some .none, do
    let r ← (queryP P D (some "QT".toList)).run
    match r with
    | .str raw => do
      (if isSpaceStr raw then pure () else setName (strip raw))
      pure .none
    | _ => pure .none⟩

/-- `write_nickname` (with repair `c05_write_nickname_result`: the result of `command` decides) -/
def writeNicknameP (P : Params) (D : Device σ) (nick : Option Str) : Prog σ :=
  ⟨some (.bool false),
    match nick with
    | .none => pure (.bool false)
    | some n0 => do
      let r ← (commandP P D (some ("ST,".toList ++ strip n0))).run
      match r with
      | .bool true => do
        setName (strip n0)
        pure (.bool true)
      | _ => pure (.bool false)⟩

/-- `var_write` -/
def varWriteP (P : Params) (D : Device σ) (value index : Int) : Prog σ :=
  ⟨some (.bool false), do
    let _ ← (commandP P D (some ("SL,".toList ++ showInt value ++ [','] ++ showInt index))).run
    errIsNone⟩

/-- `int(value)` where `value` is what `query` returned -/
def intOfVal : Val → M σ Val
  | .str s => match pyInt 10 s with
    | some z => pure (.int z)
    | .none => raise .valueError
  | .int z => pure (.int z)
  | .bool b => pure (.int (if b then 1 else 0))
  | _ => raise .typeError

/-- `var_read` -/
def varReadP (P : Params) (D : Device σ) (index : Int) : Prog σ :=
  ⟨some .none, do
    let v ← (queryP P D (some ("QL,".toList ++ showInt index))).run
    let st ← getSt
    if st.err.isSome then pure .none else intOfVal v⟩

/-- `value.to_bytes(4, byteorder='big', signed=True)` -/
def toBytes4 (v : Int) : Except PyExc (Int × Int × Int × Int) :=
  if -2147483648 ≤ v ∧ v < 2147483648 then
    .ok ((v % 4294967296) / 16777216, ((v % 4294967296) / 65536) % 256,
         ((v % 4294967296) / 256) % 256, (v % 4294967296) % 256)
  else .error .overflowError

/-- `int.from_bytes(list, byteorder='big', signed=True)` for a list of four values -/
def fromBytes4 (a b c d : Val) : Except PyExc Int :=
  match a, b, c, d with
  | .int a, .int b, .int c, .int d =>
    if (0 ≤ a ∧ a < 256) ∧ (0 ≤ b ∧ b < 256) ∧ (0 ≤ c ∧ c < 256) ∧ (0 ≤ d ∧ d < 256) then
      .ok (if a * 16777216 + b * 65536 + c * 256 + d < 2147483648
           then a * 16777216 + b * 65536 + c * 256 + d
           else a * 16777216 + b * 65536 + c * 256 + d - 4294967296)
    else .error .valueError
  | _, _, _, _ => .error .typeError

/-- `var_write_int32` -/
def varWriteInt32P (P : Params) (D : Device σ) (value start : Int) : Prog σ :=
  ⟨some (.bool false),
    match toBytes4 value with
    | .error e => raise e
    | .ok (b3, b2, b1, b0) => do
      let _ ← (varWriteP P D b3 start).run
      let _ ← (varWriteP P D b2 (start + 1)).run
      let _ ← (varWriteP P D b1 (start + 2)).run
      let _ ← (varWriteP P D b0 (start + 3)).run
      errIsNone⟩

/-- `var_read_int32` (blocked value is `False`, as in the code) -/
def varReadInt32P (P : Params) (D : Device σ) (start : Int) : Prog σ :=
  ⟨some (.bool false), do
    let a ← (varReadP P D start).run
    let b ← (varReadP P D (start + 1)).run
    let c ← (varReadP P D (start + 2)).run
    let d ← (varReadP P D (start + 3)).run
    let st ← getSt
    if st.err.isSome then pure .none
    else match fromBytes4 a b c d with
      | .ok z => pure (.int z)
      | .error e => raise e⟩

/-- `record_error` (public, never touches the port) -/
def recordErrorP (msg : Str) : Prog σ := ⟨.none, do recordError msg; pure .none⟩

/-- `disconnect` -/
def disconnectP : Prog σ := ⟨.none, do disconnectM; pure .none⟩

/-- `find_first`: `found` is what the scan of `comports()` yields (C19 models the scan itself) -/
def findFirstP (found : Option Str) : Prog σ :=
  ⟨.none, do modifySt (fun st => { st with portName := found }); pure .none⟩

/-- `self.version = v; self.version_parsed = parse(v)` -/
def setVersion (v : Str) : M σ Unit := do
  modifySt (fun st => { st with version := some v })
  match parseRelease v with
  | some r => modifySt (fun st => { st with versionParsed := some r })
  | .none => raise .invalidVersion

/-- `parse_version` -/
def parseVersionM (s : Str) : M σ Unit :=
  match splitSub1 "Firmware Version ".toList s with
  | .none => pure ()
  | some ab => setVersion (strip ab.2)

def parseVersionP (s : Str) : Prog σ := ⟨.none, do parseVersionM s; pure .none⟩

/-- `min_version`: `None` for an unparsable argument, `TypeError` when no version is known -/
def minVersionM (vs : Str) : M σ Val :=
  match parseRelease vs with
  | .none => pure .none
  | some want => do
    let st ← getSt
    match st.versionParsed with
    | .none => raise .typeError
    | some have_ => pure (.bool (vle want have_))

def minVersionP (vs : Str) : Prog σ := ⟨.none, minVersionM vs⟩

/-- one identification probe of `connect`: `none` = I/O raised, `some s` = stripped reply -/
def probe (D : Device σ) : M σ (Option Str) := do
  let okw ← portWrite D "v\r".toList
  if okw then do
    let r ← portRead D
    match r with
    | some l => pure (some (strip l))
    | .none => pure .none
  else pure .none

def isEbbReply (s : Str) : Bool := !s.isEmpty && hasSub "EBB".toList s

/-- `_get_port_name`: `found` = result of `find_first` / `find_named(given)` -/
def getPortName (given found : Option Str) : M σ Unit := do
  modifySt (fun st => { st with portName := found })
  if found.isNone then
    recordError (match given with | .none => Msg.noDevice | some g => Msg.noNamed g)
  else pure ()

/-- the `except serial.SerialException` arm of `connect` -/
def probeFail (pn : Str) : M σ (Option Str) := do
  recordError (Msg.usbTest pn)
  disconnectM
  pure .none

/-- the `try` block of `connect`: open, reset, one or two probes; `some s` = verified reply -/
def identify (D : Device σ) (pn : Str) (openOk : Bool) : M σ (Option Str) :=
  if openOk then do
    modifySt (fun st => { st with port := true })
    portReset D
    let p1 ← probe D
    match p1 with
    | .none => probeFail pn
    | some s1 =>
      if isEbbReply s1 then pure (some s1)
      else do
        let p2 ← probe D
        match p2 with
        | .none => probeFail pn
        | some s2 => if isEbbReply s2 then pure (some s2) else pure .none
  else probeFail pn

def setCaller (caller : Option Str) : M σ Unit :=
  if caller.isSome then modifySt (fun st => { st with caller := caller }) else pure ()

/-- tail of `connect`: future-syntax mode (not inside a `try`: a `SerialException` escapes),
nickname, caller -/
def enterFuture (P : Params) (D : Device σ) (caller : Option Str) : M σ Val := do
  let okw ← portWrite D "CU,10,1\r".toList
  if okw then do
    let r ← portRead D
    match r with
    | .none => raise .serialException
    | some _ => do
      portReset D
      let _ ← (queryNicknameP P D).run
      setCaller caller
      pure (.bool true)
  else raise .serialException

/-- version check of `connect` -/
def checkVersion (P : Params) (D : Device σ) (caller : Option Str) (sv : Str) : M σ Val := do
  parseVersionM sv
  let mv ← minVersionM P.minVersion
  if mv = .bool true then enterFuture P D caller
  else do
    let st ← getSt
    recordError (Msg.oldFirmware (st.version.getD "None".toList) P.minVersion)
    pure (.bool false)

def connectFailed (pn : Str) : M σ Val := do
  recordError (Msg.connectFail pn)
  disconnectM
  pure (.bool false)

/-- `connect(given_name, caller)`.  Environment of the call, supplied as extra arguments:
`found` = result of the port search (`find_first` / `find_named(given_name)`), `openOk` = whether
`serial.Serial(...)` opens. -/
def connectBody (P : Params) (D : Device σ) (given caller found : Option Str) (openOk : Bool) : M σ Val := do
  let st ← getSt
  if st.port then pure (.bool true)
  else do
    getPortName given found
    match found with
    | .none => pure (.bool false)
    | some pn => do
      let v ← identify D pn openOk
      match v with
      | .none => connectFailed pn
      | some sv => checkVersion P D caller sv

def connectP (P : Params) (D : Device σ) (given caller found : Option Str) (openOk : Bool) : Prog σ :=
  ⟨.none, connectBody P D given caller found openOk⟩

/-! ## 7b. Methods of `EBBMotionWrap` -/

/-- `self.command(text)` with the result dropped -/
def cmd_ (P : Params) (D : Device σ) (text : Str) : M σ Unit := do
  let _ ← (commandP P D (some text)).run
  pure ()

/-- a method whose body is one `command` with a computed text (guard, then `self.command(text)`) -/
def cmdP (P : Params) (D : Device σ) (text : Str) : Prog σ :=
  ⟨some .none, do cmd_ P D text; pure .none⟩

def commaInts (l : List Int) : Str :=
  match l with
  | [] => []
  | [a] => showInt a
  | a :: rest => showInt a ++ [','] ++ commaInts rest

/-- the durations of the `SM,<d>,0,0` commands of `timed_pause` (fuel = number of iterations) -/
def pauseChunks (P : Params) : Nat → Int → List Int
  | 0, _ => []
  | fuel + 1, t =>
    if t > 0 then
      (if t > P.pauseCmp then P.pauseChunk else max t 1) ::
        pauseChunks P fuel (t - (if t > P.pauseCmp then P.pauseChunk else max t 1))
    else []

def runCmds (P : Params) (D : Device σ) : List Str → M σ Unit
  | [] => pure ()
  | c :: cs => do cmd_ P D c; runCmds P D cs

def pauseText (d : Int) : Str := "SM,".toList ++ showInt d ++ ",0,0".toList

/-- `timed_pause`.  Fuel `|t| + 1` is enough whenever `pauseChunk ≥ 1` (each round subtracts ≥ 1). -/
def timedPauseP (P : Params) (D : Device σ) (t : Int) : Prog σ :=
  ⟨some .none, do
    runCmds P D ((pauseChunks P (t.toNat + 1) t).map pauseText)
    pure .none⟩

def xyMoveP (P : Params) (D : Device σ) (dx dy dur : Int) : Prog σ :=
  cmdP P D ("SM,".toList ++ commaInts [dur, dy, dx])

def absMoveText (rate : Int) : Option Int → Option Int → Str
  | some a, some b => "HM,".toList ++ commaInts [rate, a, b]
  | _, _ => "HM,".toList ++ showInt rate

def absMoveP (P : Params) (D : Device σ) (rate : Int) (p1 p2 : Option Int) : Prog σ :=
  cmdP P D (absMoveText rate p1 p2)

def motorsDisableP (P : Params) (D : Device σ) : Prog σ := cmdP P D "EM,0,0".toList

/-- decode table of `motors_query_enabled` (`KeyError` outside it) -/
def resMap (z : Int) : Option Int :=
  if z = 16 then some 1 else if z = 8 then some 2 else if z = 4 then some 3
  else if z = 2 then some 4 else if z = 1 then some 5 else if z = 0 then some 0
  else Option.none

/-- `res_map[int(l[0])], res_map[int(l[1])]` (evaluated left to right) -/
def qeDecode (l : List Str) : M σ Val := do
  let a ← ofOption .valueError (pyInt 10 (l.getD 0 []))      -- `split` never returns `[]`
  let ra ← ofOption .keyError (resMap a)
  match l with
  | _ :: s1 :: _ => do
    let b ← ofOption .valueError (pyInt 10 s1)
    let rb ← ofOption .keyError (resMap b)
    pure (.pair (.int ra) (.int rb))
  | _ => raise .indexError

/-- `motors_query_enabled` -/
def motorsQueryEnabledP (P : Params) (D : Device σ) : Prog σ :=
  ⟨some .none, do
    let r ← (queryP P D (some "QE".toList)).run
    match r with
    | .str resp => qeDecode (splitOn ',' resp)
    | _ => pure .none⟩

def clampRes (r : Int) : Int := min (max r 0) 5

def emText (x y : Int) : Str := "EM,".toList ++ commaInts [x, y]

/-- resolution in use according to `motors_query_enabled` -/
def oldRes (m0 m1 : Int) : Int := if m0 ≠ 0 then m0 else if m1 ≠ 0 then m1 else 0

/-- `motors_enable` after clamping -/
def motorsEnableCore (P : Params) (D : Device σ) (a b : Int) : M σ Val := do
  (if a ≠ b ∧ a * b = 0 then cmd_ P D "CU,50,0".toList else pure ())
  if a = 0 ∧ b ≠ 0 then do
    let mr ← (motorsQueryEnabledP P D).run
    match mr with
    | .pair (.int m0) (.int m1) => do
      (if oldRes m0 m1 ≠ b then cmd_ P D (emText b b) else pure ())
      cmd_ P D (emText a b)
      pure .none
    | _ => pure .none      -- `if motor_res is None: return`
  else do
    cmd_ P D (emText a b)
    pure .none

def motorsEnableP (P : Params) (D : Device σ) (r1 r2 : Int) : Prog σ :=
  ⟨some .none, motorsEnableCore P D (clampRes r1) (clampRes r2)⟩

/-- `int(l[0]), int(l[1])` -/
def int2 (l : List Str) : M σ Val := do
  let a ← ofOption .valueError (pyInt 10 (l.getD 0 []))
  match l with
  | _ :: s1 :: _ => do
    let b ← ofOption .valueError (pyInt 10 s1)
    pure (.pair (.int a) (.int b))
  | _ => raise .indexError

/-- `if self.err:` — an empty error string counts as no error there -/
def errTruthy (st : St) : Bool :=
  match st.err with
  | some e => !e.isEmpty
  | .none => false

/-- `query_steps` -/
def queryStepsP (P : Params) (D : Device σ) : Prog σ :=
  ⟨some .none, do
    let r ← (queryP P D (some "QS".toList)).run
    let st ← getSt
    if errTruthy st then pure .none
    else match r with
      | .str s => int2 (splitOn ',' (strip s))
      | _ => raise .attributeError⟩      -- `None.strip()`

def clearStepsP (P : Params) (D : Device σ) : Prog σ := cmdP P D "CS".toList
def clearAccumulatorsP (P : Params) (D : Device σ) : Prog σ := cmdP P D "T3,1,0,0,0,0,0,0,3".toList

/-- `if pin is not None:` — a supplied pin (0 included) is sent -/
def penText (updown delay : Int) : Option Int → Str
  | some p => "SP,".toList ++ commaInts [updown, delay, p]
  | .none => "SP,".toList ++ commaInts [updown, delay]

def penLowerP (P : Params) (D : Device σ) (delay : Int) (pin : Option Int) : Prog σ :=
  cmdP P D (penText 0 delay pin)
def penRaiseP (P : Params) (D : Device σ) (delay : Int) (pin : Option Int) : Prog σ :=
  cmdP P D (penText 1 delay pin)

def dioBConfigP (P : Params) (D : Device σ) (pin state dir : Int) : Prog σ :=
  ⟨some .none, do
    cmd_ P D ("PO,B,".toList ++ commaInts [pin, state])
    cmd_ P D ("PD,B,".toList ++ commaInts [pin, dir])
    pure .none⟩

def dioBSetP (P : Params) (D : Device σ) (pin state : Int) : Prog σ :=
  cmdP P D ("PO,B,".toList ++ commaInts [pin, state])

/-- `bool(int(response))` -/
def boolOfStr (s : Str) : M σ Val :=
  match pyInt 10 s with
  | some z => pure (.bool (z ≠ 0))
  | .none => raise .valueError

/-- `dio_b_read` -/
def dioBReadP (P : Params) (D : Device σ) (pin : Int) : Prog σ :=
  ⟨some .none, do
    let r ← (queryP P D (some ("PI,B,".toList ++ showInt pin))).run
    match r with
    | .str s => boolOfStr s
    | _ => pure .none⟩

def penPosDownP (P : Params) (D : Device σ) (v : Int) : Prog σ := cmdP P D ("SC,5,".toList ++ showInt v)
def penPosUpP (P : Params) (D : Device σ) (v : Int) : Prog σ := cmdP P D ("SC,4,".toList ++ showInt v)
def penRateDownP (P : Params) (D : Device σ) (v : Int) : Prog σ := cmdP P D ("SC,12,".toList ++ showInt v)
def penRateUpP (P : Params) (D : Device σ) (v : Int) : Prog σ := cmdP P D ("SC,11,".toList ++ showInt v)

def servoText (ms : Int) : Option Int → Str
  | .none => "SR,".toList ++ showInt ms
  | some s => "SR,".toList ++ commaInts [ms, s]

def servoTimeoutP (P : Params) (D : Device σ) (ms : Int) (state : Option Int) : Prog σ :=
  cmdP P D (servoText ms state)

/-- decode of `query_voltage` on `response.split(",", 1)` -/
def voltageDecode (th : Int) : Str × Option Str → M σ Val
  | (_, some s1) => match pyInt 10 s1 with
    | some v => pure (.bool (!(v < th)))
    | .none => raise .valueError
  | (_, .none) => pure .none

/-- `query_voltage(threshold=None)` (with repair `c05_query_voltage_none`: a failed query returns
`None` instead of dereferencing it) -/
def queryVoltageP (P : Params) (D : Device σ) (threshold : Option Int) : Prog σ :=
  ⟨some .none, do
    let r ← (queryP P D (some "QC".toList)).run
    match r with
    | .str s => voltageDecode (threshold.getD P.vThreshold) (split1 ',' s)
    | _ => pure .none⟩

/-- decode of `query_current` on `response.split(",", 1)` -/
def currentDecode : Str × Option Str → M σ Val
  | (s0, some s1) => do
    let a ← ofOption .valueError (pyInt 10 s0)
    let b ← ofOption .valueError (pyInt 10 s1)
    pure (.pair (.int a) (.int b))
  | (_, .none) => pure (.pair .none .none)

/-- `query_current` (with repair `c05_query_current_none`) -/
def queryCurrentP (P : Params) (D : Device σ) : Prog σ :=
  ⟨some (.pair .none .none), do
    let r ← (queryP P D (some "QC".toList)).run
    match r with
    | .str s => currentDecode (split1 ',' s)
    | _ => pure (.pair .none .none)⟩

/-! ## 8. The table -/

/-- the public methods of `EBB3` (17) and `EBBMotionWrap` (21), by their Python names -/
inductive Method where
  | find_first | reboot | bootload | record_error | parse_version | query_nickname
  | write_nickname | disconnect | connect | min_version | command | query | query_statusbyte
  | var_write | var_read | var_write_int32 | var_read_int32
  | timed_pause | xy_move | abs_move | motors_disable | motors_enable | motors_query_enabled
  | query_steps | clear_steps | clear_accumulators | pen_lower | pen_raise | dio_b_config
  | dio_b_set | dio_b_read | pen_pos_down | pen_pos_up | pen_rate_down | pen_rate_up
  | servo_timeout | query_voltage | query_current
  deriving DecidableEq, Repr

open Method in
def Method.all : List Method :=
  [find_first, reboot, bootload, record_error, parse_version, query_nickname,
   write_nickname, disconnect, connect, min_version, command, query, query_statusbyte,
   var_write, var_read, var_write_int32, var_read_int32,
   timed_pause, xy_move, abs_move, motors_disable, motors_enable, motors_query_enabled,
   query_steps, clear_steps, clear_accumulators, pen_lower, pen_raise, dio_b_config,
   dio_b_set, dio_b_read, pen_pos_down, pen_pos_up, pen_rate_down, pen_rate_up,
   servo_timeout, query_voltage, query_current]

/-- methods that never reach `port.write` / `readline` -/
def Method.isHelper : Method → Bool
  | .find_first | .record_error | .parse_version | .min_version => true
  | _ => false

/-- the 32 *request* methods: everything except the helpers and `connect` / `disconnect` -/
def Method.isRequest (m : Method) : Bool :=
  !m.isHelper && m != .connect && m != .disconnect

/-- THE GUARD TABLE: `some v` iff the Python method starts with
`if (self.port is None) or (self.err is not None): return v`. -/
def guardOf : Method → Option Val
  | .find_first | .record_error | .parse_version | .min_version | .connect | .disconnect => .none
  | .reboot | .bootload | .write_nickname | .command | .var_write | .var_write_int32
  | .var_read_int32 => some (.bool false)
  | .query_current => some (.pair .none .none)
  | _ => some .none

/-- a public method together with its arguments -/
inductive Call where
  | find_first (found : Option Str)
  | reboot | bootload
  | record_error (msg : Str)
  | parse_version (s : Str)
  | query_nickname
  | write_nickname (nick : Option Str)
  | disconnect
  | connect (given caller found : Option Str) (openOk : Bool)
  | min_version (vs : Str)
  | command (cmd : Option Str)
  | query (qry : Option Str)
  | query_statusbyte
  | var_write (value index : Int)
  | var_read (index : Int)
  | var_write_int32 (value start : Int)
  | var_read_int32 (start : Int)
  | timed_pause (t : Int)
  | xy_move (dx dy dur : Int)
  | abs_move (rate : Int) (p1 p2 : Option Int)
  | motors_disable
  | motors_enable (r1 r2 : Int)
  | motors_query_enabled
  | query_steps | clear_steps | clear_accumulators
  | pen_lower (delay : Int) (pin : Option Int)
  | pen_raise (delay : Int) (pin : Option Int)
  | dio_b_config (pin state dir : Int)
  | dio_b_set (pin state : Int)
  | dio_b_read (pin : Int)
  | pen_pos_down (v : Int) | pen_pos_up (v : Int) | pen_rate_down (v : Int) | pen_rate_up (v : Int)
  | servo_timeout (ms : Int) (state : Option Int)
  | query_voltage (threshold : Option Int)
  | query_current
  deriving DecidableEq, Repr

def Call.method : Call → Method
  | .find_first _ => .find_first | .reboot => .reboot | .bootload => .bootload
  | .record_error _ => .record_error | .parse_version _ => .parse_version
  | .query_nickname => .query_nickname | .write_nickname _ => .write_nickname
  | .disconnect => .disconnect | .connect .. => .connect | .min_version _ => .min_version
  | .command _ => .command | .query _ => .query | .query_statusbyte => .query_statusbyte
  | .var_write .. => .var_write | .var_read _ => .var_read
  | .var_write_int32 .. => .var_write_int32 | .var_read_int32 _ => .var_read_int32
  | .timed_pause _ => .timed_pause | .xy_move .. => .xy_move | .abs_move .. => .abs_move
  | .motors_disable => .motors_disable | .motors_enable .. => .motors_enable
  | .motors_query_enabled => .motors_query_enabled | .query_steps => .query_steps
  | .clear_steps => .clear_steps | .clear_accumulators => .clear_accumulators
  | .pen_lower .. => .pen_lower | .pen_raise .. => .pen_raise
  | .dio_b_config .. => .dio_b_config | .dio_b_set .. => .dio_b_set | .dio_b_read _ => .dio_b_read
  | .pen_pos_down _ => .pen_pos_down | .pen_pos_up _ => .pen_pos_up
  | .pen_rate_down _ => .pen_rate_down | .pen_rate_up _ => .pen_rate_up
  | .servo_timeout .. => .servo_timeout | .query_voltage _ => .query_voltage
  | .query_current => .query_current

/-- the program of each call -/
def prog (P : Params) (D : Device σ) : Call → Prog σ
  | .find_first f => findFirstP f
  | .reboot => rebootP D
  | .bootload => bootloadP D
  | .record_error m => recordErrorP m
  | .parse_version s => parseVersionP s
  | .query_nickname => queryNicknameP P D
  | .write_nickname n => writeNicknameP P D n
  | .disconnect => disconnectP
  | .connect g c f o => connectP P D g c f o
  | .min_version v => minVersionP v
  | .command c => commandP P D c
  | .query q => queryP P D q
  | .query_statusbyte => queryStatusByteP D
  | .var_write v i => varWriteP P D v i
  | .var_read i => varReadP P D i
  | .var_write_int32 v i => varWriteInt32P P D v i
  | .var_read_int32 i => varReadInt32P P D i
  | .timed_pause t => timedPauseP P D t
  | .xy_move dx dy dur => xyMoveP P D dx dy dur
  | .abs_move r a b => absMoveP P D r a b
  | .motors_disable => motorsDisableP P D
  | .motors_enable a b => motorsEnableP P D a b
  | .motors_query_enabled => motorsQueryEnabledP P D
  | .query_steps => queryStepsP P D
  | .clear_steps => clearStepsP P D
  | .clear_accumulators => clearAccumulatorsP P D
  | .pen_lower d p => penLowerP P D d p
  | .pen_raise d p => penRaiseP P D d p
  | .dio_b_config p s d => dioBConfigP P D p s d
  | .dio_b_set p s => dioBSetP P D p s
  | .dio_b_read p => dioBReadP P D p
  | .pen_pos_down v => penPosDownP P D v
  | .pen_pos_up v => penPosUpP P D v
  | .pen_rate_down v => penRateDownP P D v
  | .pen_rate_up v => penRateUpP P D v
  | .servo_timeout m s => servoTimeoutP P D m s
  | .query_voltage t => queryVoltageP P D t
  | .query_current => queryCurrentP P D

/-- run one call -/
def run (P : Params) (D : Device σ) (c : Call) : M σ Val := (prog P D c).run

/-- what one call did, as the harness observes it -/
structure Outcome (σ : Type) where
  /-- returned value or escaped exception -/
  res : Except PyExc Val
  /-- texts handed to `port.write` during this call -/
  written : List Str
  /-- number of `readline` calls during this call -/
  reads : Nat
  /-- world after the call -/
  world : World σ

def runCall (P : Params) (D : Device σ) (c : Call) (w : World σ) : Outcome σ :=
  let r := run P D c w
  ⟨r.1, r.2.out.drop w.out.length, r.2.nreads - w.nreads, r.2⟩

/-- a history: the calls in order, each starting in the world the previous one left
(also after an exception) -/
def runCalls (P : Params) (D : Device σ) : List Call → World σ → List (Outcome σ)
  | [], _ => []
  | c :: cs, w => let o := runCall P D c w; o :: runCalls P D cs o.world

/-- world after a history -/
def finalWorld (P : Params) (D : Device σ) : List Call → World σ → World σ
  | [], w => w
  | c :: cs, w => finalWorld P D cs (run P D c w).2

/-! ## 9. Specification of one request/reply exchange (independent of the loop in `readLoop`)

Written with list combinators over the read outcomes that follow a successful write:
the *window* is the first `n = 1 + retry` outcomes, the *reply* is the first outcome in the window
that is not a blank line. -/

namespace Spec

/-- a read that returns nothing but whitespace (a timeout is the empty line) -/
def isBlank : ReadEv → Bool
  | .line s => (strip s).isEmpty
  | .raise => false

/-- what a request sees -/
inductive Reply where
  | text (t : Str)     -- first non-blank line in the window, stripped
  | timeout            -- the whole window is blank (an exhausted script is silent)
  | ioError            -- a read raised before any non-blank line
  deriving DecidableEq, Repr

/-- a non-blank outcome as a reply -/
def replyOfEv : ReadEv → Reply
  | .line s => .text (strip s)
  | .raise => .ioError

def firstReply (n : Nat) (reads : List ReadEv) : Reply :=
  match ((reads.take n).dropWhile isBlank).head? with
  | Option.none => .timeout
  | some ev => replyOfEv ev

/-- number of `readline` calls: the blank prefix of the window plus the reply, or the whole
window (`n` calls, also beyond the end of the script) when there is no reply -/
def readsUsed (n : Nat) (reads : List ReadEv) : Nat :=
  if ((reads.take n).takeWhile isBlank).length < (reads.take n).length
  then ((reads.take n).takeWhile isBlank).length + 1 else n

/-- a reply is accepted when it begins with the request's name and carries no `Err:` -/
def accepted (name : Str) : Reply → Bool
  | .text t => startsWith name t && !hasErr t
  | _ => false

/-- the error `command` records (`none` = success), given the outcome of the write and the reads -/
def commandError (P : Params) (cmd name : Str) (wo : WriteEv) (reads : List ReadEv) : Option Str :=
  let usb := if P.ignoreCmd.contains (lower name) then Option.none else some (Msg.cmdUsb cmd)
  match wo with
  | .raise => usb
  | .ok =>
    match firstReply (P.retryCmd + 1) reads with
    | .ioError => usb
    | .timeout => some (Msg.cmdTimeout cmd)
    | .text t =>
      if !startsWith name t then some (Msg.cmdUnexpected cmd t)
      else if hasErr t then some (Msg.cmdErr cmd t)
      else Option.none

/-- the error `query` records (`none` = success) -/
def queryError (P : Params) (q name : Str) (wo : WriteEv) (reads : List ReadEv) : Option Str :=
  let usb := if P.ignoreQry.contains (lower name) then some (Msg.qryTimeout q) else some (Msg.qryUsb q)
  match wo with
  | .raise => usb
  | .ok =>
    match firstReply (P.retryQry + 1) reads with
    | .ioError => usb
    | .timeout => some (Msg.qryTimeout q)
    | .text t =>
      if hasErr t || !startsWith name t then some (Msg.qryUnexpected q t) else Option.none

/-- the value `query` returns: the accepted reply without its header, else `None` -/
def queryValue (P : Params) (q name : Str) (wo : WriteEv) (reads : List ReadEv) : Val :=
  match queryError P q name wo reads, firstReply (P.retryQry + 1) reads with
  | Option.none, .text t => .str (stripHeader name t)
  | _, _ => .none

/-- first write outcome of a script -/
def firstWrite (sc : Script) : WriteEv := sc.writes.head?.getD .ok

end Spec

end Ebb3
end Plotink
